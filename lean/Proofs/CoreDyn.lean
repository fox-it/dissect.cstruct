/-
  Round trip for DYNAMICALLY sized types (property C01 beyond fragments S and SB): "fragment D" = fragment SB plus LEB128
  scalars, `wchar`, null-terminated arrays `x[]`, expression-length arrays `x[expr]` and structures containing such
  members anywhere (`Proofs/Spec/CoreDyn.lean`: `Ty.fragD`, typing relation `Core.HasTyD` relative to the reader's
  context). After the first dynamic member the layout offsets are `none`; writer and reader continue at the current
  position: the invariant is "writer position = reader position, = layout offset as long as there is one"
  (`Proofs/Lemmas/CoreDynLoop.lean`).
  A nested structure is parsed with a FRESH context (`StructureMetaType._read` starts from an empty `result`), so the typing
  rule for `.struct` types the fields from `[]` whatever the outer context is: a length expression cannot refer to a field
  of an enclosing structure.
  Out of the fragment: `x[EOF]` (known finding: an aligned structure ending in one), unions, null-terminated arrays of
  structures, floats as null-terminated elements.
  All theorems are read off `Lemmas.dyn_ty`, one statement for either mode and both directions (`Lemmas.DynWr`): a value can
  be written provided every structure met on the way has a layout (`Lemmas.LaidOut`: weaker than `defErr = none`, and true
  without bit-fields), and whatever is written has the static size of the type, if any, and parses back.
-/
import Proofs.Spec.CoreDyn
import Proofs.Lemmas.CoreDynModes
import Proofs.Lemmas.CoreDynEx

namespace Cstruct.Core
open Cstruct

theorem dumps_of_dynWr {cfg : Cfg} {al : Bool} {ty : Ty} {ctx : Ctx} {v : Val} (h : Lemmas.DynWr cfg al ty ctx v 0)
    (hL : Lemmas.LaidOut cfg ty) :
    ∃ bs, dumps cfg ty v = .ok bs ∧ ∀ post, read cfg ty ctx (bs ++ post) 0 = .ok (v, bs.length) := by
  obtain ⟨bs, hw⟩ := h.1 hL
  refine ⟨bs, hw, fun post => ?_⟩
  simpa using (h.2 bs hw).2.2 _ (.mid (pre := []) (post := post) rfl)

theorem dynWr_packed (cfg : Cfg) (ty : Ty) (hS : ty.fragD cfg = true) (hu : ty.uniformAlign false = true) (ctx : Ctx)
    (v : Val) (hv : HasTyD cfg ctx v ty) (pos : Nat) : Lemmas.DynWr cfg false ty ctx v pos :=
  Lemmas.dyn_ty cfg false ty ⟨hS, hu, nofun, nofun⟩ ctx v hv pos nofun

theorem dynWr_aligned (cfg : Cfg) (ty : Ty) (hS : ty.fragD cfg = true) (hu : ty.uniformAlign true = true)
    (hp : ty.pow2Aligned cfg) (hn : ty.bitsNatural cfg = true) (ctx : Ctx) (v : Val) (hv : HasTyD cfg ctx v ty)
    (pos : Nat) (hal : Lemmas.sAlign cfg ty ∣ pos) : Lemmas.DynWr cfg true ty ctx v pos :=
  Lemmas.dyn_ty cfg true ty ⟨hS, hu, fun _ => hp, fun _ => hn⟩ ctx v hv pos (fun _ => hal)

/-- **Round trip (fragment D, packed).** Writing a value `v` of a type of fragment D at absolute position `pos` and parsing
    the result — embedded after any `pre` of that length and before any `post` — in the context `ctx` in which `v` is a
    value of the type returns `v` and ends exactly after the written bytes. Every structure in the type is packed; every
    start position; no assumption on the layout beyond `hw` (writing succeeded). For a top-level structure the context is
    irrelevant (`HasTyD.struct` types its fields from the empty context, as the reader does). -/
theorem roundtrip_D_packed (cfg : Cfg) (ty : Ty) (hS : ty.fragD cfg = true) (hu : ty.uniformAlign false = true)
    (ctx : Ctx) (v : Val) (hv : HasTyD cfg ctx v ty) (pos : Nat) (bs : Bytes) (hw : write cfg ty v pos = .ok bs)
    (pre post : Bytes) (hpre : pre.length = pos) :
    read cfg ty ctx (pre ++ bs ++ post) pos = .ok (v, pos + bs.length) :=
  ((dynWr_packed cfg ty hS hu ctx v hv pos).2 bs hw).2.2 _ (.mid hpre)

/-- the number of bytes written for a value of a type of fragment D that has a static size is that size -/
theorem write_size_D_packed (cfg : Cfg) (ty : Ty) (hS : ty.fragD cfg = true) (hu : ty.uniformAlign false = true)
    (ctx : Ctx) (v : Val) (hv : HasTyD cfg ctx v ty) (pos : Nat) (bs : Bytes) (hw : write cfg ty v pos = .ok bs)
    (k : Nat) (hk : ty.size cfg = some k) : bs.length = k :=
  ((dynWr_packed cfg ty hS hu ctx v hv pos).2 bs hw).1 k hk

/-- **Writing is total on the values of the type (fragment D, packed)**, provided the definition is accepted
    (`ty.defErr cfg = none`: the layout of every structure in the type succeeds, i.e. no bit-field straddles its storage
    unit). In particular the writer never checks the length of an `x[expr]` array against anything, and the terminator of an
    `x[]` array can always be encoded. -/
theorem write_total_D_packed (cfg : Cfg) (ty : Ty) (hS : ty.fragD cfg = true) (hu : ty.uniformAlign false = true)
    (hd : ty.defErr cfg = none) (ctx : Ctx) (v : Val) (hv : HasTyD cfg ctx v ty) (pos : Nat) :
    ∃ bs, write cfg ty v pos = .ok bs :=
  (dynWr_packed cfg ty hS hu ctx v hv pos).1 (Lemmas.laidOut_of_defErr cfg ty hd)

/-- **`dumps` then parse (fragment D, packed)**: for every value of an accepted type, `dumps` succeeds and parsing its output
    (followed by anything) returns the value and consumes exactly `len(dumps(v))` bytes. -/
theorem dumps_roundtrip_D_packed (cfg : Cfg) (ty : Ty) (hS : ty.fragD cfg = true) (hu : ty.uniformAlign false = true)
    (hd : ty.defErr cfg = none) (ctx : Ctx) (v : Val) (hv : HasTyD cfg ctx v ty) :
    ∃ bs, dumps cfg ty v = .ok bs ∧ ∀ post, read cfg ty ctx (bs ++ post) 0 = .ok (v, bs.length) :=
  dumps_of_dynWr (dynWr_packed cfg ty hS hu ctx v hv 0) (Lemmas.laidOut_of_defErr cfg ty hd)

/-! ### Aligned mode
  In aligned mode a member behind a dynamic one has no layout offset; writer and reader both pad by the ABSOLUTE position
  (`padNat pos alignment`), and the trailing padding of a structure is computed from the absolute position as well; a
  bit-field behind a dynamic member opens its unit at the padded absolute position. As in `roundtrip_S`/`roundtrip_SB`:
  one `align` flag throughout, power-of-two alignments, a start position that is a multiple of the alignments occurring
  in the type (position 0 for `dumps`), and every bit-field storage scalar has `size = alignment` (`bitsNatural`; the known
  finding for int24/int48 storage types recorded in `Proofs/CoreBits.lean` is about exactly the other case). Unlike
  `roundtrip_SB` there is no hypothesis on the definition: `hw` (writing succeeded) is enough.
  The hypothesis on the start position cannot be dropped: for the aligned
  `struct { struct { uint8 a; uint32 b; } x; uint8 y; }` written at position 1 the inner structure is padded to the absolute
  position 12 (11 bytes instead of its size 8), `y` is written there, and the reader seeks back to `start + 8 = 9`, returns
  `y = 0` and ends at position 12. `dumps` always starts at 0 and every nested structure starts at a
  multiple of its alignment (that is the invariant of the proof), so this is not a violation of C01. -/

/-- **Round trip (fragment D, aligned)**, bit-fields included. -/
theorem roundtrip_D_aligned (cfg : Cfg) (ty : Ty) (hS : ty.fragD cfg = true) (hu : ty.uniformAlign true = true)
    (hp : ty.pow2Aligned cfg) (hn : ty.bitsNatural cfg = true) (ctx : Ctx) (v : Val) (hv : HasTyD cfg ctx v ty)
    (pos : Nat) (hal : ty.alignsDivide cfg pos = true) (bs : Bytes) (hw : write cfg ty v pos = .ok bs)
    (pre post : Bytes) (hpre : pre.length = pos) :
    read cfg ty ctx (pre ++ bs ++ post) pos = .ok (v, pos + bs.length) :=
  ((dynWr_aligned cfg ty hS hu hp hn ctx v hv pos (Lemmas.sAlign_dvd_of_alignsDivide cfg pos ty hal)).2 bs hw).2.2 _ (.mid hpre)

/-- the number of bytes written in aligned mode for a value of a type of fragment D that has a static size is that size -/
theorem write_size_D_aligned (cfg : Cfg) (ty : Ty) (hS : ty.fragD cfg = true) (hu : ty.uniformAlign true = true)
    (hp : ty.pow2Aligned cfg) (hn : ty.bitsNatural cfg = true) (ctx : Ctx) (v : Val) (hv : HasTyD cfg ctx v ty)
    (pos : Nat) (hal : ty.alignsDivide cfg pos = true) (bs : Bytes) (hw : write cfg ty v pos = .ok bs)
    (k : Nat) (hk : ty.size cfg = some k) : bs.length = k :=
  ((dynWr_aligned cfg ty hS hu hp hn ctx v hv pos (Lemmas.sAlign_dvd_of_alignsDivide cfg pos ty hal)).2 bs hw).1 k hk

/-- **Writing is total on the values of the type (fragment D, aligned)**, provided the definition is accepted. -/
theorem write_total_D_aligned (cfg : Cfg) (ty : Ty) (hS : ty.fragD cfg = true) (hu : ty.uniformAlign true = true)
    (hp : ty.pow2Aligned cfg) (hn : ty.bitsNatural cfg = true) (hd : ty.defErr cfg = none) (ctx : Ctx) (v : Val)
    (hv : HasTyD cfg ctx v ty) (pos : Nat) (hal : ty.alignsDivide cfg pos = true) : ∃ bs, write cfg ty v pos = .ok bs :=
  (dynWr_aligned cfg ty hS hu hp hn ctx v hv pos (Lemmas.sAlign_dvd_of_alignsDivide cfg pos ty hal)).1
    (Lemmas.laidOut_of_defErr cfg ty hd)

/-- **`dumps` then parse (fragment D, aligned)**. -/
theorem dumps_roundtrip_D_aligned (cfg : Cfg) (ty : Ty) (hS : ty.fragD cfg = true) (hu : ty.uniformAlign true = true)
    (hp : ty.pow2Aligned cfg) (hn : ty.bitsNatural cfg = true) (hd : ty.defErr cfg = none) (ctx : Ctx) (v : Val)
    (hv : HasTyD cfg ctx v ty) :
    ∃ bs, dumps cfg ty v = .ok bs ∧ ∀ post, read cfg ty ctx (bs ++ post) 0 = .ok (v, bs.length) :=
  dumps_of_dynWr (dynWr_aligned cfg ty hS hu hp hn ctx v hv 0 (Nat.dvd_zero _)) (Lemmas.laidOut_of_defErr cfg ty hd)

/-- **Round trip (fragment D, packed or aligned)**: the two modes in the shape of `roundtrip_SB`. -/
theorem roundtrip_D (cfg : Cfg) (al : Bool) (ty : Ty) (hS : ty.fragD cfg = true) (hu : ty.uniformAlign al = true)
    (hp : ty.pow2Aligned cfg) (hn : al = true → ty.bitsNatural cfg = true) (ctx : Ctx) (v : Val)
    (hv : HasTyD cfg ctx v ty) (pos : Nat) (hal : ty.alignsDivide cfg pos = true) (bs : Bytes)
    (hw : write cfg ty v pos = .ok bs) (pre post : Bytes) (hpre : pre.length = pos) :
    read cfg ty ctx (pre ++ bs ++ post) pos = .ok (v, pos + bs.length) :=
  ((Lemmas.dyn_ty cfg al ty ⟨hS, hu, fun _ => hp, hn⟩ ctx v hv pos
    (fun _ => Lemmas.sAlign_dvd_of_alignsDivide cfg pos ty hal)).2 bs hw).2.2 _ (.mid hpre)

/-- **Round trip (fragment D without bit-fields, aligned).** -/
theorem roundtrip_D_aligned_nobits (cfg : Cfg) (ty : Ty) (hS : ty.fragD cfg = true) (hB : ty.noBits = true)
    (hu : ty.uniformAlign true = true) (hp : ty.pow2Aligned cfg) (ctx : Ctx) (v : Val) (hv : HasTyD cfg ctx v ty)
    (pos : Nat) (hal : ty.alignsDivide cfg pos = true) (bs : Bytes) (hw : write cfg ty v pos = .ok bs)
    (pre post : Bytes) (hpre : pre.length = pos) :
    read cfg ty ctx (pre ++ bs ++ post) pos = .ok (v, pos + bs.length) :=
  roundtrip_D_aligned cfg ty hS hu hp (Lemmas.bitsNatural_of_noBits cfg ty hB) ctx v hv pos hal bs hw pre post hpre

/-- **Writing is total on the values of the type (fragment D without bit-fields, aligned)**: without bit-fields no layout
    is ever rejected, so there is no hypothesis on the definition. -/
theorem write_total_D_aligned_nobits (cfg : Cfg) (ty : Ty) (hS : ty.fragD cfg = true) (hB : ty.noBits = true)
    (hu : ty.uniformAlign true = true) (hp : ty.pow2Aligned cfg) (ctx : Ctx) (v : Val) (hv : HasTyD cfg ctx v ty)
    (pos : Nat) (hal : ty.alignsDivide cfg pos = true) : ∃ bs, write cfg ty v pos = .ok bs :=
  (dynWr_aligned cfg ty hS hu hp (Lemmas.bitsNatural_of_noBits cfg ty hB) ctx v hv pos
    (Lemmas.sAlign_dvd_of_alignsDivide cfg pos ty hal)).1 (Lemmas.laidOut_of_noBits cfg ty hB hS)

/-- **`dumps` then parse (fragment D without bit-fields, aligned)**. -/
theorem dumps_roundtrip_D_aligned_nobits (cfg : Cfg) (ty : Ty) (hS : ty.fragD cfg = true) (hB : ty.noBits = true)
    (hu : ty.uniformAlign true = true) (hp : ty.pow2Aligned cfg) (ctx : Ctx) (v : Val) (hv : HasTyD cfg ctx v ty) :
    ∃ bs, dumps cfg ty v = .ok bs ∧ ∀ post, read cfg ty ctx (bs ++ post) 0 = .ok (v, bs.length) :=
  dumps_of_dynWr (dynWr_aligned cfg ty hS hu hp (Lemmas.bitsNatural_of_noBits cfg ty hB) ctx v hv 0 (Nat.dvd_zero _))
    (Lemmas.laidOut_of_noBits cfg ty hB hS)

/-! ### Non-vacuity
  `struct { uint8 n; uint16 a[n * 2]; ileb128 v; char s[]; uint8 tail; }`, packed, little endian, with the value
  `n = 1, a = [0x1234, 7], v = -300, s = b"hi", tail = 9`. -/
open ExD in
example : tyX.fragD cfgL = true ∧ tyX.uniformAlign false = true ∧ tyX.defErr cfgL = none ∧ tyX.size cfgL = none := by
  decide +kernel
open ExD in
example : evalLen cfgL ["n", "*", "2"] [("n", .int 1)] = .ok 2 := by decide +kernel
open ExD in
example : HasTyD cfgL [] (.record vsN) tyX := ex_typed
open ExD in
example : write cfgL tyX (.record vsN) 0 = .ok [1, 0x34, 0x12, 7, 0, 212, 125, 104, 105, 0, 9] := ex_write
open ExD in
example (post : Bytes) (ctx : Ctx) :
    read cfgL tyX ctx ([1, 0x34, 0x12, 7, 0, 212, 125, 104, 105, 0, 9] ++ post) 0 = .ok (.record vsN, 11) := by
  have h := roundtrip_D_packed cfgL tyX (by decide +kernel) (by decide +kernel) ctx (.record vsN) (.struct (by
    have := ex_typed; cases this; assumption)) 0 _ ex_write [] post rfl
  simpa [bytesX] using h
-- a wrong element count is not a value of the type: with `n = 1` the array must have 2 elements
open ExD in
example : ¬ HasTyD cfgL [("n", .int 1)] (.list (.cons (.int 5) .nil)) arrA := by
  intro h
  cases h with
  | arr _ _ hc hN =>
    have h2 : Len.count cfgL [("n", .int 1)] (.expr ["n", "*", "2"]) = some 2 := by decide +kernel
    rw [h2] at hc
    cases hc
    cases hN with
    | cons _ h' => cases h'

-- aligned: `struct { uint8 n; uint16 a[n]; char s[]; uint32 x; uint8 tail; }` with `n = 1, a = [7], s = b"hi",
-- x = 0x01020304, tail = 9`: `a` at its layout offset 2, `x` padded to the absolute position 8, three bytes of trailing padding
open ExD in
example : tyQ.fragD cfgL = true ∧ tyQ.noBits = true ∧ tyQ.uniformAlign true = true ∧ tyQ.alignsDivide cfgL 0 = true ∧
    tyQ.size cfgL = none := by decide +kernel
open ExD in
example : write cfgL tyQ (.record wsN) 0 = .ok [1, 0, 7, 0, 104, 105, 0, 0, 4, 3, 2, 1, 9, 0, 0, 0] := ex_write_al
open ExD in
example (post : Bytes) (ctx : Ctx) :
    read cfgL tyQ ctx ([1, 0, 7, 0, 104, 105, 0, 0, 4, 3, 2, 1, 9, 0, 0, 0] ++ post) 0 = .ok (.record wsN, 16) := by
  have h := roundtrip_D_aligned_nobits cfgL tyQ (by decide +kernel) (by decide +kernel) (by decide +kernel) ex_p2_al ctx
    (.record wsN) (.struct (by have := ex_typed_al; cases this; assumption)) 0 (by decide +kernel) _ ex_write_al [] post rfl
  exact h
-- aligned with bit-fields behind a dynamic member: `struct { char s[]; uint16 a:3; E b:5; uint8 d; }` (`E` an enum over
-- `uint16`) with `s = b"AB", a = 5, b = E(9), d = 77`: the unit is opened at the padded absolute position 4
open ExD in
example : tyR.fragD cfgL = true ∧ tyR.uniformAlign true = true ∧ tyR.bitsNatural cfgL = true ∧ tyR.defErr cfgL = none ∧
    tyR.alignsDivide cfgL 0 = true ∧ tyR.size cfgL = none := by decide +kernel
open ExD in
example : write cfgL tyR (.record xsS) 0 = .ok [65, 66, 0, 0, 77, 0, 77, 0] := ex_write_bits
open ExD in
example (post : Bytes) (ctx : Ctx) :
    read cfgL tyR ctx ([65, 66, 0, 0, 77, 0, 77, 0] ++ post) 0 = .ok (.record xsS, 8) := by
  have h := roundtrip_D_aligned cfgL tyR (by decide +kernel) (by decide +kernel) ex_p2_bits (by decide +kernel) ctx
    (.record xsS) (.struct (by have := ex_typed_bits; cases this; assumption)) 0 (by decide +kernel) _ ex_write_bits [] post rfl
  exact h

end Cstruct.Core
