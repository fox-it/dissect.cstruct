import Proofs.C07

/-!
# C07 — wrong-length values are refused at EVERY nesting level

`c07_size_refused` is the outermost level. Here: the shape a value must have for a (multi-dimensional) fixed array, and the
theorem that a dump that succeeds implies that shape - so a row of the wrong length at any depth (`uint16 a[2][3]` given
`[[1,2],[3,4,5,6]]`) makes the dump fail; and it fails with ArraySizeError when the offending row is the first one.
-/

namespace Cstruct.C07
open Cstruct Cstruct.Core

/-- `Shaped t v`: at every fixed-count array level of `t` that holds a list, the list has the declared number of entries
    (a `char` / `wchar` level holding `bytes` / a string is not length-checked: the property sets character arrays aside) -/
def Shaped : Ty → Val → Prop
  | .arr e (.fixed n), .list vs => vs.length = n ∧ ∀ v ∈ vs.toList, Shaped e v
  | _, _ => True

/-- **A dump that succeeds has the declared number of entries at every level.** -/
theorem c07_write_ok_shaped (cfg : Cfg) (t : Ty) (v : Val) (pos : Nat) (bs : Bytes) (h : write cfg t v pos = .ok bs) :
    Shaped t v := by
  induction t using Ty.rec (motive_2 := fun _ => True) generalizing v pos bs with
  | arr e len ih =>
    cases len with
    | fixed n =>
      cases v with
      | list vs =>
        rw [Core.Lemmas.write_arr_list] at h
        by_cases hl : vs.length = n
        · rw [if_neg (not_not_intro hl)] at h
          refine ⟨hl, fun w hw => ?_⟩
          obtain ⟨p, b, hwr⟩ := Lemmas.writeN_ok_mem cfg e vs pos bs h w hw
          exact ih w p b hwr
        · rw [if_pos hl] at h
          cases h
      | _ => trivial
    | _ => trivial
  | _ => trivial

/-- **A value with a wrong-length row at ANY depth is refused**: whatever the position, the dump of a value that does not have
    the declared number of entries at every fixed-count level of a (multi-dimensional) array fails. -/
theorem c07_size_refused_nested (cfg : Cfg) (t : Ty) (v : Val) (pos : Nat) (h : ¬ Shaped t v) :
    ∃ err, write cfg t v pos = .error err := by
  cases hw : write cfg t v pos with
  | error e => exact ⟨e, rfl⟩
  | ok bs => exact absurd (c07_write_ok_shaped cfg t v pos bs hw) h

/-- … and with `ArraySizeError` when the first row is the offending one (`x[n][m]` given a first row of another length; the
    rows are written in order, the first one is checked before anything is written). -/
theorem c07_size_refused_first_row (cfg : Cfg) (e : Ty) (n m : Nat) (r rest : Vals) (pos : Nat)
    (hn : (Vals.cons (.list r) rest).length = n) (hm : r.length ≠ m) :
    write cfg (.arr (.arr e (.fixed m)) (.fixed n)) (.list (.cons (.list r) rest)) pos = .error .arraySize := by
  rw [Core.Lemmas.write_arr_list]
  simp only [hn, ne_eq, not_true_eq_false, if_false]
  rw [writeN, c07_size_refused cfg e m r pos hm]

/-- non-vacuity: `uint16 a[2][3]` given `[[1,2],[3,4,5,6]]` (right outer count, six elements in all) is not well-shaped,
    `[[1,2,3],[4,5,6]]` is -/
example :
    let u16 : Ty := .sc (.pint 2 false) 2
    let l (xs : List Int) : Val := .list (Vals.ofList (xs.map Val.int))
    ¬ Shaped (.arr (.arr u16 (.fixed 3)) (.fixed 2)) (.list (.cons (l [1, 2]) (.cons (l [3, 4, 5, 6]) .nil))) ∧
    Shaped (.arr (.arr u16 (.fixed 3)) (.fixed 2)) (.list (.cons (l [1, 2, 3]) (.cons (l [4, 5, 6]) .nil))) := by
  intro u16 l
  refine ⟨fun h => ?_, rfl, fun v hv => ?_⟩
  · rw [Shaped] at h
    exact absurd (h.2 _ (List.mem_cons_self ..)).1 (by decide)
  · rcases List.mem_cons.1 hv with rfl | hv
    · exact ⟨rfl, fun _ _ => trivial⟩
    · cases List.mem_singleton.1 hv
      exact ⟨rfl, fun _ _ => trivial⟩

end Cstruct.C07

