/-
  C15 — concurrent parsing with shared types is equivalent to sequential parsing (and C14's memo/footprint lemmas).

  Over `CstructModel/Sched.lean` and the generated write footprint `Gen.sharedWrites`
  (`CstructModel/Gen/Footprint.lean`, extracted from the source on every run).
  Partial by nature: the theorem is about the step model; that CPython executes the modelled actions atomically (GIL) and
  that the syntactic footprint extraction with its hand-kept lifetime table is complete are trusted, and the real code is
  exercised under a controlled line-level scheduler by this check.
-/
import CstructModel.Sched
import Proofs.Lemmas.C15

namespace Cstruct.C15
open Cstruct Cstruct.Sched

/-- **Footprint.** On the parse/dump path the code writes to exactly one kind of shared location: the token list of an
    `Expression` object, in the unary-minus rewriting loop. No operand stack, queue, cache or counter on a shared object. -/
theorem c15_footprint : ∀ w ∈ Gen.sharedWrites, w = ("Expression.evaluate", "store self.tokens.[]") := by
  decide

/-- **The shared rewriting is benign under every interleaving.** Any number of threads, any schedule of their atomic
    actions: the shared token list keeps its length, every cell is at all times either its original or its final
    (sequentially rewritten) content, and every thread that has finished has read exactly the sequentially rewritten tokens
    in its main loop — the result it would obtain running alone. -/
theorem c15_rewrite_benign (toks0 : List String) (k : Nat) (sched : List Nat) :
    let final := Expr.rewriteMinus toks0
    let r := run (List.replicate k Th.init) toks0 sched
    r.2.length = toks0.length ∧
    (∀ i, i < toks0.length → r.2.getD i "" = toks0.getD i "" ∨ r.2.getD i "" = final.getD i "") ∧
    (∀ t ∈ r.1, t.finished toks0.length = true → t.seen = final) := by
  intro final r
  have hg := Lemmas.good_rewriteMinus toks0
  have hinv : Lemmas.Inv toks0 final r.1 r.2 := Lemmas.inv_run hg sched _ _ (Lemmas.inv_init toks0 k)
  refine ⟨hinv.1.1, ?_, ?_⟩
  · intro i _
    rw [List.getD_eq_getElem?_getD, List.getD_eq_getElem?_getD, List.getD_eq_getElem?_getD]
    rcases hinv.1.2 i with h | h
    · left; rw [h]
    · right; rw [h]
  · intro t ht hf
    exact Lemmas.seen_of_finished hg (hinv.2 t ht) hf

/-- **Running alone gives the sequential result** (the reference the previous theorem compares with), and a thread does
    finish when it is given enough steps. -/
theorem c15_alone (toks0 : List String) :
    ∃ n, ∀ m, n ≤ m → ∀ t ∈ (run [Th.init] toks0 (List.replicate m 0)).1, t.finished toks0.length = true ∧ t.seen = Expr.rewriteMinus toks0 := by
  -- one more than `mu` of the initial thread, which is `4 * toks0.length + 3` and falls with every step
  refine ⟨4 * toks0.length + 4, ?_⟩
  intro m hm t ht
  have hg := Lemmas.good_rewriteMinus toks0
  have hinit : Lemmas.Inv toks0 (Expr.rewriteMinus toks0) [Th.init] toks0 := Lemmas.inv_init toks0 1
  have hinv := Lemmas.inv_run hg (List.replicate m 0) _ _ hinit
  obtain ⟨t', hrun, hfin⟩ := Lemmas.alone_progress hg m _ _ hinit
  rw [hrun] at ht
  have htt : t = t' := List.mem_singleton.mp ht
  subst htt
  have hf : t.finished toks0.length = true := by
    rcases hfin with h | h
    · exact h
    · exfalso
      have : Lemmas.mu toks0.length Th.init = toks0.length + 1 + 3 * toks0.length + 2 := by
        simp [Lemmas.mu, Th.init]
      omega
  refine ⟨hf, ?_⟩
  apply Lemmas.seen_of_finished hg (hinv.2 t ?_) hf
  rw [hrun]; exact List.mem_singleton.mpr rfl

/-- **Memo tables are transparent** (`_struct`'s and the code templates' `lru_cache`): a table that only ever received
    entries `(k, f k)` answers every lookup with `f k` and stays such a table — cached results never depend on who asked
    first or in which order. -/
theorem c14_memo_transparent {K V} [DecidableEq K] (f : K → V) (m : List (K × V)) (hm : ∀ p ∈ m, p.2 = f p.1) (k : K) :
    (memoGet f m k).1 = f k ∧ ∀ p ∈ (memoGet f m k).2, p.2 = f p.1 := by
  unfold memoGet
  cases hfind : m.find? (·.1 = k) with
  | none =>
    refine ⟨rfl, ?_⟩
    intro p hp
    rcases List.mem_cons.mp hp with h | h
    · rw [h]
    · exact hm p h
  | some kv =>
    obtain ⟨k', v⟩ := kv
    have hmem := List.mem_of_find?_eq_some hfind
    have hpred := List.find?_some hfind
    simp only [decide_eq_true_eq] at hpred
    refine ⟨?_, hm⟩
    have := hm _ hmem
    simp only at this
    rw [this, hpred]

/-! ### Non-vacuity: two threads, an adversarial schedule -/
example : let r := run [Th.init, Th.init] ["-", "a", "-", "-", "b"] [0, 1, 1, 0, 0, 1, 0, 0, 0, 1, 1, 1, 1, 0, 0, 0, 0, 0, 0, 0, 0, 0, 0, 1, 1, 1, 1, 1, 1, 1, 1, 1, 1, 1, 1, 1]
    r.2 = Expr.rewriteMinus ["-", "a", "-", "-", "b"] := by decide +kernel

end Cstruct.C15
