/-
  C09 — stream discipline: position-independent and consistent across input kinds.

  Property theorems derived from `Core.read_window` / `Core.read_prefix` / `Core.roundtrip_S`.
  What is proved: the result never depends on bytes after the encoded extent (every plain type without bit-fields, one
  align flag, power-of-two alignments, aligned start); a written value is read back identically wherever it is embedded
  (`c09_embedded`, fragment S): bytes before `p` never matter and the stream is left at `p + size`.
  Position independence with respect to what precedes is `Proofs/C09Shift.lean`, the same with bit-fields
  `Proofs/CoreWinBits.lean`. Which of `T(x)`, `T.read(x)`, `T.reads(x)` parse and which construct is the dispatch of
  `MetaType.__call__`: `Proofs/C09Call.lean` (model `CstructModel/Call.lean`, tied to the code by the correspondence run of
  this check over all call forms and input kinds).
-/
import Proofs.Core

namespace Cstruct.C09
open Cstruct Cstruct.Core

/-- **Nothing after the encoded extent matters.** -/
theorem c09_after_extent (cfg : Cfg) (al : Bool) (ty : Ty) (hplain : ty.plain = true) (hnb : ty.noBits = true)
    (hu : ty.uniformAlign al = true) (hp : ty.pow2Aligned cfg) (ctx : Ctx) (d : Bytes) (pos : Nat)
    (hal : ty.alignsDivide cfg pos = true) (v : Val) (p : Nat)
    (hr : read cfg ty ctx d pos = .ok (v, p)) (post : Bytes) :
    read cfg ty ctx (d.take p ++ post) pos = .ok (v, p) :=
  read_window cfg al ty hplain hnb hu hp ctx d pos hal v p hr post

/-- **A value reads back the same wherever it is embedded (fragment S):** written at an aligned position `p` after any
    `pre` and before any `post`, it parses to the same value and leaves the stream at `p + size`. -/
theorem c09_embedded (cfg : Cfg) (al : Bool) (ty : Ty) (hS : ty.fragS cfg = true) (hu : ty.uniformAlign al = true)
    (hp : ty.pow2Aligned cfg) (v : Val) (hv : HasTy cfg v ty) (pre post : Bytes) (hal : ty.alignsDivide cfg pre.length = true) (ctx : Ctx) :
    ∃ bs, write cfg ty v pre.length = .ok bs ∧ ty.size cfg = some bs.length ∧
      read cfg ty ctx (pre ++ bs ++ post) pre.length = .ok (v, pre.length + bs.length) := by
  obtain ⟨bs, hw, hsz⟩ := write_total_S cfg al ty hS hu hp v hv pre.length hal
  exact ⟨bs, hw, hsz, roundtrip_S cfg al ty hS hu hp v hv pre.length hal bs hw pre post rfl ctx⟩

/-- **The stream is left at `p + size`** for every fixed-size type of fragment S on a long-enough input, whatever precedes. -/
theorem c09_end_position (cfg : Cfg) (al : Bool) (ty : Ty) (hS : ty.fragS cfg = true) (hu : ty.uniformAlign al = true)
    (hp : ty.pow2Aligned cfg) (ctx : Ctx) (data : Bytes) (pos n : Nat) (hsz : ty.size cfg = some n) (hlen : pos + n ≤ data.length)
    (hal : ty.alignsDivide cfg pos = true) :
    ∃ v, read cfg ty ctx data pos = .ok (v, pos + n) := by
  obtain ⟨v, h, _⟩ := read_size_S cfg al ty hS hu hp ctx data pos n hsz hlen hal
  exact ⟨v, h⟩

end Cstruct.C09
