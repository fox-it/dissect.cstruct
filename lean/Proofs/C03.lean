/-
  C03 — the compiled reader is observationally equivalent to the interpreted reader: property theorems.

  The real compiler's output (the Python source of `_read`) is parsed by `harness/srcplan.py` into a `Plan`
  (`CstructModel/Compiler.lean`); `Compiler.exec` says what running the plan does and `Compiler.planOK` is a
  decidable validator of a plan against the structure's field list and layout.  The check runs `planOK` (through the
  model driver) on the plan of every structure it generates, and compares `exec` with the real compiled reader.
  What is proved here, for every configuration, field list, plan, input and start position:

  * `c03_compiled_refines`   — a plan accepted by the validator never returns anything the interpreted reader
        (`readStructWithSizes`, the model of `StructureMetaType._read`) would contradict: if the compiled reader
        returns, the interpreted reader returns the same value, the same end position and the same sizes for every
        field that occupies bytes.
  * `c03_plan_sound`         — both return ⇒ equal value, equal consumed bytes, equal non-zero sizes.
  * `c03_interp_ok_compiled` — if the interpreted reader returns, the compiled one returns the same or raises
        EOFError (a block is read eagerly, so on an input too short for the block the compiled reader may raise where
        the interpreted one still returns — never a different value, never a different error class).
  * `c03_layout_shared`      — size, alignment and offsets are not recomputed by the compiler: both readers use the
        one `structLayout` of the class.

  No hypothesis on the start position (an aligned structure may start at a position that is not a multiple of its
  alignment) and none on members that are read through their own `_read`.  An alignment statement (`.align a`, `a ≠ 1`) and
  a nested aligned structure pad on the absolute position, so after either the validator no longer knows the static offset
  of the stream and accepts what follows only if the plan seeks in front of the next member with a layout offset (the
  compiler does: it forgets its tracked offset in both cases).  For a member without a structure the validator uses
  `k + size`; that such a member consumes exactly its declared size is proved (`static_pf`).
  A nested structure with a compiled reader is covered by the statement for that structure, so the equivalence of whole
  type trees follows by induction over the nesting depth.
-/
import Proofs.Lemmas.C03

namespace Cstruct.Compiler.C03
open Cstruct Cstruct.Compiler

theorem c03_compiled_refines (cfg : Cfg) (al : Bool) (fs : Fields) (plan : Plan) (data : Bytes) (pos : Nat)
    (hok : planOK cfg al fs plan = true)
    (v : Val) (szs : List (String × Nat)) (p : Nat)
    (hc : readCompiled cfg al fs plan data pos = .ok (v, szs, p)) :
    ∃ szs', readStructWithSizes cfg al fs data pos = .ok (v, szs', p) ∧
      szs.filter (fun e => e.2 ≠ 0) = szs'.filter (fun e => e.2 ≠ 0) :=
  compiled_refines cfg al fs plan data pos hok v szs p hc

theorem c03_plan_sound (cfg : Cfg) (al : Bool) (fs : Fields) (plan : Plan) (data : Bytes) (pos : Nat)
    (hok : planOK cfg al fs plan = true)
    (v₁ v₂ : Val) (s₁ s₂ : List (String × Nat)) (p₁ p₂ : Nat)
    (hc : readCompiled cfg al fs plan data pos = .ok (v₁, s₁, p₁))
    (hi : readStructWithSizes cfg al fs data pos = .ok (v₂, s₂, p₂)) :
    v₁ = v₂ ∧ p₁ = p₂ ∧ s₁.filter (fun e => e.2 ≠ 0) = s₂.filter (fun e => e.2 ≠ 0) := by
  obtain ⟨s', h, hs⟩ := compiled_refines cfg al fs plan data pos hok v₁ s₁ p₁ hc
  rw [h] at hi
  cases hi
  exact ⟨rfl, rfl, hs⟩

theorem c03_interp_ok_compiled (cfg : Cfg) (al : Bool) (fs : Fields) (plan : Plan) (data : Bytes) (pos : Nat)
    (hok : planOK cfg al fs plan = true)
    (v : Val) (szs : List (String × Nat)) (p : Nat)
    (hi : readStructWithSizes cfg al fs data pos = .ok (v, szs, p)) :
    (∃ szs', readCompiled cfg al fs plan data pos = .ok (v, szs', p) ∧
        szs'.filter (fun e => e.2 ≠ 0) = szs.filter (fun e => e.2 ≠ 0)) ∨
      readCompiled cfg al fs plan data pos = .error .eof :=
  interp_ok_compiled cfg al fs plan data pos hok v szs p hi

theorem c03_layout_shared (cfg : Cfg) (al : Bool) (fs : Fields) (plan : Plan) (data : Bytes) (pos : Nat)
    (e : Err) (h : structLayout cfg al fs = .error e) :
    readCompiled cfg al fs plan data pos = .error e ∧ readStructWithSizes cfg al fs data pos = .error e := by
  simp [readCompiled, readStructWithSizes, h]

-- non-vacuity: a concrete aligned structure with a bit-field run, a gap, a nested structure and an array, its real
-- plan (with the seek after the nested structure), the validator accepts it and the compiled reader returns
example : planOK samplecfg true sampleFields samplePlan = true ∧
    (∃ r, readCompiled samplecfg true sampleFields samplePlan sampleData 0 = .ok r) := by
  refine ⟨sample_planOK, ⟨_, sample_runs⟩⟩

end Cstruct.Compiler.C03
