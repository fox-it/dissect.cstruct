/-
  C11 / C01 / C02 for the DUMP of a fixed-size union.

  Property C11: "… the bytes produced by dumping reflect the new bytes of that member and the old bytes elsewhere".
  `UnionMetaType._write` does not write the union's buffer: it writes ONE member — `C11.writtenMember`
  (`Proofs/Spec/C11Dump.lean`): the first of the largest members that are not anonymous structures — and pads with zeros.
  Known finding (F9F10): when that member does not cover every data byte of every member, bytes are lost
  (`c11_dump_loses_witness` below). The theorems here are therefore PARTIAL: they carry the covering hypothesis

      the written member `t` is of fragment SB, `t.size = n` (the union's size) and `maskB cfg t = replicate n 0xFF`
      (no padding byte and no unassigned bit-field bit: every bit of the union's extent is a data bit of `t`)

  and state that under it the dump IS the buffer: parse-then-dump reproduces the consumed bytes (C02), the dump parses back
  to the same value (C01), and after any history of member assignments the dump is the history's buffer, i.e. (with
  `C11.c11_assign_bytes`) the new bytes of every assigned member and the old bytes elsewhere (C11).

  Mode hypotheses as in `C02B.c02_fidelity_SB_gen` / `C09.c09_shift`, which are applied to the written member: one `align`
  flag (the union's), power-of-two alignments, in aligned mode bit-field storage scalars with `size = alignment`, an
  accepted definition, and a dump position that is a multiple of the member's alignments (packed: `alignsDivide` is still
  asked of the position by the reused theorems; it holds for every position when all alignments are 1, and for
  position 0 always — `C01.alignsDivide_zero`).

  Model: the union cases of `read` (`CstructModel/Read.lean`) and `write`/`writeUnion` (`CstructModel/Write.lean`),
  `Union.parse/assign/assignAll` (`CstructModel/Union.lean`).
-/
import Proofs.Spec.C11Dump
import Proofs.Lemmas.C11DumpCoherent
import Proofs.C11

namespace Cstruct.C11
open Cstruct Cstruct.Union Cstruct.Core Cstruct.C02B

/-- **C02 for unions covered by their written member: parse-then-dump reproduces the consumed bytes exactly.**
    If parsing `pre ++ w ++ post` from position `|pre|`, `|w| = n` the union's size, succeeds with the value
    `(buf, vs)` at end position `p`, then the buffer is `w`, `p = |pre| + n`, and dumping the value at the same position
    yields `w`. -/
theorem c11_dump_is_buffer (cfg : Cfg) (al : Bool) (fs : Fields) (n k : Nat) (t : Ty)
    (hsz : (Ty.union al fs).size cfg = some n) (hk : writtenMember cfg fs = some k) (ht : nthTy fs k = some t)
    (hS : t.fragSB cfg = true) (hu : t.uniformAlign al = true) (hp : t.pow2Aligned cfg)
    (hn : al = true → t.bitsNatural cfg = true) (hd : t.defErr cfg = none)
    (htn : t.size cfg = some n) (hcov : maskB cfg t = List.replicate n 0xFF)
    (ctx : Ctx) (pre w post : Bytes) (hw : w.length = n) (hal : t.alignsDivide cfg pre.length = true)
    (buf : Bytes) (vs : Vals) (p : Nat)
    (hr : read cfg (.union al fs) ctx (pre ++ w ++ post) pre.length = .ok (.union buf vs, p)) :
    buf = w ∧ p = pre.length + n ∧ write cfg (.union al fs) (.union buf vs) pre.length = .ok w := by
  rw [DumpLemmas.read_union_mid cfg al fs n hsz ctx pre w post hw] at hr
  split at hr
  · cases hr
  · rename_i vs' hm
    cases hr
    refine ⟨rfl, rfl, ?_⟩
    have := DumpLemmas.dump_of_coherent cfg al fs n k t hsz hk ht hS hu hp hn hd htn hcov w vs hm (Nat.le_of_eq hw.symm) pre.length hal w
    rw [List.take_of_length_le (Nat.le_of_eq hw)] at this
    exact this

/-- **C01 for unions covered by their written member: the dump of a parsed value parses back to that value.**
    With `v` the value obtained by parsing, dumping `v` succeeds and its dump `bs`, embedded after any `pre'` and before
    any `post'`, with any context, parses to `v` again and ends exactly after `bs`. -/
theorem c11_roundtrip_covering (cfg : Cfg) (al : Bool) (fs : Fields) (n k : Nat) (t : Ty)
    (hsz : (Ty.union al fs).size cfg = some n) (hk : writtenMember cfg fs = some k) (ht : nthTy fs k = some t)
    (hS : t.fragSB cfg = true) (hu : t.uniformAlign al = true) (hp : t.pow2Aligned cfg)
    (hn : al = true → t.bitsNatural cfg = true) (hd : t.defErr cfg = none)
    (htn : t.size cfg = some n) (hcov : maskB cfg t = List.replicate n 0xFF)
    (ctx : Ctx) (pre w post : Bytes) (hw : w.length = n) (hal : t.alignsDivide cfg pre.length = true)
    (v : Val) (p : Nat) (hr : read cfg (.union al fs) ctx (pre ++ w ++ post) pre.length = .ok (v, p)) :
    ∃ bs, write cfg (.union al fs) v pre.length = .ok bs ∧ bs.length = n ∧
      ∀ (pre' post' : Bytes) (ctx' : Ctx),
        read cfg (.union al fs) ctx' (pre' ++ bs ++ post') pre'.length = .ok (v, pre'.length + bs.length) := by
  have hr' := hr
  rw [DumpLemmas.read_union_mid cfg al fs n hsz ctx pre w post hw] at hr'
  split at hr'
  · cases hr'
  · rename_i vs hm
    cases hr'
    obtain ⟨_, _, hwr⟩ := c11_dump_is_buffer cfg al fs n k t hsz hk ht hS hu hp hn hd htn hcov ctx pre w post hw hal
      w vs _ hr
    refine ⟨w, hwr, hw, ?_⟩
    intro pre' post' ctx'
    rw [DumpLemmas.read_union_mid cfg al fs n hsz ctx' pre' w post' hw, hm, hw]

/-- the buffer of a history never shrinks, and keeps the union's size when no assignment overflows -/
theorem c11_history_length (cfg : Cfg) (fs : Fields) (s : UState) (hist : List (Nat × Val)) (s' : UState)
    (h : assignAll cfg fs s hist = .ok s') :
    s.buf.length ≤ s'.buf.length ∧ (histFits cfg fs s hist → s'.buf.length = s.buf.length) := by
  induction hist generalizing s with
  | nil => cases h; exact ⟨Nat.le_refl _, fun _ => rfl⟩
  | cons kv r ih =>
    simp only [assignAll] at h
    split at h
    · cases h
    · rename_i s1 h1
      obtain ⟨a1, a2⟩ := DumpLemmas.assign_length cfg fs s kv.1 kv.2 s1 h1
      obtain ⟨b1, b2⟩ := ih s1 h
      exact ⟨Nat.le_trans a1 b1, fun hf => (b2 (hf.2 s1 h1)).trans (a2 hf.1)⟩

/-- Without the no-overflow hypothesis the buffer can only have grown, and the dump is its first `n` bytes. -/
theorem c11_history_dump_take (cfg : Cfg) (al : Bool) (fs : Fields) (n k : Nat) (t : Ty)
    (hsz : (Ty.union al fs).size cfg = some n) (hk : writtenMember cfg fs = some k) (ht : nthTy fs k = some t)
    (hS : t.fragSB cfg = true) (hu : t.uniformAlign al = true) (hp : t.pow2Aligned cfg)
    (hn : al = true → t.bitsNatural cfg = true) (hd : t.defErr cfg = none)
    (htn : t.size cfg = some n) (hcov : maskB cfg t = List.replicate n 0xFF)
    (data : Bytes) (pos : Nat) (hlen : pos + n ≤ data.length) (s0 : UState) (p : Nat)
    (hparse : parse cfg fs n data pos = .ok (s0, p)) (hist : List (Nat × Val)) (s' : UState)
    (hh : assignAll cfg fs s0 hist = .ok s') (q : Nat) (hal : t.alignsDivide cfg q = true) :
    n ≤ s'.buf.length ∧ write cfg (.union al fs) (.union s'.buf s'.vals) q = .ok (s'.buf.take n) := by
  obtain ⟨_, _, hl0⟩ := c11_parse_size cfg fs n data pos s0 p hparse hlen
  have hc0 := DumpLemmas.parse_coherent cfg fs n data pos s0 p hparse
  have hc := c11_history_coherent cfg fs s0 hist s' hc0 hh
  have hl : n ≤ s'.buf.length := hl0 ▸ (c11_history_length cfg fs s0 hist s' hh).1
  exact ⟨hl, DumpLemmas.dump_of_coherent cfg al fs n k t hsz hk ht hS hu hp hn hd htn hcov s'.buf s'.vals hc hl q hal s'.buf⟩

/-- **C11 for unions covered by their written member: after any history of member assignments the dump is the history's
    buffer.** Parse a union from a long-enough input, then assign members in any order (`Union.assignAll`); if no
    assignment overflowed the union (`histFits`: the encoding of each assigned member fits the buffer), the final buffer
    still has the union's size and the dump of the final state, at any position `q`, is exactly that buffer — by
    `c11_assign_bytes`, the encoding of the member assigned last followed by the older bytes beyond it, and so on back to
    the parsed bytes: the new bytes of every assigned member and the old bytes elsewhere. -/
theorem c11_history_dump (cfg : Cfg) (al : Bool) (fs : Fields) (n k : Nat) (t : Ty)
    (hsz : (Ty.union al fs).size cfg = some n) (hk : writtenMember cfg fs = some k) (ht : nthTy fs k = some t)
    (hS : t.fragSB cfg = true) (hu : t.uniformAlign al = true) (hp : t.pow2Aligned cfg)
    (hn : al = true → t.bitsNatural cfg = true) (hd : t.defErr cfg = none)
    (htn : t.size cfg = some n) (hcov : maskB cfg t = List.replicate n 0xFF)
    (data : Bytes) (pos : Nat) (hlen : pos + n ≤ data.length) (s0 : UState) (p : Nat)
    (hparse : parse cfg fs n data pos = .ok (s0, p)) (hist : List (Nat × Val)) (s' : UState)
    (hh : assignAll cfg fs s0 hist = .ok s') (hfit : histFits cfg fs s0 hist)
    (q : Nat) (hal : t.alignsDivide cfg q = true) :
    s'.buf.length = n ∧ write cfg (.union al fs) (.union s'.buf s'.vals) q = .ok s'.buf := by
  have hl : s'.buf.length = n :=
    ((c11_history_length cfg fs s0 hist s' hh).2 hfit).trans (c11_parse_size cfg fs n data pos s0 p hparse hlen).2.2
  have := (c11_history_dump_take cfg al fs n k t hsz hk ht hS hu hp hn hd htn hcov data pos hlen s0 p hparse hist s' hh
    q hal).2
  rw [List.take_of_length_le (Nat.le_of_eq hl)] at this
  exact ⟨hl, this⟩

/-- **One assignment, spelled out**: on a coherent state whose buffer has the union's size, after `u.member_j = x` the
    dump is the encoding of that member followed by the old buffer bytes beyond it (when the encoding fits the union). -/
theorem c11_assign_dump (cfg : Cfg) (al : Bool) (fs : Fields) (n k : Nat) (t : Ty)
    (hsz : (Ty.union al fs).size cfg = some n) (hk : writtenMember cfg fs = some k) (ht : nthTy fs k = some t)
    (hS : t.fragSB cfg = true) (hu : t.uniformAlign al = true) (hp : t.pow2Aligned cfg)
    (hn : al = true → t.bitsNatural cfg = true) (hd : t.defErr cfg = none)
    (htn : t.size cfg = some n) (hcov : maskB cfg t = List.replicate n 0xFF)
    (s : UState) (hlen : s.buf.length = n) (j : Nat) (x : Val) (s' : UState)
    (h : assign cfg fs s j x = .ok s') (q : Nat) (hal : t.alignsDivide cfg q = true) :
    ∃ enc, writeMemberRaw cfg fs (setNth s.vals j x) j 0 = .ok enc ∧
      (enc.length ≤ n →
        write cfg (.union al fs) (.union s'.buf s'.vals) q = .ok (enc ++ s.buf.drop enc.length)) := by
  obtain ⟨enc, hw, hb, hm⟩ := Lemmas.assign_ok cfg fs s j x s' h
  refine ⟨enc, hw, fun hle => ?_⟩
  have hl : s'.buf.length = n := by
    rw [hb, List.length_append, List.length_drop, hlen]; exact Nat.add_sub_of_le hle
  have := DumpLemmas.dump_of_coherent cfg al fs n k t hsz hk ht hS hu hp hn hd htn hcov s'.buf s'.vals hm
    (Nat.le_of_eq hl.symm) q hal s'.buf
  rw [List.take_of_length_le (Nat.le_of_eq hl), hb] at this
  rw [hb]
  exact this

/-- **What the dump is in general** (no covering hypothesis): the encoding of the written member, zero-padded to the
    union's size (when that member writes something, or is the anonymous-structure fallback). -/
theorem c11_dump_written (cfg : Cfg) (al : Bool) (fs : Fields) (buf : Bytes) (vs : Vals) (pos n : Nat)
    (hsz : (Ty.union al fs).size cfg = some n) (hlen : vs.length = fs.length) (k : Nat) (t : Ty)
    (hk : writtenMember cfg fs = some k) (ht : nthTy fs k = some t) (body : Bytes)
    (hw : writeMemberRaw cfg fs vs k pos = .ok body) (hb : body ≠ []) :
    write cfg (.union al fs) (.union buf vs) pos = .ok (body ++ zeros (n - body.length)) := by
  exact DumpLemmas.write_union_written cfg al fs buf vs pos n hsz hlen k t hk ht body hw (fun _ => hb)

/-! ### The covering hypothesis cannot be dropped (the recorded finding F9F10)
  `union { struct { uint32 a; uint32 b; }; uint32 c; }` with an anonymous structure member, packed, little endian:
  the written member is `c` (the anonymous structure is skipped), which covers only the first 4 of the 8 bytes. -/
namespace Ex
open Cstruct.Core.Lemmas

def cfgL : Cfg := { endian := .little, ptr := .pint 4 false, ptrAlign := 4, consts := [] }
def cfgB : Cfg := { endian := .big, ptr := .pint 4 false, ptrAlign := 4, consts := [] }
def u8 : Ty := .sc (.pint 1 false) 1
def u16 : Ty := .sc (.pint 2 false) 2
def u32 : Ty := .sc (.pint 4 false) 4
/-- `struct { uint32 a; uint32 b; }` -/
def sAB : Ty := .struct false (.cons "a" false u32 none (.cons "b" false u32 none .nil))
/-- `union { struct { uint32 a; uint32 b; }; uint32 c; }` -/
def fsW : Fields := .cons "_anon" true sAB none (.cons "c" false u32 none .nil)
def tyW : Ty := .union false fsW

example : writtenMember cfgL fsW = some 1 ∧ tyW.size cfgL = some 8 ∧ u32.size cfgL = some 4 := by decide +kernel

end Ex

/-- **Negative witness**: for
    `union { struct { uint32 a; uint32 b; }; uint32 c; }` (anonymous structure member; packed, little endian) parsing the
    bytes `00 01 02 03 04 05 06 07` succeeds, consumes 8 bytes, and dumping the parsed value gives
    `00 01 02 03 00 00 00 00` ≠ the input: the bytes of `b` are lost. The written member `c` has size 4 ≠ 8: the
    covering hypothesis of the theorems above cannot be dropped. -/
theorem c11_dump_loses_witness (ctx : Ctx) (post : Bytes) :
    ∃ vs, read Ex.cfgL Ex.tyW ctx ([0, 1, 2, 3, 4, 5, 6, 7] ++ post) 0 = .ok (.union [0, 1, 2, 3, 4, 5, 6, 7] vs, 8) ∧
      write Ex.cfgL Ex.tyW (.union [0, 1, 2, 3, 4, 5, 6, 7] vs) 0 = .ok [0, 1, 2, 3, 0, 0, 0, 0] ∧
      ([0, 1, 2, 3, 0, 0, 0, 0] : Bytes) ≠ [0, 1, 2, 3, 4, 5, 6, 7] := by
  have hsz : (Ty.union false Ex.fsW).size Ex.cfgL = some 8 := by decide +kernel
  obtain ⟨va, hra, _⟩ := C02B.read_size_SB_packed Ex.cfgL Ex.sAB (by decide +kernel) (by decide +kernel) (by decide +kernel)
    [] [0, 1, 2, 3, 4, 5, 6, 7] 0 8 (by decide +kernel) (by decide)
  have hrc : ∀ ctx', read Ex.cfgL Ex.u32 ctx' [0, 1, 2, 3, 4, 5, 6, 7] 0 = .ok (.int 0x03020100, 4) := by
    intro ctx'
    rw [Ex.u32, Core.Lemmas.read_sc]
    rfl
  have hm : readMembers Ex.cfgL Ex.fsW [] [0, 1, 2, 3, 4, 5, 6, 7] = .ok (.cons va (.cons (.int 0x03020100) .nil)) := by
    rw [Ex.fsW, Core.Lemmas.readMembers_cons, hra]
    simp only [Except.bind]
    rw [Core.Lemmas.readMembers_cons, hrc]
    simp only [Core.Lemmas.readMembers_nil, Except.bind]
  refine ⟨.cons va (.cons (.int 0x03020100) .nil), ?_, ?_, by decide⟩
  · have := DumpLemmas.read_union_mid Ex.cfgL false Ex.fsW 8 hsz ctx [] [0, 1, 2, 3, 4, 5, 6, 7] post rfl
    rw [hm] at this
    exact this
  · have hw : writeMemberRaw Ex.cfgL Ex.fsW (.cons va (.cons (.int 0x03020100) .nil)) 1 0 = .ok [0, 1, 2, 3] := by
      rw [Ex.fsW, Lemmas.writeMemberRaw_succ, Lemmas.writeMemberRaw_zero, Ex.u32, Core.Lemmas.write_sc]
      decide +kernel
    exact c11_dump_written Ex.cfgL false Ex.fsW _ _ 0 8 hsz rfl 1 Ex.u32 (by decide +kernel) rfl _ hw (by decide)

namespace Ex
open Cstruct.Core.Lemmas

/-! ### Non-vacuity: `union { uint32 a; uint8 b[4]; uint16 c[2]; }`, packed and aligned
  The written member is `a` (the first of the three largest members), a `uint32`: fragment SB, size 4 = the union's size,
  mask `ff ff ff ff`. -/

def fsE : Fields := .cons "a" false u32 none (.cons "b" false (.arr u8 (.fixed 4)) none
  (.cons "c" false (.arr u16 (.fixed 2)) none .nil))

example (al : Bool) : (Ty.union al fsE).size cfgL = some 4 ∧ writtenMember cfgL fsE = some 0 ∧
    u32.fragSB cfgL = true ∧ u32.uniformAlign al = true ∧ u32.bitsNatural cfgL = true ∧ u32.defErr cfgL = none ∧
    u32.size cfgL = some 4 ∧ maskB cfgL u32 = List.replicate 4 0xFF := by
  cases al <;> decide +kernel
example : nthTy fsE 0 = some u32 := rfl

theorem ex_size (cfg : Cfg) (al : Bool) : (Ty.union al fsE).size cfg = some 4 := by
  cases al
  · rfl
  · have h : (Ty.union true fsE).size cfg = some (4 + padNat 4 4) := rfl
    rw [h]
    decide +kernel  -- `padNat` computes through `Int`; `rfl` and plain `decide` do not reduce it

/-- every 4-byte input parses (packed or aligned, any configuration) … -/
theorem ex_read (cfg : Cfg) (al : Bool) (ctx : Ctx) (pre w post : Bytes) (hw : w.length = 4) :
    ∃ vs, read cfg (.union al fsE) ctx (pre ++ w ++ post) pre.length = .ok (.union w vs, pre.length + 4) := by
  have hp8 : (Ty.arr u8 (.fixed 4)).pow2Aligned cfg := Or.inr ⟨0, rfl⟩
  have hp16 : (Ty.arr u16 (.fixed 2)).pow2Aligned cfg := Or.inr ⟨1, rfl⟩
  have hp32 : u32.pow2Aligned cfg := Or.inr ⟨2, rfl⟩
  obtain ⟨va, ha, _⟩ := C02B.read_size_SB cfg al u32 rfl rfl hp32 (fun _ => rfl) rfl [] w 0 4 rfl (Nat.le_of_eq hw.symm) rfl
  obtain ⟨vb, hb, _⟩ := C02B.read_size_SB cfg al (.arr u8 (.fixed 4)) rfl rfl hp8 (fun _ => rfl) rfl
    (Ctx.set [] "a" va) w 0 4 rfl (Nat.le_of_eq hw.symm) rfl
  obtain ⟨vc, hc, _⟩ := C02B.read_size_SB cfg al (.arr u16 (.fixed 2)) rfl rfl hp16 (fun _ => rfl) rfl
    (Ctx.set (Ctx.set [] "a" va) "b" vb) w 0 4 rfl (Nat.le_of_eq hw.symm) rfl
  have hm : readMembers cfg fsE [] w = .ok (.cons va (.cons vb (.cons vc .nil))) := by
    rw [fsE, Core.Lemmas.readMembers_cons, ha]
    simp only [Except.bind]
    rw [Core.Lemmas.readMembers_cons, hb]
    simp only [Except.bind]
    rw [Core.Lemmas.readMembers_cons, hc]
    simp only [Core.Lemmas.readMembers_nil, Except.bind]
  exact ⟨_, by rw [DumpLemmas.read_union_mid cfg al fsE 4 (ex_size cfg al) ctx pre w post hw, hm]⟩

/-- … and parse-then-dump at a position that is a multiple of 4 gives back the four bytes, whatever they are -/
theorem ex_dump (cfg : Cfg) (al : Bool) (ctx : Ctx) (pre w post : Bytes) (hw : w.length = 4)
    (hpre : pre.length % 4 = 0) :
    ∃ vs, read cfg (.union al fsE) ctx (pre ++ w ++ post) pre.length = .ok (.union w vs, pre.length + 4) ∧
      write cfg (.union al fsE) (.union w vs) pre.length = .ok w := by
  obtain ⟨vs, hr⟩ := ex_read cfg al ctx pre w post hw
  refine ⟨vs, hr, ?_⟩
  exact (c11_dump_is_buffer cfg al fsE 4 0 u32 (ex_size cfg al) rfl rfl rfl rfl (Or.inr ⟨2, rfl⟩)
    (fun _ => rfl) rfl rfl rfl ctx pre w post hw (by simp [u32, Ty.alignsDivide, hpre]) w vs _ hr).2.2

/-- concretely: `de ad be ef` at position 4 of an aligned union, little endian -/
example : ∃ vs, read cfgL (.union true fsE) [] ([9, 9, 9, 9] ++ [0xde, 0xad, 0xbe, 0xef] ++ [1, 2]) 4 =
      .ok (.union [0xde, 0xad, 0xbe, 0xef] vs, 8) ∧
    write cfgL (.union true fsE) (.union [0xde, 0xad, 0xbe, 0xef] vs) 4 = .ok [0xde, 0xad, 0xbe, 0xef] :=
  ex_dump cfgL true [] [9, 9, 9, 9] [0xde, 0xad, 0xbe, 0xef] [1, 2] rfl rfl

/-- a union of anonymous structures only: `union { struct { uint16 x; uint16 y; }; struct { uint32 z; }; }` is dumped
    through the LAST of its (equally large) members -/
example : writtenMember cfgL (.cons "_1" true (.struct false (.cons "x" false u16 none (.cons "y" false u16 none .nil))) none
    (.cons "_2" true (.struct false (.cons "z" false u32 none .nil)) none .nil)) = some 1 := by decide +kernel

/-- `union { uint16 s; uint8 b[4]; uint32 a; }`: the largest members are `b` and `a`; the first of them is written -/
example : writtenMember cfgL (.cons "s" false u16 none (.cons "b" false (.arr u8 (.fixed 4)) none
    (.cons "a" false u32 none .nil))) = some 1 := by decide +kernel

/-- a member with unassigned bits does not cover: `union { struct S { uint16 f:3; uint16 g:4; uint8 h; } s; }` has mask
    `7f 00 ff`, not `ff ff ff` -/
example : maskB cfgL (.struct false (.cons "f" false u16 (some 3) (.cons "g" false u16 (some 4) (.cons "h" false u8 none .nil))))
    ≠ List.replicate 3 0xFF := by decide +kernel

end Ex

end Cstruct.C11
