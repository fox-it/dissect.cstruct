/-
  C19 — dumping a parsed structure (`CstructModel/Dumpstruct.lean` over `CstructModel/Hexdump.lean`): hex part, listing
  and palette.
-/
import CstructModel.Dumpstruct
import Proofs.C19

namespace Cstruct.Dumpstruct.C19
open Cstruct Cstruct.Hexdump Cstruct.Dumpstruct

/-- the fields `_dumpstruct` lists: the named ones -/
def listed (fields : List DField) : List DField := fields.filter (fun f => !f.anonymous)

def plainLine (f : DField) : String := "- " ++ f.name ++ ": " ++ render f

theorem stripCodes_fieldLine (color : Bool) (ci : Nat) (f : DField) :
    stripCodes (fieldLine color ci f) = plainLine f := by
  cases color <;> simp [fieldLine, stripCodes, plainLine, String.append_assoc]

theorem walk_anon (color : Bool) (ci : Nat) (f : DField) (rest : List DField) (h : f.anonymous = true) :
    walk color ci (f :: rest) = walk color ci rest := by
  rw [walk, if_pos h]

theorem walk_listed (color : Bool) (ci : Nat) (f : DField) (rest : List DField) (h : f.anonymous = false) :
    walk color ci (f :: rest) =
      ((if color then [(((f.size.getD 0 : Nat) : Int), (colorAt ci).2)] else []) ++ (walk color (ci + 1) rest).1,
        fieldLine color ci f :: (walk color (ci + 1) rest).2) := by
  rw [walk, if_neg (by rw [h]; exact Bool.false_ne_true)]

theorem listed_cons_anon {f : DField} (rest : List DField) (h : f.anonymous = true) : listed (f :: rest) = listed rest := by
  rw [listed, List.filter_cons, h]; rfl

theorem listed_cons {f : DField} (rest : List DField) (h : f.anonymous = false) : listed (f :: rest) = f :: listed rest := by
  rw [listed, List.filter_cons, h]; rfl

theorem walk_listing (color : Bool) (ci : Nat) (fields : List DField) :
    (walk color ci fields).2.map stripCodes = (listed fields).map plainLine := by
  induction fields generalizing ci with
  | nil => rfl
  | cons f rest ih =>
    cases h : f.anonymous with
    | true => rw [walk_anon _ _ _ _ h, listed_cons_anon _ h, ih]
    | false => rw [walk_listed _ _ _ _ h, listed_cons _ h, List.map_cons, List.map_cons, stripCodes_fieldLine, ih]

theorem walk_palette_plain (ci : Nat) (fields : List DField) : (walk false ci fields).1 = [] := by
  induction fields generalizing ci with
  | nil => rfl
  | cons f rest ih =>
    cases h : f.anonymous with
    | true => rw [walk_anon _ _ _ _ h, ih]
    | false => rw [walk_listed _ _ _ _ h]; exact ih (ci + 1)

/-- entry `i` of the palette: the recorded size of the i-th listed field (0 when none is recorded) and the background
    colour number `(ci + i) mod 7` of the cycle -/
def paletteOf : Nat → List DField → List (Int × String)
  | _, [] => []
  | ci, f :: rest => (((f.size.getD 0 : Nat) : Int), (colorAt ci).2) :: paletteOf (ci + 1) rest

theorem walk_palette_colour (ci : Nat) (fields : List DField) :
    (walk true ci fields).1 = paletteOf ci (listed fields) := by
  induction fields generalizing ci with
  | nil => rfl
  | cons f rest ih =>
    cases h : f.anonymous with
    | true => rw [walk_anon _ _ _ _ h, listed_cons_anon _ h, ih]
    | false => rw [walk_listed _ _ _ _ h, listed_cons _ h, paletteOf, ← ih]; rfl

/-- **The hex part is a dump of exactly the bytes handed in.** For every class name, field list (any sizes, any values,
    any anonymous members), byte string, offset, and with or without colour: the hex part of the structure dump, with the
    colour codes removed, is the plain dump of the data at the running offset. -/
theorem c19_dumpstruct_hex (cls : String) (fields : List DField) (data : Bytes) (offset : Nat) (color : Bool) :
    (dumpstruct cls fields data offset color).hex.map (fun l => (l.offset, stripCodes l.values, stripCodes l.chars))
      = Hexdump.C19.plainDump data offset := by
  unfold dumpstruct
  exact Hexdump.C19.c19_colour_cosmetic data _ offset

/-- **Without colour the hex part IS the plain hex dump** (no colour code at all, not even a reset at the end of a row): `dumpstruct(obj, color=False)` shows `hexdump(data, offset=offset)`. -/
theorem c19_dumpstruct_plain (cls : String) (fields : List DField) (data : Bytes) (offset : Nat) :
    (dumpstruct cls fields data offset false).hex = Hexdump.hexdump data none offset := by
  -- the palette handed to `hexdump` is `if color then some pal else none`
  rfl

/-- **Every field is listed with its value.** The listing, with colour codes removed, is one line `- name: value` per
    non-anonymous field, in declaration order; the title names the class. Colour therefore changes nothing but the codes. -/
theorem c19_dumpstruct_listing (cls : String) (fields : List DField) (data : Bytes) (offset : Nat) (color : Bool) :
    (dumpstruct cls fields data offset color).listing.map stripCodes = (listed fields).map plainLine ∧
    (dumpstruct cls fields data offset color).title = "struct " ++ cls ++ ":" := by
  unfold dumpstruct
  exact ⟨walk_listing color 0 fields, rfl⟩

/-- **The palette follows the fields.** Without colour the palette is empty; with colour its i-th entry carries the
    recorded size of the i-th listed field and the i-th background colour of the seven-colour cycle. -/
theorem c19_dumpstruct_palette (fields : List DField) :
    (walk false 0 fields).1 = [] ∧ (walk true 0 fields).1 = paletteOf 0 (listed fields) :=
  ⟨walk_palette_plain 0 fields, walk_palette_colour 0 fields⟩

/-- non-vacuity: a structure with an anonymous member, a list and a negative integer -/
example :
    let fs : List DField := [⟨"a", false, some 2, .int (-255)⟩, ⟨"u", true, some 4, .text "x"⟩, ⟨"b", false, none, .list "[1,\n 2]"⟩]
    ((dumpstruct "S" fs [1, 2, 3] 16 true).listing.map stripCodes = ["- a: -0xff", "- b: [1,\n      2]"]) ∧
    (walk true 0 fs).1 = [(2, "\x1b[1;41m\x1b[1;37m"), (0, "\x1b[1;42m\x1b[1;37m")] := by
  decide

end Cstruct.Dumpstruct.C19
