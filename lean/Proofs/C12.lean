/-
  C12 — enums and flags preserve every underlying value and number members like C.

  Property theorems over `CstructModel/Enum.lean` (numbering fold of `TokenParser._enum`, `__eq__`/`__hash__` of Enum and
  Flag) and the `Ty.enum` cases of the read/write model.
  Trusted: the standard library's IntEnum/IntFlag machinery behind `cls(value)` (member lookup, pseudo-members); the model
  keeps the integer value and a name and is tied to the real classes by the correspondence run.
-/
import CstructModel.Enum
import Proofs.Core
import Proofs.C01

namespace Cstruct.C12
open Cstruct Cstruct.Enum Cstruct.Core

/-- **Every underlying value is preserved, named or not**: reading an enum/flag field yields exactly the integer its
    underlying type decodes (the member table is not even consulted), and dumping writes that integer back through the
    underlying type. -/
theorem c12_preserve (cfg : Cfg) (b : Scalar) (a : Nat) (f : Bool) (ctx : Ctx) (d : Bytes) (pos : Nat) (hb : Scalar.isInt b = true) :
    (∀ v p, readScalar cfg b d pos = .ok (.int v, p) → read cfg (.enum b a f) ctx d pos = .ok (.enum v, p)) ∧
    (∀ e, readScalar cfg b d pos = .error e → read cfg (.enum b a f) ctx d pos = .error e) ∧
    (∀ v wpos, write cfg (.enum b a f) (.enum v) wpos = writeScalar cfg b (.int v)) := by
  refine ⟨fun v p h => ?_, fun e h => ?_, fun v wpos => Core.Lemmas.write_enum_enum cfg b a f v wpos⟩
  · rw [Core.Lemmas.read_enum, h]; rfl
  · rw [Core.Lemmas.read_enum, h]; rfl

/-- **Round trip for every underlying value that fits the underlying type**, as a scalar and inside arrays and structures
    (instance of `roundtrip_S`, enums being part of fragment S). -/
theorem c12_roundtrip (cfg : Cfg) (b : Scalar) (a : Nat) (f : Bool) (hb : Scalar.isInt b = true) (v : Int) (hfit : intFits b v = true)
    (hpow : a = 0 ∨ ∃ k, a = 2 ^ k) (post : Bytes) (ctx : Ctx) :
    ∃ bs, write cfg (.enum b a f) (.enum v) 0 = .ok bs ∧ read cfg (.enum b a f) ctx (bs ++ post) 0 = .ok (.enum v, bs.length) := by
  have hS : (Ty.enum b a f).fragS cfg = true := by simp only [Ty.fragS]; exact hb
  have hu : (Ty.enum b a f).uniformAlign true = true := by simp only [Ty.uniformAlign]
  have hp : (Ty.enum b a f).pow2Aligned cfg := by simp only [Ty.pow2Aligned]; exact hpow
  have hv : HasTy cfg (.enum v) (.enum b a f) := .enum hfit
  have hal := Cstruct.C01.alignsDivide_zero cfg (.enum b a f)
  obtain ⟨bs, hw, _⟩ := write_total_S cfg true _ hS hu hp _ hv 0 hal
  have h := roundtrip_S cfg true _ hS hu hp _ hv 0 hal bs hw [] post rfl ctx
  rw [List.nil_append, Nat.zero_add] at h
  exact ⟨bs, hw, h⟩

theorem number_none (isFlag : Bool) (consts : List (String × Int)) (name : String) (rest : List (String × Option String))
    (next : Int) (vals : List (String × Int)) :
    number isFlag consts ((name, none) :: rest) next vals =
      number isFlag consts rest (nextVal isFlag next) (setVal name next vals) := rfl

theorem nextVal_false (v : Int) : nextVal false v = v + 1 := rfl

theorem nextVal_true (v : Int) : nextVal true v = (2 : Int) ^ bitLength v := by
  rw [nextVal, if_pos rfl, Int.natCast_pow]; rfl

theorem lt_two_pow_bitLength (v : Int) (hv : 0 ≤ v) : v < (2 : Int) ^ bitLength v := by
  obtain ⟨n, rfl⟩ := Int.eq_ofNat_of_zero_le hv
  rw [← nextVal_true, nextVal, if_pos rfl]
  apply Int.ofNat_lt.mpr
  unfold bitLength
  split
  · next h => rw [Int.natCast_eq_zero.mp h]; exact Nat.one_pos
  · exact Nat.lt_log2_self

theorem two_pow_bitLength_le (v : Int) (hv : 0 < v) : (2 : Int) ^ bitLength v ≤ 2 * v := by
  obtain ⟨n, rfl⟩ := Int.eq_ofNat_of_zero_le (Int.le_of_lt hv)
  have hn : n ≠ 0 := fun e => by rw [e] at hv; exact absurd hv (by decide)
  rw [← nextVal_true, nextVal, if_pos rfl]
  apply Int.ofNat_le.mpr
  rw [bitLength, if_neg (Int.natCast_ne_zero.mpr hn), Nat.pow_succ, Nat.mul_comm]
  exact Nat.mul_le_mul_left 2 (Nat.log2_self_le hn)

/-- **Enum numbering**: a member without explicit value continues from the previous one, `previous + 1`, the first from 0. -/
theorem c12_auto_enum (consts : List (String × Int)) (name : String) (rest : List (String × Option String)) (next : Int)
    (vals : List (String × Int)) :
    number false consts ((name, none) :: rest) next vals = number false consts rest (next + 1) (setVal name next vals) ∧
    enumValues false consts [(name, none)] = .ok [(name, 0)] := by
  exact ⟨number_none false consts name rest next vals, rfl⟩

/-- **Flag numbering**: a member without explicit value takes the next higher power of two above the previous value's
    highest set bit (the first takes 1): `nextVal true v = 2^(bit_length v)`, which is the least power of two `> v`. -/
theorem c12_auto_flag (v : Int) (hv : 0 ≤ v) :
    ∃ k : Nat, nextVal true v = 2 ^ k ∧ v < 2 ^ k ∧ (0 < v → (2 : Int) ^ k ≤ 2 * v) ∧
      (∀ consts name rest vals, number true consts ((name, none) :: rest) (2 ^ k) vals =
        number true consts rest (nextVal true (2 ^ k)) (setVal name (2 ^ k) vals)) := by
  exact ⟨bitLength v, nextVal_true v, lt_two_pow_bitLength v hv, two_pow_bitLength_le v,
    fun consts name rest vals => number_none true consts name rest _ vals⟩

/-- **Explicit values may be expressions over earlier members** (the members so far are the context, the constants the
    fallback), and the next implicit member continues from the explicit value. -/
theorem c12_expr_members (isFlag : Bool) (consts : List (String × Int)) (name text : String) (rest : List (String × Option String))
    (next : Int) (vals : List (String × Int)) (o : Expr.Obj) (x : Int) (ho : Expr.Obj.new text = .ok o)
    (hx : (o.evaluate { ctx := vals, consts := consts, sizeof := fun _ => .error .resolve }).2 = .ok x) :
    number isFlag consts ((name, some text) :: rest) next vals = number isFlag consts rest (nextVal isFlag x) (setVal name x vals) := by
  simp only [number, ho, hx]

/-- **Comparison semantics**: a member equals its integer value; it equals a same-class instance exactly when the values
    are equal; it never equals an instance of another enum or flag class; equality is reflexive and symmetric. -/
theorem c12_eq (a b : EVal) (n : Int) :
    (a.eqInt n = true ↔ a.value = n) ∧
    (a.cls = b.cls → (a.eq b = true ↔ a.value = b.value)) ∧
    (a.cls ≠ b.cls → a.eq b = false) ∧
    a.eq a = true ∧ a.eq b = b.eq a := by
  refine ⟨decide_eq_true_iff, fun h => ?_, fun h => if_pos h, ?_, ?_⟩
  · rw [EVal.eq, if_neg (not_not_intro h)]; exact decide_eq_true_iff
  · rw [EVal.eq, if_neg (not_not_intro rfl)]; exact decide_eq_true rfl
  · unfold EVal.eq
    by_cases h : a.cls = b.cls
    · rw [if_neg (not_not_intro h), if_neg (not_not_intro h.symm)]
      exact decide_eq_decide.mpr ⟨Eq.symm, Eq.symm⟩
    · rw [if_pos h, if_pos (Ne.symm h)]

/-- **Two parses of the same underlying value yield equal objects with equal hashes.** -/
theorem c12_parse_eq_hash (cls : Nat) (members : List (String × Int)) (v : Int) :
    (mk cls members v).eq (mk cls members v) = true ∧ (mk cls members v).hashKey = (mk cls members v).hashKey ∧
    (mk cls members v).value = v ∧
    (∀ w, (mk cls members v).eq (mk cls members w) = true → (mk cls members v).hashKey = (mk cls members w).hashKey) := by
  refine ⟨(c12_eq _ (mk cls members v) 0).2.2.2.1, rfl, rfl, fun w h => ?_⟩
  have : v = w := ((c12_eq (mk cls members v) (mk cls members w) 0).2.1 rfl).mp h
  rw [this]

example : enumValues false [] [("A", none), ("B", some "5"), ("C", none), ("D", some "B + C"), ("E", none)] =
    .ok [("A", 0), ("B", 5), ("C", 6), ("D", 11), ("E", 12)] := by decide +kernel
example : enumValues true [] [("a", none), ("b", none), ("c", some "0x10"), ("d", none), ("e", some "3"), ("f", none)] =
    .ok [("a", 1), ("b", 2), ("c", 16), ("d", 32), ("e", 3), ("f", 4)] := by decide +kernel

end Cstruct.C12
