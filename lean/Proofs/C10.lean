/-
  C10 — expressions evaluate with C precedence and left associativity, repeatably.

  Everything is stated over the model in `CstructModel/Expr.lean`, whose operator
  tables (`Gen.binaryOperators`, `Gen.unaryOperators`, `Gen.precedenceLevels`, `Gen.minusMarker`,
  `Gen.unaryContextTokens`, `Gen.tokenizerOperators`, `Gen.hexbinSuffix`) are regenerated from /repo's
  `expression.py` on every run, so these theorems are re-checked against the tables the code has now.
-/
import Proofs.Spec.C10
import Proofs.Lemmas.C10

namespace Cstruct.Expr.C10
open Cstruct Cstruct.Expr

/-- The tables the code evaluates with are exactly C's: same operator spellings with the same meaning, the
    same relative precedence, and both unary operators bind tighter than every binary one. -/
theorem c10_tables :
    Gen.binaryOperators = cBinary.map (fun (t, o, _) => (t, o)) ∧
    (∀ t o k, (t, o, k) ∈ cBinary → lookup t Gen.precedenceLevels = some k ∧ k < 6) ∧
    Gen.unaryOperators = [(Gen.minusMarker, .neg), ("~", .inv)] ∧
    lookup Gen.minusMarker Gen.precedenceLevels = some 6 ∧ lookup "~" Gen.precedenceLevels = some 6 ∧
    IsName "sizeof" ∧ ¬ IsName Gen.minusMarker := by
  refine ⟨by decide +kernel, fun t o k h => ?_, by decide +kernel, by decide +kernel, by decide +kernel,
    by decide +kernel, by decide +kernel⟩
  have hf := Lemmas.binFacts h
  exact ⟨hf.prec, Nat.lt_succ_of_le hf.le5⟩

/-- **C10, evaluation.** Every token sequence of the C grammar evaluates — through the in-place minus
    rewriting and the shunting-yard loop, exactly as `Expression.evaluate` runs them — to the value of its
    parse tree, for every binding of the identifiers (context first, then constants); afterwards the object
    holds the marked token list. -/
theorem c10_eval_correct (env : Env) (henv : EnvOk env) {raw marked : List String} {v : Int}
    (h : D env 0 raw marked v) :
    (Obj.evaluate ⟨raw⟩ env).2 = .ok v ∧ (Obj.evaluate ⟨raw⟩ env).1.tokens = marked := by
  have hrw : rewriteMinus raw = marked := (Lemmas.D_rewrite h none rfl).1
  obtain ⟨last, pend, qa, hrun, _, _, hdr⟩ := Lemmas.D_run henv h none [] [] [] trivial trivial
  rw [List.append_nil, List.append_nil] at hrun
  have hrun' : run env marked ⟨none, [], []⟩ = .ok ⟨some last, pend, qa⟩ := hrun
  simp only [Obj.evaluate, hrw, evalMarked, hrun', hdr, and_self]

/-- **C10, repeatability.** Evaluating the same object again, with the same or a different context, gives
    what a fresh object gives — for *every* token list, well-formed or not: the only state that survives a call
    is the rewritten token list, and the rewriting is idempotent. -/
theorem c10_repeat (o : Obj) (env1 env2 : Env) :
    ((o.evaluate env1).1.evaluate env2).2 = (o.evaluate env2).2 ∧
    ((o.evaluate env1).1.evaluate env2).1 = (o.evaluate env1).1 := by
  simp only [Obj.evaluate, Lemmas.rewriteMinus_idem, and_self]

/-- `/` and `%` (Python floor semantics in the code) are C's truncating `/` and `%` whenever both operands are
    non-negative — the domain in which the property prescribes them. -/
theorem c10_div_mod_nonneg (a b : Int) (ha : 0 ≤ a) (hb : 0 < b) :
    binop .floordiv a b = .ok (Int.tdiv a b) ∧ binop .mod a b = .ok (Int.tmod a b) := by
  have hb0 : b ≠ 0 := Int.ne_of_gt hb
  have hb' : 0 ≤ b := Int.le_of_lt hb
  simp only [binop, hb0, if_false, Int.fdiv_eq_tdiv_of_nonneg ha hb', Int.fmod_eq_tmod_of_nonneg ha hb',
    and_self]

/-- Literal tokens denote their C value: hexadecimal, binary and octal (as the tokenizer hands them on, i.e.
    `0o…` for a C literal with a leading 0) by prefix, decimal otherwise. -/
theorem c10_literals (ds : List Nat) (hne : ds ≠ []) :
    ((∀ d ∈ ds, d < 16) → ∀ p ∈ ['x', 'X'],
        parseInt (String.ofList ('0' :: p :: ds.map digitChar)) = some (Int.ofNat (ofDigits 16 ds))) ∧
    ((∀ d ∈ ds, d < 2) → ∀ p ∈ ['b', 'B'],
        parseInt (String.ofList ('0' :: p :: ds.map digitChar)) = some (Int.ofNat (ofDigits 2 ds))) ∧
    ((∀ d ∈ ds, d < 8) →
        parseInt (String.ofList ('0' :: 'o' :: ds.map digitChar)) = some (Int.ofNat (ofDigits 8 ds))) ∧
    ((∀ d ∈ ds, d < 10) → ds.head? ≠ some 0 →
        parseInt (String.ofList (ds.map digitChar)) = some (Int.ofNat (ofDigits 10 ds))) := by
  exact Lemmas.literals ds hne

/-- The tokenizer turns a C octal literal (leading `0`) into Python's `0o` spelling and drops `u`/`l` suffixes. -/
theorem c10_tokenize_octal_suffix :
    tokenize "0" = .ok ["0"] ∧ tokenize "017" = .ok ["0o17"] ∧ tokenize "0x1FuLL" = .ok ["0x1F"] ∧
    tokenize "10ull" = .ok ["10"] ∧ tokenize "0b101L" = .ok ["0b101"] ∧ tokenize "1<<2" = .ok ["1", "<<", "2"] := by
  decide +kernel

/-! ### Non-vacuity: the hypotheses are satisfiable by concrete derivations -/

def env0 : Env := { ctx := [("n", 3)], consts := [("A", 8), ("n", 100)], sizeof := fun _ => .ok 4 }

example : (Obj.evaluate ⟨["2", "*", "-", "n", "-", "-", "1"]⟩ env0).2 = .ok (-5) := by decide +kernel
example : (Obj.evaluate ⟨["1", "|", "2", "+", "4", "*", "A", "<<", "1"]⟩ env0).2 = .ok 69 := by decide +kernel

theorem env0_ok : EnvOk env0 := Lemmas.envOk_of_keys (by decide +kernel) (by decide +kernel)

example : EnvOk env0 := env0_ok

/-- `-n - 1` in `env0`: the first `-` is unary, the second binary -/
theorem env0_derivation : D env0 0 ["-", "n", "-", "1"] [Gen.minusMarker, "n", "-", "1"] (-4) := by
  have hn : D env0 6 ["n"] ["n"] 3 := .up (by decide) (.atom (.ctx (by decide +kernel) (by decide +kernel)))
  have h1 : D env0 5 ["1"] ["1"] 1 :=
    .up (by decide) (.up (by decide) (.atom (.lit (by decide +kernel) (by decide +kernel))))
  have hl : D env0 4 ["-", "n"] [Gen.minusMarker, "n"] (-3) := .up (by decide) (.up (by decide) (.neg hn))
  have hb : D env0 4 (["-", "n"] ++ "-" :: ["1"]) ([Gen.minusMarker, "n"] ++ "-" :: ["1"]) (-4) :=
    .bin (o := .sub) (by decide +kernel) hl h1 (by decide)
  exact .up (by decide) (.up (by decide) (.up (by decide) (.up (by decide) hb)))

example : D env0 0 ["-", "n", "-", "1"] [Gen.minusMarker, "n", "-", "1"] (-4) := env0_derivation

end Cstruct.Expr.C10
