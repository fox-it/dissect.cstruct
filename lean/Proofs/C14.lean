/-
  C14 — no hidden shared state: instances, defaults and cstruct objects are independent (`CstructModel/Heap.lean`: which
  locations an operation writes). "Parsing is a pure function of type and bytes" holds of the read model by construction;
  for the real code it rests on the footprint lemma (no write to a shared object on the parse path except the idempotent
  token rewriting) and the history run of this check.
  Known finding F8: container-valued defaults ARE shared between default-constructed instances
  (`c14_default_alias_witness`), so `c14_instances_partial` is about assignments, not in-place mutation of shared defaults.
-/
import CstructModel.Heap
import CstructModel.Gen.CsWrites
import Proofs.C15

namespace Cstruct.C14
open Cstruct Cstruct.Heap

theorem lookup_update_ne {α} (k j : Nat) (v : α) (l : List (Nat × α)) (h : k ≠ j) : lookupN j (updateN k v l) = lookupN j l := by
  have hjk : ¬ j = k := fun e => h e.symm
  induction l with
  | nil => show (if j = k then some v else none) = none; rw [if_neg hjk]
  | cons p r ih =>
    obtain ⟨k', v'⟩ := p
    show lookupN j (if k = k' then (k', v) :: r else (k', v') :: updateN k v r) = lookupN j ((k', v') :: r)
    by_cases hk : k = k'
    · -- the entry replaced is not the one looked up
      rw [if_pos hk]
      show (if j = k' then some v else lookupN j r) = if j = k' then some v' else lookupN j r
      rw [if_neg (hk ▸ hjk), if_neg (hk ▸ hjk)]
    · rw [if_neg hk]
      show (if j = k' then some v' else lookupN j (updateN k v r)) = if j = k' then some v' else lookupN j r
      rw [ih]

/-- the cstruct object an operation acts on, if any -/
def opCs : Op → Option Nat
  | .setEndian i _ => some i | .addType i _ _ => some i | .addConst i _ _ => some i | .nextAnonymous i => some i
  | .setPointer i _ => some i | .addLookup i _ _ => some i
  | _ => none

/-- **Frame for cstruct objects**: loading definitions, changing endianness or adding types/constants on one cstruct object
    never changes the state of another, and never touches any instance or container. -/
theorem c14_frame_cs (s : Store) (op : Op) (i j : Nat) (hop : opCs op = some i) (hij : i ≠ j) :
    lookupN j (apply s op).cs = lookupN j s.cs ∧ (apply s op).insts = s.insts ∧ (apply s op).cells = s.cells := by
  cases op <;> simp only [opCs, Option.some.injEq, reduceCtorEq] at hop
  all_goals (subst hop; simp only [apply]; split <;> simp [lookup_update_ne _ _ _ _ hij])

/-- **Frame for instances**: assigning a field of one instance changes no other instance, no container and no cstruct
    object. -/
theorem c14_instances_partial (s : Store) (x y f : Nat) (v : Cell) (hxy : x ≠ y) :
    lookupN y (apply s (.setField x f v)).insts = lookupN y s.insts ∧
    (apply s (.setField x f v)).cells = s.cells ∧ (apply s (.setField x f v)).cs = s.cs := by
  simp only [apply]; split <;> simp [lookup_update_ne _ _ _ _ hxy]

/-- **Writes through a reference change exactly that container**: every instance that does not hold a reference to it observes
    nothing. -/
theorem c14_setitem_frame (s : Store) (l k : Nat) (v : Cell) (y : Nat)
    (hno : ∀ fs, lookupN y s.insts = some fs → Cell.ref l ∉ fs) :
    observe (apply s (.setItem l k v)) y = observe s y := by
  simp only [apply]
  split
  · rename_i cs hcs
    simp only [observe]
    cases hy : lookupN y s.insts with
    | none => simp
    | some fs =>
      simp only [Option.map_some, Option.some.injEq]
      apply List.map_congr_left
      intro c hc
      cases c with
      | int _ => rfl
      | ref l' =>
        have : l ≠ l' := by
          intro e; subst e; exact hno fs hy hc
        simp [lookup_update_ne _ _ _ _ this]
  · rfl

/-- **F8, the witness**: with the code's aliased default construction, mutating the array of one default-constructed instance
    in place is observed by another default-constructed instance (and by every later one): the unguarded statement of the
    property is false of the model of the unchanged code, exactly as on the real code
    (`x = cs.A(); x.a[0] = 9; cs.A().a == [9, 0]`). -/
theorem c14_default_alias_witness :
    let s0 : Store := { cs := [], cells := [(100, [.int 0, .int 0])], insts := [] }
    let defaults := [Cell.int 0, Cell.ref 100]
    let s1 := constructAliased s0 1 defaults
    let s2 := constructAliased s1 2 defaults
    let s3 := apply s2 (.setItem 100 0 (.int 9))
    observe s3 2 ≠ observe s2 2 ∧ observe (constructAliased s3 3 defaults) 3 ≠ observe s1 1 := by
  decide

theorem c14_memo {K V} [DecidableEq K] (f : K → V) (m : List (K × V)) (hm : ∀ p ∈ m, p.2 = f p.1) (k : K) :
    (Cstruct.Sched.memoGet f m k).1 = f k ∧ ∀ p ∈ (Cstruct.Sched.memoGet f m k).2, p.2 = f p.1 :=
  Cstruct.C15.c14_memo_transparent f m hm k

/-- **The operations on a cstruct object are all there are**: every attribute of a cstruct object that the library's own
    code writes (extracted from cstruct.py, parser.py and the type modules on every run, `Gen/CsWrites.lean`) is one of the
    attributes the model carries (`Heap.csAttrs`), each of which is written by exactly one `Op`. A change that keeps new
    state on the cstruct object (a parser, a cache, a mode flag) makes this fail to build. -/
theorem c14_cs_alphabet : ∀ w ∈ Gen.csWrites, w.2.2 ∈ Heap.csAttrs := by decide

theorem c14_footprint : ∀ w ∈ Gen.sharedWrites, w = ("Expression.evaluate", "store self.tokens.[]") :=
  Cstruct.C15.c15_footprint

end Cstruct.C14
