/-
  C03 — the compiler itself.  `CstructModel/Compile.lean` is a model of `_ReadSourceGenerator` (compiler.py): from a field
  list and its layout to the plan of the source it generates (`compile`; `.error ()` = the generator raises and the
  structure keeps the interpreted reader).  The check compares, for every generated structure, the model's plan with the
  plan `harness/srcplan.py` extracts from the source the real compiler produced (exact equality), and the model's
  `.error ()` with the `__compiled__` flag.  What is proved here, for every configuration and every field list:

  * `c03_compile_validates` — whatever the compiler emits for a well-formed structure is accepted by the plan validator
        (`Compiler.planOK`, the verified validator of `Proofs/C03.lean`);
  * `c03_compile_refines`   — hence, for every well-formed structure for which the compiler does not fall back, the
        compiled reader refines the interpreted reader (`c03_compiled_refines`): if the compiled reader returns, the
        interpreted reader returns the same value, the same end position and the same sizes of byte-occupying fields.

  The well-formedness hypothesis `compileWF` (Proofs/Spec/C03Compile.lean) is a decidable predicate over the top-level
  members; it excludes, besides shapes that no definition built from the type table has, arrays of `void` and the known
  finding F23 (aligned bit-fields whose storage type has alignment ≠ size: int24, int48).
-/
import Proofs.Lemmas.C03CompileMain
import Proofs.C03

namespace Cstruct.Compiler.C03
open Cstruct Cstruct.Compiler Cstruct.Core.Lemmas

theorem c03_compile_validates (cfg : Cfg) (al : Bool) (fs : Fields) (sz : Option Nat) (sa : Nat)
    (offs : List (Option Nat)) (plan : Plan)
    (hl : structLayout cfg al fs = .ok (sz, sa, offs)) (hwf : compileWF cfg al fs = true)
    (hc : compile cfg al fs offs = .ok plan) :
    planOK cfg al fs plan = true := by
  rw [planOK, hl]
  have had : AlignDvd cfg al sa fs := by
    cases al with
    | false => exact alignDvd_false cfg sa fs
    | true => exact (layout_alignDvd cfg true fs LState.init sz sa offs hl (Or.inl rfl) (compileWF_allP2 cfg fs hwf)).2
  exact genFields_ok cfg al sa fs offs LState.init sz sa hl hwf had GState.init _ fs offs plan (inv_init cfg al fs offs hwf) hc

theorem c03_compile_refines (cfg : Cfg) (al : Bool) (fs : Fields) (sz : Option Nat) (sa : Nat)
    (offs : List (Option Nat)) (plan : Plan) (data : Bytes) (pos : Nat)
    (hl : structLayout cfg al fs = .ok (sz, sa, offs)) (hwf : compileWF cfg al fs = true)
    (hc : compile cfg al fs offs = .ok plan)
    (v : Val) (szs : List (String × Nat)) (p : Nat)
    (hr : readCompiled cfg al fs plan data pos = .ok (v, szs, p)) :
    ∃ szs', readStructWithSizes cfg al fs data pos = .ok (v, szs', p) ∧
      szs.filter (fun e => e.2 ≠ 0) = szs'.filter (fun e => e.2 ≠ 0) :=
  c03_compiled_refines cfg al fs plan data pos (c03_compile_validates cfg al fs sz sa offs plan hl hwf hc)
    v szs p hr

-- non-vacuity: the sample structure of `Proofs/Spec/C03.lean` (aligned; a bit-field run, a gap, a nested structure, an
-- array, a void member, an int24) is well-formed, and the model of the compiler emits exactly the plan that the real
-- compiler's source contains today
example : compileWF samplecfg true sampleFields = true ∧
    structLayout samplecfg true sampleFields = .ok (some 24, 4, [some 0, none, some 4, some 8, some 16, some 20, some 20]) ∧
    compile samplecfg true sampleFields [some 0, none, some 4, some 8, some 16, some 20, some 20] = .ok samplePlan := by
  refine ⟨by decide +kernel, sample_layout, by decide +kernel⟩

-- a bit-field that continues its unit in an aligned structure (alignment statement, then a seek in front of a void member
-- while the validator does not know the static position): the model emits the plan with the seek, the validator accepts it
example : compileWF samplecfg true contFields = true ∧
    structLayout samplecfg true contFields = .ok (some 8, 4, [some 0, none, some 2, some 4]) ∧
    compile samplecfg true contFields [some 0, none, some 2, some 4] = .ok contPlan ∧
    planOK samplecfg true contFields contPlan = true := by
  have h1 : compileWF samplecfg true contFields = true := by decide +kernel
  have h2 : structLayout samplecfg true contFields = .ok (some 8, 4, [some 0, none, some 2, some 4]) := by decide +kernel
  have h3 : compile samplecfg true contFields [some 0, none, some 2, some 4] = .ok contPlan := by decide +kernel
  exact ⟨h1, h2, h3, c03_compile_validates _ _ _ _ _ _ _ h2 h1 h3⟩

end Cstruct.Compiler.C03
