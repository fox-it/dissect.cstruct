/-
  C10, text level — specification side: which token spellings are well formed, what the tokenizer turns each
  of them into, and how a token list is laid out as an expression text with arbitrary blanks.
  Definitions only (no theorems); used by `Proofs/C10Text.lean` (property theorems) and
  `Proofs/Lemmas/C10Tok*.lean` (helper lemmas).
-/
import Proofs.Spec.C10

namespace Cstruct.Expr.C10
open Cstruct Cstruct.Expr

/-! ### Well-formed token spellings -/

def IsU (c : Char) : Prop := c = 'u' ∨ c = 'U'
def IsL (c : Char) : Prop := c = 'l' ∨ c = 'L'

/-- The integer suffixes the tokenizer accepts (and drops): none, `u`, `ul`, `ull`, `l`, `ll`, `lu`, `llu`,
    every letter in either case (so also the mixed-case `lL`, which C itself does not allow). -/
inductive IsSuffix : List Char → Prop
  | none : IsSuffix []
  | u {a} : IsU a → IsSuffix [a]
  | ul {a b} : IsU a → IsL b → IsSuffix [a, b]
  | ull {a b c} : IsU a → IsL b → IsL c → IsSuffix [a, b, c]
  | l {a} : IsL a → IsSuffix [a]
  | ll {a b} : IsL a → IsL b → IsSuffix [a, b]
  | lu {a b} : IsL a → IsU b → IsSuffix [a, b]
  | llu {a b c} : IsL a → IsL b → IsU c → IsSuffix [a, b, c]

def isOctDigit (c : Char) : Bool := decide ('0' ≤ c) && decide (c ≤ '7')
def isBinDigit (c : Char) : Bool := c = '0' || c = '1'

/-- C integer literal bodies (C standard §6.4.4.1, plus the `0b` extension): `0`; decimal without a leading
    zero; `0x`/`0X` and hexadecimal digits; `0b`/`0B` and binary digits; `0` and octal digits. -/
inductive WFLit : List Char → Prop
  | zero : WFLit ['0']
  | dec {c ds} : c.isDigit = true → c ≠ '0' → (∀ d ∈ ds, d.isDigit = true) → WFLit (c :: ds)
  | hex {p ds} : p = 'x' ∨ p = 'X' → ds ≠ [] → (∀ d ∈ ds, isHexDigit d = true) → WFLit ('0' :: p :: ds)
  | bin {p ds} : p = 'b' ∨ p = 'B' → ds ≠ [] → (∀ d ∈ ds, isBinDigit d = true) → WFLit ('0' :: p :: ds)
  | oct {ds} : ds ≠ [] → (∀ d ∈ ds, isOctDigit d = true) → WFLit ('0' :: ds)

/-- Well-formed tokens of an integer expression text:
    * one of the tokenizer's single-character operators / parentheses, or `<<`, `>>`;
    * an identifier: a letter or `_`, then letters, digits, `_` (this includes `sizeof`, which only the
      evaluator treats specially);
    * an integer literal with an optional suffix.
    The evaluator's internal unary-minus marker `-u` is *not* a token spelling: the text `-u` is the two tokens
    `-` and `u` (see `c10_marker_not_token`). -/
inductive WFTok : String → Prop
  | op {c} : isOperatorChar c = true → WFTok (String.singleton c)
  | shl : WFTok "<<"
  | shr : WFTok ">>"
  | ident {c cs} : isIdStart c = true → (∀ d ∈ cs, isIdChar d = true) → WFTok (String.ofList (c :: cs))
  | lit {body sfx} : WFLit body → IsSuffix sfx → WFTok (String.ofList (body ++ sfx))

/-! ### What the tokenizer makes of a token -/

def isSuffixChar (c : Char) : Bool := c = 'u' || c = 'U' || c = 'l' || c = 'L'

/-- a C octal literal (leading `0`, at least two characters, no `x`/`b` prefix) becomes Python's `0o…` -/
def octRewrite (tok : List Char) : List Char :=
  match tok with
  | '0' :: d :: rest => if isHexBinSuffix d then tok else '0' :: 'o' :: d :: rest
  | _ => tok

/-- The token the tokenizer emits for a well-formed spelling: a literal loses its suffix and, if octal, is
    respelled `0o…`; everything else is kept as is. -/
def normTok (t : String) : String :=
  match t.toList with
  | c :: r => if c.isDigit then String.ofList (octRewrite (c :: r.takeWhile (fun d => !isSuffixChar d))) else t
  | [] => t

/-! ### Laying tokens out as text -/

/-- a (possibly empty) string of spaces and tabs -/
def IsBlank (s : String) : Prop := ∀ c ∈ s.toList, c = ' ' ∨ c = '\t'

/-- `seps[0] t₀ seps[1] t₁ … tₙ₋₁ seps[n]`; missing separators are empty, surplus ones ignored -/
def render : List String → List String → String
  | seps, [] => seps.headD ""
  | seps, t :: ts => seps.headD "" ++ t ++ render seps.tail ts

/-- identifiers and literals: tokens that start with a letter, a digit or `_` -/
def isWordTok (t : String) : Bool :=
  match t.toList with
  | c :: _ => isIdChar c
  | [] => false

/-- Admissible separation: every separator (also before the first and after the last token) is blank, and
    a separator may be empty unless it stands between two word tokens — the only adjacent tokens that
    would fuse (`a` `1` → `a1`, `1` `u` → `1`, `0` `x1` → `0x1`); operators, parentheses, `<<`, `>>` never fuse with
    anything (`>>` `>>` written `>>>>` is two tokens). -/
def SepOk : List String → List String → Prop
  | seps, [] => IsBlank (seps.headD "")
  | seps, t :: ts => IsBlank (seps.headD "") ∧
      (∀ t', ts.head? = some t' → isWordTok t = true → isWordTok t' = true → seps.tail.headD "" ≠ "") ∧
      SepOk seps.tail ts

/-! ### Literal values (C standard §6.4.4.1) -/

/-- value of a digit string in a base, most significant digit first -/
def charsValue (base : Nat) (cs : List Char) : Nat := ofDigits base (cs.map digitVal)

/-- value of a literal body: hexadecimal after `0x`/`0X`, binary after `0b`/`0B`, octal after any other leading `0`
    followed by something, decimal otherwise -/
def litValue (body : List Char) : Nat :=
  match body with
  | c :: p :: ds =>
    if c = '0' ∧ (p = 'x' ∨ p = 'X') then charsValue 16 ds
    else if c = '0' ∧ (p = 'b' ∨ p = 'B') then charsValue 2 ds
    else if c = '0' then charsValue 8 (p :: ds)
    else charsValue 10 body
  | _ => charsValue 10 body

/-! ### Decidable checkers (for concrete examples; sound by `wfTokB_sound`, `sepOkB_sound`) -/

def isSuffixB : List Char → Bool
  | [] => true
  | [a] => isSuffixChar a
  | [a, b] => ((a = 'u' || a = 'U') && (b = 'l' || b = 'L')) || ((a = 'l' || a = 'L') && isSuffixChar b)
  | [a, b, c] => ((a = 'u' || a = 'U') && (b = 'l' || b = 'L') && (c = 'l' || c = 'L')) ||
      ((a = 'l' || a = 'L') && (b = 'l' || b = 'L') && (c = 'u' || c = 'U'))
  | _ => false

def wfLitB : List Char → Bool
  | [] => false
  | c :: ds =>
    if c = '0' then
      match ds with
      | [] => true
      | p :: ds' =>
        if p = 'x' ∨ p = 'X' then !ds'.isEmpty && ds'.all isHexDigit
        else if p = 'b' ∨ p = 'B' then !ds'.isEmpty && ds'.all isBinDigit
        else (p :: ds').all isOctDigit
    else c.isDigit && ds.all Char.isDigit

def wfTokB (t : String) : Bool :=
  match t.toList with
  | [] => false
  | c :: cs =>
    if isOperatorChar c then cs.isEmpty
    else if c.isDigit then
      let body := c :: cs.takeWhile (fun d => !isSuffixChar d)
      wfLitB body && isSuffixB (cs.dropWhile (fun d => !isSuffixChar d))
    else if isIdStart c then cs.all isIdChar
    else t = "<<" || t = ">>"

def isBlankB (s : String) : Bool := s.toList.all (fun c => c = ' ' || c = '\t')

def sepOkB : List String → List String → Bool
  | seps, [] => isBlankB (seps.headD "")
  | seps, t :: ts => isBlankB (seps.headD "") &&
      (match ts with
       | t' :: _ => !(isWordTok t && isWordTok t') || seps.tail.headD "" != ""
       | [] => true) &&
      sepOkB seps.tail ts

end Cstruct.Expr.C10
