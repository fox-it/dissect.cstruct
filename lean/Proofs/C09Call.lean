import CstructModel.Call

/-!
# C09 / C11 / C18 — the class call: which calls parse, which construct

`T(x)`, `T.read(x)`, `T.reads(x)` "all give the same result" (C09) rests on the metaclass dispatch sending every buffer to
`reads` and every readable to `_read`; the two shortcuts are the only exceptions, and they fire only for a `bytes` object of
exactly the size of a lone char member (structure) or of the char type itself. A union treats exactly the parsed forms as
parsed (C11: a parsed union is never rebuilt from its first member); everything is decided from the class as it is NOW
(C18: a structure that once had a single char field and was extended no longer takes the shortcut).
The model is `CstructModel/Call.lean`; it is tied to the code by the `callroute` correspondence (harness/v9_c09call.py).
-/

namespace Cstruct.Call.C09
open Cstruct.Call

/-- **A readable argument is read, a bytearray / memoryview is parsed - for every structure or union class, whatever its
    fields and whatever keywords accompany it.** -/
theorem c09_call_stream_and_buffer (c : Cls) (nkw : Nat) :
    structCall c [.readable] nkw = .read ∧ structCall c [.buffer] nkw = .reads := by
  rcases hf : c.fields with _ | ⟨f, _ | ⟨g, r⟩⟩ <;> simp [structCall, metaCall, hf]

/-- **A `bytes` argument is parsed unless the structure shortcut applies**, and the shortcut applies exactly when the class
    has ONE field, that field's type is a bytes type, it is not a bit-field, it is not placed at an explicit non-zero offset
    (fix F86) and its size is the length of the argument
    (for a structure class, which is not itself a bytes subclass). -/
theorem c09_call_bytes (c : Cls) (hc : c.isBytes = false) (n nkw : Nat) :
    (structCall c [.bytes n] nkw = .shortcutStruct ↔ ∃ f, c.fields = [f] ∧ f.isBytes = true ∧ f.bits = false ∧ f.offset = false ∧ f.size = some n) ∧
    (structCall c [.bytes n] nkw ≠ .shortcutStruct → structCall c [.bytes n] nkw = .reads) := by
  rcases hf : c.fields with _ | ⟨f, _ | ⟨g, r⟩⟩
  · simp [structCall, metaCall, hf, hc]
  · by_cases h : f.isBytes = true ∧ f.bits = false ∧ f.offset = false ∧ f.size = some n
    · simp [structCall, hf, h]
    · have h' : ¬ (f.isBytes = true ∧ f.bits = false ∧ f.offset = false ∧ f.size = some n) := h
      simp only [structCall, hf, h, if_false, metaCall, hc]
      simp only [List.cons.injEq, and_true]
      constructor
      · constructor
        · intro hm; simp at hm
        · rintro ⟨g, rfl, h1, h2, h3, h4⟩; exact absurd ⟨h1, h2, h3, h4⟩ h'
      · intro _; simp
  · simp [structCall, metaCall, hf, hc]

/-- **The shortcut needs exactly one field** (so a structure that passed through a one-char-field state and was extended
    parses `T(bytes)` like the structure declared in one piece: the decision looks at the field list as it is now). -/
theorem c18_shortcut_one_field (c : Cls) (args : List Arg) (nkw : Nat) (h : c.fields.length ≠ 1) :
    structCall c args nkw ≠ .shortcutStruct := by
  have hm : ∀ args, metaCall c args ≠ .shortcutStruct := by
    intro args
    unfold metaCall
    rcases args with _ | ⟨a, _ | ⟨b, r⟩⟩
    · simp
    · cases a <;> simp <;> (try split) <;> simp
    · simp
  rcases hf : c.fields with _ | ⟨f, _ | ⟨g, r⟩⟩
  · rcases args with _ | ⟨a, r⟩
    · simp only [structCall, hf]; split <;> simp
    · simpa [structCall, hf] using hm (a :: r)
  · simp [hf] at h
  · rcases args with _ | ⟨a, r⟩
    · simp only [structCall, hf]; split <;> simp
    · simpa [structCall, hf] using hm (a :: r)

/-- **No argument at all gives the default instance; keywords alone give the value constructor.** -/
theorem c17_call_no_args (c : Cls) (nkw : Nat) :
    structCall c [] nkw = (if nkw = 0 then .default_ else .init) := by
  rcases hf : c.fields with _ | ⟨f, _ | ⟨g, r⟩⟩ <;> simp [structCall, hf]

/-- **A union made from a parsed form is left as parsed** (never rebuilt from its first member): one buffer or readable
    argument and no keywords. -/
theorem c11_parsed_not_rebuilt (a : Arg) (h : a = .readable ∨ a.isBuffer = true) : unionPost [a] 0 = .asParsed := by
  rcases h with rfl | h
  · decide
  · cases a <;> simp_all [unionPost, Arg.isBuffer]

/-- **Every other call with arguments or keywords is a value initialisation** (the union is rebuilt), and the call without
    anything is the default initialisation. -/
theorem c11_value_rebuilt (args : List Arg) (nkw : Nat) :
    (unionPost args nkw = .rebuild ↔
      (args ≠ [] ∧ ¬ (∃ a, args = [a] ∧ (a = .readable ∨ a.isBuffer = true))) ∨ nkw ≠ 0) ∧
    (unionPost [] 0 = .proxify) := by
  refine ⟨?_, by decide⟩
  unfold unionPost
  by_cases hk : nkw = 0
  · subst hk
    match args with
    | [] => simp
    | [a] =>
      have : (∃ a', [a] = [a'] ∧ (a' = .readable ∨ a'.isBuffer = true)) ↔ (a = .readable ∨ a.isBuffer = true) :=
        ⟨fun ⟨_, h, hp⟩ => by cases h; exact hp, fun h => ⟨a, rfl, h⟩⟩
      rw [this]
      cases a with
      | bytes n => simp [Arg.isBuffer]
      | _ => decide
    | a :: b :: r => simp
  · simp [hk]

/-- non-vacuity: `struct S { char a[4]; }` called with 4 bytes takes the shortcut, with 3 bytes or a bytearray it parses; after
    `add_field("b", uint8)` the same 4 bytes are parsed; a union called with a memoryview is left as parsed, with a value it
    is rebuilt -/
example :
    let one : Cls := ⟨false, some 4, [⟨true, false, some 4, false⟩]⟩
    let two : Cls := ⟨false, some 5, [⟨true, false, some 4, false⟩, ⟨false, false, some 1, false⟩]⟩
    let placed : Cls := ⟨false, some 6, [⟨true, false, some 4, true⟩]⟩
    structCall one [.bytes 4] 0 = .shortcutStruct ∧ structCall one [.bytes 3] 0 = .reads ∧ structCall one [.buffer] 0 = .reads ∧
    structCall two [.bytes 4] 0 = .reads ∧ structCall placed [.bytes 4] 0 = .reads ∧ unionPost [.buffer] 0 = .asParsed ∧ unionPost [.value] 0 = .rebuild ∧
    metaCall ⟨true, some 4, []⟩ [.bytes 4] = .shortcutScalar := by decide

end Cstruct.Call.C09
