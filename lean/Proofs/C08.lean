/-
  C08 — truncated or failing input never fabricates data.

  Property theorems, derived from `Core.read_extend` (proved for every *plain* type: every scalar, enum, pointer, fixed /
  expression-sized / null-terminated array, nested structure, bit-field, packed, aligned or mixed; not to-end-of-stream
  arrays, whose extent is the end of input by definition; unions are in `Proofs/C08Union.lean`).
  The model's `read` is a pure function of (configuration, type, context, data, position), so "a failed parse leaves no
  residue" is true of the model by construction; for the real code it is established by the fault-injection run of this
  check (re-parsing after every injected failure) and by C14/C15's footprint analysis.
-/
import Proofs.Core
import Proofs.C05

namespace Cstruct.C08
open Cstruct Cstruct.Core

/-- **Any value returned from a shortened input is the value returned from the complete input**, with the same end
    position: cutting the input at any point `k` either makes parsing fail or changes nothing. -/
theorem c08_shortened (cfg : Cfg) (ty : Ty) (hplain : ty.plain = true) (ctx : Ctx) (data : Bytes) (pos k : Nat) (v : Val) (p : Nat)
    (hr : read cfg ty ctx (data.take k) pos = .ok (v, p)) :
    read cfg ty ctx data pos = .ok (v, p) :=
  read_extend cfg ty hplain ctx (data.take k) pos v p hr data (List.take_prefix k data)

theorem error_or_eq {α : Type} {x y : Except Err α} (h : ∀ r, x = .ok r → y = .ok r) {r : α} (hy : y = .ok r) :
    (∃ e, x = .error e) ∨ x = .ok r := by
  cases hx : x with
  | error e => exact Or.inl ⟨e, rfl⟩
  | ok r' => exact Or.inr (by have := h r' hx; rw [hy] at this; cases this; rfl)

/-- **Contrapositive form:** if the complete input parses to `(v, p)` then no cut of it parses to anything else — it fails or
    returns exactly `(v, p)`. In particular a truncated input never yields a value built from bytes that were not there. -/
theorem c08_never_fabricates (cfg : Cfg) (ty : Ty) (hplain : ty.plain = true) (ctx : Ctx) (data : Bytes) (pos k : Nat) (v : Val) (p : Nat)
    (hfull : read cfg ty ctx data pos = .ok (v, p)) :
    (∃ e, read cfg ty ctx (data.take k) pos = .error e) ∨ read cfg ty ctx (data.take k) pos = .ok (v, p) :=
  error_or_eq (fun r h => c08_shortened cfg ty hplain ctx data pos k r.1 r.2 h) hfull

/-- The same for an arbitrary extension of the input (a stream that later delivers more bytes). -/
theorem c08_extension (cfg : Cfg) (ty : Ty) (hplain : ty.plain = true) (ctx : Ctx) (d more : Bytes) (pos : Nat) (v : Val) (p : Nat)
    (hr : read cfg ty ctx d pos = .ok (v, p)) : read cfg ty ctx (d ++ more) pos = .ok (v, p) :=
  read_extend cfg ty hplain ctx d pos v p hr (d ++ more) (List.prefix_append d more)

/-- **Every fixed-width primitive checks its length**: a read that gets fewer bytes than requested is an EOFError, never a
    value; a LEB128 whose last byte is missing likewise (`c05_leb_truncated`). -/
theorem c08_short_read (data : Bytes) (pos n : Nat) (h : data.length < pos + n) (hn : 0 < n) :
    readExact data pos n = .error .eof := by
  have hne : ((data.drop pos).take n).length ≠ n := by
    simp only [List.length_take, List.length_drop]; omega
  simp only [readExact, sread, hne, ne_eq, not_false_eq_true, if_true]

theorem c08_leb_truncated (s : Bool) (bs : Bytes) (h : ∀ b ∈ bs, b.toNat ≥ 128) : lebRead s bs = .error .eof :=
  Cstruct.C05.c05_leb_truncated s bs h

end Cstruct.C08
