/-
  C13 — definition parsing ignores comments; aliases resolve to the very same type; re-declaration only for the same target;
  unknown or cyclic aliases are resolve errors.  Over the models `Parser.stripAux` (`TokenParser._remove_comments`) and
  `Parser.resolveB / addType` (`cstruct.resolve / add_type`).

  * `c13_strip_append`: on a text that ends between lexical items (`Closed`) the comment scanner is compositional.
  * `c13_comment_block / _line / _line_crlf / _line_cr_end`: a block comment inserted at such a point is replaced by `commentRepl`
    (`c13_comment_repl`: its newlines; else one blank when it stands directly between two characters that are no white space, so
    that `uint8/**/a` are two tokens; else nothing), a line comment by nothing (its newline stays), on a CRLF-terminated line
    together with its carriage return (fix F73, `//[^\r\n]*\r?$`; `c13_comment_line_crlf_is_lf`).  `Closed` and `stripFrom` carry
    the input characters in front of and behind the text because `commentRepl` looks at both (`c13_strip_prev`).
  * `c13_newlines_preserved`: for every text, the scanner preserves the line structure (line numbers in error messages).
  * `c13_resolve_chain / _unique / _unknown / _cycle`: `resolve` succeeds exactly on alias chains of at most 10 look-ups that end
    in a type, and returns that type; an unknown name and a cyclic alias are resolve errors.
  * `c13_alias_same`, `c13_redeclare`, `c13_commute`: `add_type` of a fresh alias resolves to the very same type as its target and
    changes nothing else; re-declaring a bound name is accepted exactly for the same target; adding two different fresh names
    commutes.
  * `c13_builtin_aliases`: in the built-in table generated from `cstruct.__init__`, every alias resolves to what its target
    resolves to.
-/
import Proofs.Lemmas.C13Strip
import Proofs.Lemmas.C13Alias

namespace Cstruct.Parser.C13
open Cstruct Cstruct.Parser

theorem c13_strip_append (p : Option Char) (a o b : List Char) (h : Closed p a b.head? o) :
    stripFrom p (a ++ b) = o ++ stripFrom (lastOr p a) b :=
  strip_append p a o b h

theorem c13_comment_block (p : Option Char) (a o body b : List Char) (h : Closed p a (some '/') o) (hb : hasClose body = false) :
    stripFrom p (a ++ ('/' :: '*' :: body ++ '*' :: '/' :: b))
      = o ++ commentRepl (lastOr p a) body b.head? ++ stripFrom (some '/') b :=
  comment_block p a o body b h hb

theorem c13_comment_line (p : Option Char) (a o body b : List Char) (h : Closed p a (some '/') o) (hb : ∀ c ∈ body, isEol c = false) :
    stripFrom p (a ++ ('/' :: '/' :: body ++ '\n' :: b)) = o ++ stripFrom (some '/') ('\n' :: b) :=
  comment_line p a o body b h hb

/-- **A line comment on a CRLF-terminated line is replaced by nothing, together with its carriage return; the newline stays**
    (fix F73): the scan continues at the `\n`, behind the input character `\r`. -/
theorem c13_comment_line_crlf (p : Option Char) (a o body b : List Char) (h : Closed p a (some '/') o)
    (hb : ∀ c ∈ body, isEol c = false) :
    stripFrom p (a ++ ('/' :: '/' :: body ++ '\r' :: '\n' :: b)) = o ++ stripFrom (some '\r') ('\n' :: b) :=
  comment_line_crlf p a o body b h hb

/-- **CRLF and LF line ends are alike for a line comment**: the stripped text is the same. -/
theorem c13_comment_line_crlf_is_lf (p : Option Char) (a o body b : List Char) (h : Closed p a (some '/') o)
    (hb : ∀ c ∈ body, isEol c = false) :
    stripFrom p (a ++ ('/' :: '/' :: body ++ '\r' :: '\n' :: b)) = stripFrom p (a ++ ('/' :: '/' :: body ++ '\n' :: b)) := by
  rw [comment_line_crlf p a o body b h hb, comment_line p a o body b h hb,
    stripFrom_prev (some '\r') (some '/') ('\n' :: b) (by intro r e; cases e)]

/-- **A line comment closed by one carriage return at the very end of the text disappears with it** (`\r?$` at the end of the
    text). -/
theorem c13_comment_line_cr_end (p : Option Char) (a o body : List Char) (h : Closed p a (some '/') o)
    (hb : ∀ c ∈ body, isEol c = false) :
    stripFrom p (a ++ ('/' :: '/' :: body ++ ['\r'])) = o :=
  comment_line_cr_end p a o body h hb

/-- the three outcomes of a block comment (`commentRepl`): its newlines; else one blank between two characters that are no white
    space; else nothing -/
theorem c13_comment_repl (p n : Option Char) (body : List Char) :
    (newlinesOf body ≠ [] → commentRepl p body n = newlinesOf body) ∧
    (newlinesOf body = [] → ∀ x y, p = some x → n = some y → isSpace x = false → isSpace y = false → commentRepl p body n = [' ']) ∧
    (newlinesOf body = [] → (p = none ∨ n = none ∨ (∃ x, p = some x ∧ isSpace x = true) ∨ (∃ y, n = some y ∧ isSpace y = true)) →
      commentRepl p body n = []) := by
  refine ⟨?_, ?_, ?_⟩
  · intro h; simp [commentRepl, h]
  · intro h x y hp hn hx hy; subst hp hn; simp [commentRepl, h, hx, hy]
  · intro h hc
    simp only [commentRepl, h, List.isEmpty_nil, if_true]
    rcases hc with rfl | rfl | ⟨x, rfl, hx⟩ | ⟨y, rfl, hy⟩
    · rfl
    · cases p <;> rfl
    · cases n <;> simp [hx]
    · cases p <;> simp [hy]

theorem c13_strip_prev (p p' : Option Char) (l : List Char) (h : ∀ r, l ≠ '/' :: '*' :: r) : stripFrom p l = stripFrom p' l :=
  stripFrom_prev p p' l h

theorem c13_newlines_preserved (p : Option Char) (l : List Char) : newlinesOf (stripFrom p l) = newlinesOf l :=
  newlines_preserved p l

theorem c13_resolve_chain (tbl : List (String × Bind)) (name : String) (id : Nat) :
    resolveB tbl 10 name = some id ↔ ∃ k, k ≤ 10 ∧ Chain tbl name id k :=
  resolve_chain tbl 10 name id

theorem c13_resolve_unique (tbl : List (String × Bind)) (name : String) (i j k m : Nat)
    (h₁ : Chain tbl name i k) (h₂ : Chain tbl name j m) : i = j ∧ k = m :=
  chain_unique tbl name i j k m h₁ h₂

theorem c13_resolve_unknown (tbl : List (String × Bind)) (name : String) (h : lookupB name tbl = none) :
    resolveB tbl 10 name = none := by
  simp [resolveB, h]

theorem c13_resolve_cycle (tbl : List (String × Bind)) (name : String) (h : ∀ id k, ¬ Chain tbl name id k) :
    resolveB tbl 10 name = none := by
  cases hr : resolveB tbl 10 name with
  | none => rfl
  | some id =>
    obtain ⟨k, _, hc⟩ := (resolve_chain tbl 10 name id).mp hr
    exact absurd hc (h id k)

theorem c13_alias_same (tbl tbl' : List (String × Bind)) (name t : String) (id : Nat)
    (hfresh : lookupB name tbl = none) (ht : resolveB tbl 9 t = some id)
    (hadd : addType tbl name (.alias t) = some tbl') :
    resolveB tbl' 10 name = some id ∧
    ∀ n i, resolveB tbl 10 n = some i → resolveB tbl' 10 n = some i :=
  alias_same tbl tbl' name t id hfresh ht hadd

theorem c13_redeclare (tbl : List (String × Bind)) (name : String) (b v : Bind)
    (hb : lookupB name tbl = some b) :
    (addType tbl name v).isSome ↔ resolveB tbl 10 name = v.target tbl :=
  redeclare tbl name b v hb

theorem c13_commute (tbl t₁ t₂ t₁' t₂' : List (String × Bind)) (a b : String) (va vb : Bind) (hab : a ≠ b)
    (ha : lookupB a tbl = none) (hb : lookupB b tbl = none)
    (h₁ : addType tbl a va = some t₁) (h₁' : addType t₁ b vb = some t₁')
    (h₂ : addType tbl b vb = some t₂) (h₂' : addType t₂ a va = some t₂') :
    LookupEq t₁' t₂' ∧ ∀ n, resolveB t₁' 10 n = resolveB t₂' 10 n :=
  commute tbl t₁ t₂ t₁' t₂' a b va vb hab ha hb h₁ h₁' h₂ h₂'

theorem c13_builtin_aliases :
    ∀ p ∈ Gen.typeTable, ∀ t, p.2 = Gen.TypeEntry.alias t →
      (resolve Gen.typeTable p.1).toOption = (resolve Gen.typeTable t).toOption ∧ (resolve Gen.typeTable p.1).toOption.isSome :=
  builtin_aliases

-- non-vacuity: a closed text with a string, both comment kinds and a division; a chain of two aliases
example : Closed none "x/*c*/y /* x\n */ \"//\" b / 2 // c\n".toList none "x y \n \"//\" b / 2 \n".toList := sample_closed
-- F73: a `//` comment on a CRLF-terminated line goes away with its CR, the LF stays; a lone CR is no line end; a CR at the very
-- end of the text closes the comment
example : strip "uint8 x; // c\r\n uint8 y;".toList = "uint8 x; \n uint8 y;".toList := by decide +kernel
example : strip "a // c\rb".toList = "a // c\rb".toList := by decide +kernel
example : strip "a // c\r".toList = "a ".toList ∧ strip "a // c\r\r\n".toList = "a // c\r\r\n".toList := by decide +kernel
example : stripFrom none ("x; ".toList ++ ('/' :: '/' :: " c".toList ++ '\r' :: '\n' :: "y;".toList))
    = "x; ".toList ++ stripFrom (some '\r') ('\n' :: "y;".toList) :=
  c13_comment_line_crlf none _ _ _ _
    (.char _ _ 'x' _ _ (by decide) (by decide) (by decide) (.char _ _ ';' _ _ (by decide) (by decide) (by decide)
      (.char _ _ ' ' _ _ (by decide) (by decide) (by decide) (.nil _ _)))) (by decide)
example : Chain [("A", .alias "B"), ("B", .alias "C"), ("C", .type 7)] "A" 7 3 :=
  .alias "A" "B" 7 2 rfl (.alias "B" "C" 7 1 rfl (.type "C" 7 rfl))

end Cstruct.Parser.C13
