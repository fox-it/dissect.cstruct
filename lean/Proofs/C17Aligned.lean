/-
  C17 — local assignment, the exact form, for ALIGNED (and packed) structures of fixed-size members.

  Beyond `c17_assign_local` (`Proofs/C17.lean`): the dump has the declared size, the assigned extent holds the new value's
  encoding, padding is zero and every other member's bytes are unchanged; `c17_dump_shape` describes one dump.
  Hypotheses as there: `fragS` (fixed-width scalars, enums / pointers over integers, fixed arrays, nested structures, no
  bit-fields), one `align` flag throughout (`uniformAlign`), power-of-two alignments (`pow2Aligned`; true of every built-in
  type, `c04_table_pow2`). They imply `C04.members cfg fs = some ms` with power-of-two alignments, so by `C04.c04_abi` the
  offsets `offs` are the C rule `(cOffsets ms 0).1` (`c17_offsets_abi`).
  Bit-fields: not covered here.
-/
import Proofs.C17
import Proofs.C04

namespace Cstruct.C17
open Cstruct Cstruct.Instance Cstruct.Core

def nthV : Vals → Nat → Option Val
  | .nil, _ => none
  | .cons v _, 0 => some v
  | .cons _ r, k + 1 => nthV r k

/-- position `i` (relative to the start of the structure) lies in no member's extent: alignment or tail padding -/
def IsPad (cfg : Cfg) (fs : Fields) (offs : List (Option Nat)) (i : Nat) : Prop :=
  ∀ k t off n, nthTy fs k = some t → offs[k]? = some (some off) → t.size cfg = some n → ¬ (off ≤ i ∧ i < off + n)

private theorem nthV_eq : ∀ (vs : Vals) (k : Nat), nthV vs k = Lemmas.nV vs k
  | .nil, _ => rfl
  | .cons _ _, 0 => rfl
  | .cons _ r, k + 1 => nthV_eq r k

private theorem isPad_iff (cfg : Cfg) (fs : Fields) (offs : List (Option Nat)) (i : Nat) :
    IsPad cfg fs offs i ↔ Lemmas.IsPadAt cfg fs offs i := by
  unfold IsPad Lemmas.IsPadAt
  simp only [nthTy_eq]

/-- **What a dump looks like** (fixed-size structure without bit-fields, packed or aligned): its length is the declared
    size; for every member `k` the encoding of its value — as written at the absolute position `off` — occupies
    `[off, off + n)`; later members start at or after `off + n`; every byte in no member's extent is zero. -/
theorem c17_dump_shape (cfg : Cfg) (al : Bool) (fs : Fields) (hS : (Ty.struct al fs).fragS cfg = true)
    (hu : (Ty.struct al fs).uniformAlign al = true) (hp : (Ty.struct al fs).pow2Aligned cfg)
    (vs : Vals) (hv : HasTy cfg (.record vs) (.struct al fs)) (offs : List (Option Nat)) (sz : Option Nat) (a : Nat)
    (hl : structLayout cfg al fs = .ok (sz, a, offs)) :
    ∃ b, dumps cfg (.struct al fs) (.record vs) = .ok b ∧ sz = some b.length ∧
      (∀ k t, nthTy fs k = some t → ∃ off n w enc, offs[k]? = some (some off) ∧ t.size cfg = some n ∧
          nthV vs k = some w ∧ write cfg t w off = .ok enc ∧ enc.length = n ∧ off + n ≤ b.length ∧
          (∀ j, j < n → b[off + j]? = enc[j]?) ∧
          (∀ k' off', k < k' → offs[k']? = some (some off') → off + n ≤ off')) ∧
      (∀ i, i < b.length → IsPad cfg fs offs i → b[i]? = some 0) := by
  obtain ⟨b, h1, h2, h3, h4⟩ := Lemmas.dump_shape cfg al fs hS hu hp vs hv offs sz a hl
  refine ⟨b, h1, h2, fun k t ht => ?_, fun i hi hpad => h4 i hi ((isPad_iff cfg fs offs i).1 hpad)⟩
  rw [nthV_eq]
  exact h3 k t (nthTy_eq fs k ▸ ht)

/-- **Assigning member `k` changes exactly the bytes `[off, off + n)` of the dump** (fixed-size structure without
    bit-fields; `al` is the `align` flag): both dumps exist and have the declared size; after the assignment the member's
    extent holds the encoding of the new value; everything outside the extent is unchanged; padding bytes are zero before
    and after; no other member's extent meets `[off, off + n)`, so every other member's bytes are unchanged. -/
theorem c17_assign_local_exact (cfg : Cfg) (al : Bool) (fs : Fields) (hS : (Ty.struct al fs).fragS cfg = true)
    (hu : (Ty.struct al fs).uniformAlign al = true) (hp : (Ty.struct al fs).pow2Aligned cfg)
    (vs : Vals) (hv : HasTy cfg (.record vs) (.struct al fs)) (k : Nat) (t : Ty) (ht : nthTy fs k = some t) (v : Val)
    (hvk : HasTy cfg v t) (off n : Nat) (offs : List (Option Nat)) (sz : Option Nat) (a : Nat)
    (hl : structLayout cfg al fs = .ok (sz, a, offs)) (hoff : offs[k]? = some (some off)) (hn : t.size cfg = some n) :
    ∃ b1 b2 enc, dumps cfg (.struct al fs) (.record vs) = .ok b1 ∧
      dumps cfg (.struct al fs) (.record (setNthV vs k v)) = .ok b2 ∧
      write cfg t v off = .ok enc ∧ enc.length = n ∧
      sz = some b1.length ∧ b2.length = b1.length ∧ off + n ≤ b1.length ∧
      (∀ j, j < n → b2[off + j]? = enc[j]?) ∧
      (∀ i, (i < off ∨ off + n ≤ i) → b2[i]? = b1[i]?) ∧
      (∀ i, i < b1.length → IsPad cfg fs offs i → b1[i]? = some 0 ∧ b2[i]? = some 0) ∧
      (∀ j tj offj nj, j ≠ k → nthTy fs j = some tj → offs[j]? = some (some offj) → tj.size cfg = some nj →
        (offj + nj ≤ off ∨ off + n ≤ offj) ∧ ∀ i, offj ≤ i → i < offj + nj → b2[i]? = b1[i]?) := by
  have ht' : Lemmas.nTy fs k = some t := nthTy_eq fs k ▸ ht
  -- the shape of both dumps; outside member `k` they agree by `shape_agree`
  obtain ⟨b1, d1, s1, h1⟩ := Lemmas.dump_shape cfg al fs hS hu hp vs hv offs sz a hl
  obtain ⟨b2, d2, s2, h2⟩ := Lemmas.dump_shape cfg al fs hS hu hp _ (Lemmas.hasTy_setV hv ht' hvk) offs sz a hl
  have hlen : b1.length = b2.length := Option.some.inj (s1.symm.trans s2)
  have hag := Lemmas.shape_agree h1 h2 hlen ht' hoff hn
  obtain ⟨m1, z1⟩ := h1
  obtain ⟨m2, z2⟩ := h2
  obtain ⟨off1, n1, w1, enc1, p1, p2, p3, _, _, p6, _, p8⟩ := m1 k t ht'
  rw [hoff] at p1; cases p1
  rw [hn] at p2; cases p2
  obtain ⟨off2, n2, w2, enc2, q1, q2, q3, q4, q5, _, q7, _⟩ := m2 k t ht'
  rw [hoff] at q1; cases q1
  rw [hn] at q2; cases q2
  rw [Lemmas.nV_setV_eq vs k v w1 p3] at q3; cases q3
  refine ⟨b1, b2, enc2, d1, by rw [setNthV_eq]; exact d2, q4, q5, s1, hlen.symm, p6, q7,
    fun i hi => (hag i hi).symm, fun i hi hpad => ?_, fun j tj offj nj hjk htj hoj hnj => ?_⟩
  · have hpad' := (isPad_iff cfg fs offs i).1 hpad
    exact ⟨z1 i hi hpad', z2 i (hlen ▸ hi) hpad'⟩
  · -- members are laid out in order: an earlier one ends before `off`, a later one starts after `off + n`
    have hd : offj + nj ≤ off ∨ off + n ≤ offj := by
      rcases Nat.lt_or_gt_of_ne hjk with hlt | hgt
      · obtain ⟨o', n', _, _, r1, r2, _, _, _, _, _, r8⟩ := m1 j tj (nthTy_eq fs j ▸ htj)
        rw [hoj] at r1; cases r1
        rw [hnj] at r2; cases r2
        exact Or.inl (r8 k off hlt hoff)
      · exact Or.inr (p8 j offj hgt hoj)
    exact ⟨hd, fun i h1 h2 => (hag i (by omega)).symm⟩

/-- **Aligned structures** (`align = true`): the instance of `c17_assign_local_exact` the property names. Assigning member
    `k` a value of its type changes the dump exactly in `[off, off + n)` — which then holds the new value's encoding —,
    leaves the padding bytes zero and every other member's bytes unchanged, and the dump keeps the declared size. -/
theorem c17_assign_local_aligned (cfg : Cfg) (fs : Fields) (hS : (Ty.struct true fs).fragS cfg = true)
    (hu : (Ty.struct true fs).uniformAlign true = true) (hp : (Ty.struct true fs).pow2Aligned cfg)
    (vs : Vals) (hv : HasTy cfg (.record vs) (.struct true fs)) (k : Nat) (t : Ty) (ht : nthTy fs k = some t) (v : Val)
    (hvk : HasTy cfg v t) (off n : Nat) (offs : List (Option Nat)) (sz : Option Nat) (a : Nat)
    (hl : structLayout cfg true fs = .ok (sz, a, offs)) (hoff : offs[k]? = some (some off)) (hn : t.size cfg = some n) :
    ∃ b1 b2 enc, dumps cfg (.struct true fs) (.record vs) = .ok b1 ∧
      dumps cfg (.struct true fs) (.record (setNthV vs k v)) = .ok b2 ∧
      write cfg t v off = .ok enc ∧ enc.length = n ∧
      sz = some b1.length ∧ b2.length = b1.length ∧ off + n ≤ b1.length ∧
      (∀ j, j < n → b2[off + j]? = enc[j]?) ∧
      (∀ i, (i < off ∨ off + n ≤ i) → b2[i]? = b1[i]?) ∧
      (∀ i, i < b1.length → IsPad cfg fs offs i → b1[i]? = some 0 ∧ b2[i]? = some 0) ∧
      (∀ j tj offj nj, j ≠ k → nthTy fs j = some tj → offs[j]? = some (some offj) → tj.size cfg = some nj →
        (offj + nj ≤ off ∨ off + n ≤ offj) ∧ ∀ i, offj ≤ i → i < offj + nj → b2[i]? = b1[i]?) :=
  c17_assign_local_exact cfg true fs hS hu hp vs hv k t ht v hvk off n offs sz a hl hoff hn

/-- The offsets of an aligned structure are the C rule: with `(size, alignment)` of the members `ms` (`C04.members`) and
    power-of-two alignments the layout the theorems above refer to is `C04.cOffsets ms 0` (this is `C04.c04_abi`). -/
theorem c17_offsets_abi (cfg : Cfg) (fs : Fields) (ms : List (Nat × Nat)) (hm : C04.members cfg fs = some ms)
    (hp : ∀ m ∈ ms, C04.isPow2 m.2) (offs : List (Option Nat)) (sz : Option Nat) (a : Nat)
    (hl : structLayout cfg true fs = .ok (sz, a, offs)) :
    offs = (C04.cOffsets ms 0).1.map some ∧ sz = some (C04.roundUp (C04.cOffsets ms 0).2 (C04.maxAlignOf ms)) := by
  rw [C04.c04_abi cfg fs ms hm hp] at hl
  cases hl
  exact ⟨rfl, rfl⟩

/-! ### Non-vacuity
  Aligned `struct { uint8 a; uint32 b; int24 c[2]; }` (`C04.fs0`, little endian): offsets 0, 4, 8, size 16; bytes 1..3 are
  alignment padding, bytes 14..15 tail padding. -/
namespace AEx

def vs0 : Vals := .cons (.int 7) (.cons (.int 0x01020304) (.cons (.list (.cons (.int (-2)) (.cons (.int 5) .nil))) .nil))

theorem hv0 : HasTy C04.cfg0 (.record vs0) (.struct true C04.fs0) :=
  .struct (.cons (.int rfl (by decide)) (.cons (.int rfl (by decide))
    (.cons (.arr (by intro a h; cases h) (.cons (.int rfl (by decide)) (.cons (.int rfl (by decide)) .nil))) .nil)))

theorem hp0 : (Ty.struct true C04.fs0).pow2Aligned C04.cfg0 := ⟨Or.inr ⟨0, rfl⟩, Or.inr ⟨2, rfl⟩, Or.inr ⟨2, rfl⟩, trivial⟩

example : (Ty.struct true C04.fs0).fragS C04.cfg0 = true ∧ (Ty.struct true C04.fs0).uniformAlign true = true ∧
    structLayout C04.cfg0 true C04.fs0 = .ok (some 16, 4, [some 0, some 4, some 8]) ∧
    C04.members C04.cfg0 C04.fs0 = some [(1, 1), (4, 4), (6, 4)] := by decide +kernel
example : nthTy C04.fs0 1 = some (.sc (.pint 4 false) 4) := rfl

theorem isPad_fs0 (i : Nat) (h : (1 ≤ i ∧ i < 4) ∨ 14 ≤ i) : IsPad C04.cfg0 C04.fs0 [some 0, some 4, some 8] i := by
  -- the members' extents are [0, 1), [4, 8), [8, 14)
  intro k t off n hk ho hn
  match k, hk, ho with
  | 0, hk, ho => cases hk; cases ho; cases hn; omega
  | 1, hk, ho => cases hk; cases ho; cases hn; omega
  | 2, hk, ho => cases hk; cases ho; cases hn; omega
  | _ + 3, hk, _ => cases hk

example : IsPad C04.cfg0 C04.fs0 [some 0, some 4, some 8] 2 ∧ IsPad C04.cfg0 C04.fs0 [some 0, some 4, some 8] 15 ∧
    ¬ IsPad C04.cfg0 C04.fs0 [some 0, some 4, some 8] 4 :=
  ⟨isPad_fs0 2 (by omega), isPad_fs0 15 (by omega), fun h => h 1 _ 4 4 rfl rfl rfl ⟨Nat.le_refl _, by omega⟩⟩

/-- the theorem applied: assigning `b` (member 1, offset 4, size 4) of the aligned structure -/
example (v : Int) (hv : fits 4 false v = true) :
    ∃ b1 b2 enc, dumps C04.cfg0 (.struct true C04.fs0) (.record vs0) = .ok b1 ∧
      dumps C04.cfg0 (.struct true C04.fs0) (.record (setNthV vs0 1 (.int v))) = .ok b2 ∧
      write C04.cfg0 (.sc (.pint 4 false) 4) (.int v) 4 = .ok enc ∧ enc.length = 4 ∧ b1.length = 16 ∧ b2.length = 16 ∧
      (∀ j, j < 4 → b2[4 + j]? = enc[j]?) ∧ (∀ i, (i < 4 ∨ 8 ≤ i) → b2[i]? = b1[i]?) := by
  obtain ⟨b1, b2, enc, h1, h2, h3, h4, h5, h6, _, h8, h9, _⟩ :=
    c17_assign_local_aligned C04.cfg0 C04.fs0 (by decide +kernel) (by decide +kernel) hp0 vs0 hv0 1 (.sc (.pint 4 false) 4) rfl
      (.int v) (.int rfl hv) 4 4 [some 0, some 4, some 8] (some 16) 4 (by decide +kernel) rfl rfl
  have h5' : b1.length = 16 := (Option.some.inj h5).symm
  exact ⟨b1, b2, enc, h1, h2, h3, h4, h5', by omega, h8, h9⟩

#guard dumps C04.cfg0 (.struct true C04.fs0) (.record vs0) = .ok [7, 0, 0, 0, 4, 3, 2, 1, 0xfe, 0xff, 0xff, 5, 0, 0, 0, 0]
#guard dumps C04.cfg0 (.struct true C04.fs0) (.record (setNthV vs0 1 (.int 0xAABBCCDD))) =
  .ok [7, 0, 0, 0, 0xDD, 0xCC, 0xBB, 0xAA, 0xfe, 0xff, 0xff, 5, 0, 0, 0, 0]

end AEx

end Cstruct.C17
