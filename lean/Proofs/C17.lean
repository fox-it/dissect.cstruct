/-
  C17 — structure values: field-wise equality, consistent hash/bool, local assignment.

  Over `CstructModel/Instance.lean` (the generated `__init__/__eq__/__hash__/__bool__` of types/structure.py as functions
  of the field tuple) and the write model.
  Trusted / by correspondence only: that the code templates patched with `CodeType.replace` compute exactly these functions
  for every field count and every field name (checked on the real classes by this check's run over 0..40 fields, colliding
  names and shared templates).
-/
import CstructModel.Instance
import Proofs.Lemmas.C17
import Proofs.Lemmas.C17Dump

namespace Cstruct.C17
open Cstruct Cstruct.Instance Cstruct.Core

/-- **Equality is field-wise**: two instances are equal exactly when they are of the same structure type and all their
    fields are equal. -/
theorem c17_eq_iff (a b : Inst) (hlen : a.vals.length = b.vals.length) :
    a.eq b = true ↔ a.cls = b.cls ∧ ∀ i (h : i < a.vals.length), veq a.vals[i] (b.vals[i]'(hlen ▸ h)) = true := by
  unfold Inst.eq
  simp only [Bool.and_eq_true, beq_iff_eq, Lemmas.zip_all_iff a.vals b.vals hlen]
  exact ⟨fun ⟨⟨h1, _⟩, h3⟩ => ⟨h1, h3⟩, fun ⟨h1, h3⟩ => ⟨⟨h1, hlen⟩, h3⟩⟩

/-- `veq` is reflexive and symmetric on values, hence instance equality is reflexive and symmetric. -/
theorem c17_eq_refl_symm (a b : Inst) : a.eq a = true ∧ a.eq b = b.eq a := by
  unfold Inst.eq
  constructor
  · rw [Lemmas.zip_all_refl, beq_self_eq_true, beq_self_eq_true]; rfl
  · rw [Lemmas.zip_all_symm a.vals b.vals, BEq.comm (a := a.cls), BEq.comm (a := a.vals.length)]

/-- **Equal field tuples hash equally**: the hash is a function of the field values alone. -/
theorem c17_hash (a b : Inst) (h : a.vals = b.vals) : a.hashKey = b.hashKey := by
  unfold Inst.hashKey; exact h

/-- **An instance is falsy exactly when all its fields are.** -/
theorem c17_bool_iff (a : Inst) : a.bool = false ↔ ∀ v ∈ a.vals, v.truthy = false := by
  unfold Inst.bool
  simp only [List.any_eq_false, Bool.not_eq_true]

/-- **Constructing from positional or keyword values equals assigning those fields on a default instance**, unspecified
    fields taking the type's default. -/
theorem c17_init (cls : Nat) (names : List String) (defaults args : List Val) (kwargs : List (String × Val))
    (hd : defaults.length = names.length) (ha : args.length ≤ names.length) :
    init cls names defaults args kwargs =
      kwargs.foldl (fun (x : Inst) (kv : String × Val) => match indexOf names kv.1 with | some i => x.set i kv.2 | none => x)
        ((List.range args.length).foldl (fun (x : Inst) i => x.set i (args.getD i .void)) (init cls names defaults [] [])) ∧
    (init cls names defaults [] []).vals = defaults := by
  have hdef : (init cls names defaults [] []).vals = defaults := by
    simp only [init, List.foldl_nil]
    apply List.ext_getElem?
    intro i
    simp only [List.getElem?_map, List.getElem?_nil, Option.getD_none]
    by_cases h : i < names.length
    · rw [List.getElem?_range h]
      have : i < defaults.length := by omega
      simp [List.getD, List.getElem?_eq_getElem this]
    · have h' : names.length ≤ i := by omega
      rw [List.getElem?_eq_none (by simpa using h'), List.getElem?_eq_none (by omega)]
      rfl
  refine ⟨.trans ?_ (Lemmas.fold_kw_inst names kwargs _).symm, hdef⟩
  rw [Lemmas.fold_set_inst (fun i => args.getD i .void), hdef]
  simp only [init, List.foldl_nil]
  congr 2
  apply List.ext_getElem?
  intro i
  rw [Lemmas.fold_set_get _ _ _ (hd ▸ ha)]
  simp only [List.getElem?_map]
  by_cases h2 : i < args.length
  · rw [List.getElem?_range (Nat.lt_of_lt_of_le h2 ha), if_pos h2]
    simp [List.getD, List.getElem?_eq_getElem h2]
  · rw [if_neg h2]
    by_cases h : i < names.length
    · rw [List.getElem?_range h]
      have : i < defaults.length := hd ▸ h
      simp [List.getD, List.getElem?_eq_getElem this, List.getElem?_eq_none (Nat.le_of_not_lt h2)]
    · have h' : names.length ≤ i := Nat.le_of_not_lt h
      rw [List.getElem?_eq_none (l := List.range _) (by simpa using h'), List.getElem?_eq_none (hd ▸ h')]
      rfl

def nthTy : Fields → Nat → Option Ty
  | .nil, _ => none
  | .cons _ _ t _ _, 0 => some t
  | .cons _ _ _ _ r, k + 1 => nthTy r k

def setNthV : Vals → Nat → Val → Vals
  | .nil, _, _ => .nil
  | .cons _ r, 0, v => .cons v r
  | .cons a r, k + 1, v => .cons a (setNthV r k v)

theorem nthTy_eq : ∀ (fs : Fields) (k : Nat), nthTy fs k = Lemmas.nTy fs k
  | .nil, _ => rfl
  | .cons .., 0 => rfl
  | .cons _ _ _ _ r, k + 1 => nthTy_eq r k

theorem setNthV_eq : ∀ (vs : Vals) (k : Nat) (v : Val), setNthV vs k v = Lemmas.setV vs k v
  | .nil, _, _ => rfl
  | .cons .., 0, _ => rfl
  | .cons a r, k + 1, v => congrArg (Vals.cons a) (setNthV_eq r k v)

/-- **Assigning a field of a fixed-size structure changes, in the dumped bytes, exactly the bytes of that field**
    (fragment S): the dumps before and after have the same length and agree at every position outside
    `[offset k, offset k + size k)`. -/
theorem c17_assign_local (cfg : Cfg) (al : Bool) (fs : Fields) (hS : (Ty.struct al fs).fragS cfg = true)
    (hu : (Ty.struct al fs).uniformAlign al = true) (hp : (Ty.struct al fs).pow2Aligned cfg)
    (vs : Vals) (hv : HasTy cfg (.record vs) (.struct al fs)) (k : Nat) (t : Ty) (ht : nthTy fs k = some t) (v : Val) (hvk : HasTy cfg v t)
    (off n : Nat) (offs : List (Option Nat)) (sz : Option Nat) (a : Nat)
    (hl : structLayout cfg al fs = .ok (sz, a, offs)) (hoff : offs[k]? = some (some off)) (hn : t.size cfg = some n) :
    ∃ b1 b2, dumps cfg (.struct al fs) (.record vs) = .ok b1 ∧ dumps cfg (.struct al fs) (.record (setNthV vs k v)) = .ok b2 ∧
      b1.length = b2.length ∧ ∀ i, (i < off ∨ off + n ≤ i) → b1[i]? = b2[i]? := by
  rw [nthTy_eq] at ht
  rw [setNthV_eq]
  exact Lemmas.assign_local cfg al fs hS hu hp vs hv k t ht v hvk off n offs sz a hl hoff hn

end Cstruct.C17
