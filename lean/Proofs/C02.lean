/-
  C02 — byte fidelity: parse-then-dump reproduces every data-carrying input byte.

  Fragment S of `Proofs/Spec/Core.lean` (fixed-width ints, floats as bit patterns, char, void, enums and pointers over
  ints, fixed arrays, nested packed or aligned structures, no bit-fields). The data mask `tyMask` is defined in
  `Proofs/Spec/C02.lean` from the layout, independently of the writer.
  Structures with bit-fields (mask per bit) are in `Proofs/C02Bits.lean`, of which these theorems are the case without
  bit-fields (`C02B.maskB_fragS`: there the bit-level mask is `tyMask`). LEB128 minimality (`c05_leb_minimal`) and
  terminators (`c07_nullterm_write`) are the other ingredients of the property; unions are findings F9/F10.
-/
import Proofs.Spec.C02
import Proofs.Lemmas.C02

namespace Cstruct.C02
open Cstruct Cstruct.Core

/-- **Packed mode: parse-then-dump is the identity on the consumed bytes.** -/
theorem c02_fidelity_packed (cfg : Cfg) (ty : Ty) (hS : ty.fragS cfg = true) (hu : ty.uniformAlign false = true)
    (ctx : Ctx) (d : Bytes) (pos : Nat) (hpos : pos ≤ d.length) (v : Val) (p : Nat) (hr : read cfg ty ctx d pos = .ok (v, p)) :
    write cfg ty v pos = .ok ((d.drop pos).take (p - pos)) ∧ pos ≤ p ∧ p ≤ d.length :=
  Lemmas.fidelity_packed cfg ty hS hu ctx d pos hpos v p hr
-- (Without `pos ≤ d.length` the bound `p ≤ d.length` fails for zero-size types read beyond the end of the input, e.g.
--  `void` at position 1 of the empty input: `Lemmas.c02_fidelity_packed_counterexample`.)

/-- **Aligned mode: parse-then-dump yields exactly as many bytes as were consumed, identical to the input at every
    data-carrying byte and zero at every padding byte.** (Aligned start, power-of-two alignments, input long enough for the
    whole extent including the tail padding.) -/
theorem c02_fidelity_aligned (cfg : Cfg) (al : Bool) (ty : Ty) (hS : ty.fragS cfg = true) (hu : ty.uniformAlign al = true)
    (hp : ty.pow2Aligned cfg) (ctx : Ctx) (d : Bytes) (pos : Nat) (hal : ty.alignsDivide cfg pos = true) (v : Val) (p : Nat)
    (hr : read cfg ty ctx d pos = .ok (v, p)) (hlen : p ≤ d.length) :
    ∃ bs, write cfg ty v pos = .ok bs ∧ bs.length = p - pos ∧ pos ≤ p ∧
      bs = applyMask (tyMask cfg ty) ((d.drop pos).take (p - pos)) ∧ (tyMask cfg ty).length = p - pos := by
  exact Lemmas.fidelity_masked cfg al ty hS hu hp ctx d pos hal v p hr hlen

/-- In packed mode there is no padding: every byte of a fragment-S type carries data. -/
theorem c02_mask_packed (cfg : Cfg) (ty : Ty) (hS : ty.fragS cfg = true) (hu : ty.uniformAlign false = true) (n : Nat)
    (hsz : ty.size cfg = some n) : tyMask cfg ty = List.replicate n true := by
  exact Lemmas.mask_packed_ty cfg ty hS hu n hsz

/-! ### Non-vacuity -/
example : tyMask Cstruct.Core.cfg0 Cstruct.Core.ty0 =
    [true, false, true, true, true, true, true, false, true, true, true, true] := by decide +kernel

end Cstruct.C02
