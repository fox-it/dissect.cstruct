/-
  C08 — truncated or failing input never fabricates data: UNIONS, and structures / arrays containing unions.

  `Proofs/C08.lean` is stated for plain types (`Ty.plain`: no union). A fixed-size union (`UnionMetaType._read`; the model
  is `read` / `readMembers` in `CstructModel/Read.lean`, `Union.parse` in `CstructModel/Union.lean`) fetches its extent
  with ONE UNCHECKED `stream.read(size)`, parses every member from that private buffer and leaves the stream at
  `start + size` (also when the read came back short). Dynamically sized unions are
  not modelled (`read` returns `NotImplementedError` for them), so nothing is claimed about them.

  Proved here: the result of reading any fixed-size union depends only on the `size` bytes at `pos`; a COVERED union
  (`Fields.tightUnion`: some member is rigid and as large as the union) never yields a value from fewer bytes; the theorems
  of `Proofs/C08.lean` and the window theorems of `Proofs/CoreWinBits.lean` for `Ty.plainU` (plain types plus covered unions
  anywhere); for a union that is NOT covered only `c08_union_members`: nothing is invented, but the value is returned.

  What is FALSE (model and library alike; see "Counter-examples" at the end): "fewer than `size` bytes ⇒ EOFError" for an
  arbitrary member list. An aligned union with tail padding (`union { uint8 a[5]; uint32 b; }`, size 8) parses 5, 6 or 7
  bytes into a value; so does a union whose only largest member is an aligned structure with tail padding. The members
  and the end position are those of the complete input (missing tail padding at the end of the input is accepted as for
  aligned structures), but the raw buffer kept by the object is shorter, so `c08_shortened` (equality of the model values,
  which include the buffer) does not extend to such unions; `c08_union_members` is what holds.
-/
import Proofs.C08
import Proofs.Spec.C08Union
import Proofs.Lemmas.CoreWin

namespace Cstruct.C08
open Cstruct Cstruct.Core

/-- **The result of reading a fixed-size union depends only on the `size` bytes at `pos`** (every member list, every
    context; value or error alike). -/
theorem c08_union_window (cfg : Cfg) (al : Bool) (fs : Fields) (sz : Nat) (hsz : (Ty.union al fs).size cfg = some sz)
    (c1 c2 : Ctx) (d1 d2 : Bytes) (pos : Nat) (hwin : sread d1 pos sz = sread d2 pos sz) :
    read cfg (.union al fs) c1 d1 pos = read cfg (.union al fs) c2 d2 pos := by
  rw [Lemmas.read_union, Lemmas.read_union, hsz]
  simp only [hwin]

/-- **A fixed-size union ends exactly `size` bytes after its start** (every member list, covered or not, also when the
    `read(size)` came back short: the library seeks to `start + size`). -/
theorem c08_union_end (cfg : Cfg) (al : Bool) (fs : Fields) (sz : Nat) (ctx : Ctx) (d : Bytes) (pos : Nat) (v : Val) (p : Nat)
    (hr : read cfg (.union al fs) ctx d pos = .ok (v, p)) (hsz : (Ty.union al fs).size cfg = some sz) : p = pos + sz := by
  obtain ⟨sz', _, hsz', hp, _, _⟩ := Lemmas.read_union_ok hr
  rw [hsz] at hsz'; cases hsz'
  exact hp

/-- **Cutting the input at or after the end position of a union changes nothing** (every member list): the truncation half
    of the window theorem needs no covering member. -/
theorem c08_union_cut (cfg : Cfg) (al : Bool) (fs : Fields) (ctx : Ctx) (d : Bytes) (pos : Nat) (v : Val) (p : Nat)
    (hr : read cfg (.union al fs) ctx d pos = .ok (v, p)) (q : Nat) (hq : p ≤ q) :
    read cfg (.union al fs) ctx (d.take q) pos = .ok (v, p) :=
  Core.Lemmas.WinBits.t_union cfg al al fs d ctx pos v p hr (fun _ => Nat.one_dvd _) q hq

/-- **When the `size` bytes are there, nothing else matters**: the result on `d1` is the result on every input that starts
    with the first `pos + size` bytes of `d1` — cutting the input right after the union or extending it changes nothing
    (every member list), and a value ends at `pos + size`. -/
theorem c08_union_complete (cfg : Cfg) (al : Bool) (fs : Fields) (sz : Nat) (hsz : (Ty.union al fs).size cfg = some sz)
    (ctx : Ctx) (d1 d2 : Bytes) (pos : Nat) (hlen : pos + sz ≤ d1.length) (hpre : d1.take (pos + sz) <+: d2) :
    read cfg (.union al fs) ctx d2 pos = read cfg (.union al fs) ctx d1 pos ∧
    ∀ v p, read cfg (.union al fs) ctx d1 pos = .ok (v, p) → p = pos + sz := by
  obtain ⟨t, rfl⟩ := hpre
  have h1 : sread (d1.take (pos + sz)) pos sz = sread d1 pos sz := Core.Lemmas.sread_take d1 pos sz _ (Nat.le_refl _)
  have hl : (sread d1 pos sz).length = sz := by rw [Core.Lemmas.sread_length]; omega
  have h2 : sread (d1.take (pos + sz) ++ t) pos sz = sread d1 pos sz := by
    rw [Core.Lemmas.sread_append _ t pos sz (by rw [h1]; exact hl), h1]
  exact ⟨c08_union_window cfg al fs sz hsz ctx ctx _ _ pos h2, fun v p hr => c08_union_end cfg al fs sz ctx d1 pos v p hr hsz⟩

/-- **A covered union never yields a value from fewer than `size` bytes.** -/
theorem c08_union_short (cfg : Cfg) (al : Bool) (fs : Fields) (ht : Fields.tightUnion cfg al fs = true) (sz : Nat)
    (hsz : (Ty.union al fs).size cfg = some sz) (ctx : Ctx) (d : Bytes) (pos : Nat) (hshort : d.length - pos < sz) :
    ∃ e, read cfg (.union al fs) ctx d pos = .error e := by
  cases hr : read cfg (.union al fs) ctx d pos with
  | error e => exact ⟨e, rfl⟩
  | ok r =>
    exfalso
    obtain ⟨sz', vs, hsz', _, h1, _⟩ := Lemmas.read_union_ok (v := r.1) (p := r.2) hr
    rw [hsz] at hsz'; cases hsz'
    have := Lemmas.tight_full cfg al fs ht sz hsz [] _ vs h1
    have := Core.Lemmas.sread_length d pos sz
    omega

/-- **… and the error is `EOFError`** when every member is rigid (fixed-width scalars, enums, pointers, fixed arrays,
    packed structures, covered unions of such). -/
theorem c08_union_short_eof (cfg : Cfg) (al : Bool) (fs : Fields) (hr : (Ty.union al fs).rigid cfg = true) (sz : Nat)
    (hsz : (Ty.union al fs).size cfg = some sz) (ctx : Ctx) (d : Bytes) (pos : Nat) (hshort : d.length - pos < sz) :
    read cfg (.union al fs) ctx d pos = .error .eof := by
  obtain ⟨k, hk, hE⟩ := Lemmas.rig_ty cfg _ hr
  rw [hsz] at hk; cases hk
  have h := hE ctx d pos
  cases hx : read cfg (.union al fs) ctx d pos with
  | error e => rw [hx] at h; cases h; rfl
  | ok r =>
    obtain ⟨v, p⟩ := r
    rw [hx] at h
    obtain ⟨a1, a2⟩ := h
    omega

theorem tight_of_rigid (cfg : Cfg) (al : Bool) (fs : Fields) (hr : (Ty.union al fs).rigid cfg = true) :
    Fields.tightUnion cfg al fs = true := by
  simp only [Ty.rigid, Bool.and_eq_true] at hr
  exact hr.2

/-- **Window theorem for a covered union**, in the shape of `Core.read_prefix_bits`: if reading succeeds on `d1` and ends at
    `p`, it succeeds with the same value and end position on every input that starts with the first `p` bytes of `d1`;
    and `p = pos + size`. -/
theorem c08_union_prefix (cfg : Cfg) (al : Bool) (fs : Fields) (ht : Fields.tightUnion cfg al fs = true) (ctx : Ctx)
    (d1 : Bytes) (pos : Nat) (v : Val) (p : Nat) (hr : read cfg (.union al fs) ctx d1 pos = .ok (v, p))
    (d2 : Bytes) (hpre : d1.take p <+: d2) :
    read cfg (.union al fs) ctx d2 pos = .ok (v, p) ∧ (Ty.union al fs).size cfg = some (p - pos) ∧ pos ≤ p := by
  obtain ⟨sz, _, hsz, rfl, _, _⟩ := Lemmas.read_union_ok hr
  obtain ⟨t, rfl⟩ := hpre
  exact ⟨Lemmas.readLe_union cfg al fs ht _ t ctx pos _ (c08_union_cut cfg al fs ctx d1 pos v _ hr _ (Nat.le_refl _)),
    by rw [Nat.add_sub_cancel_left]; exact hsz, Nat.le_add_right _ _⟩

/-- **Window corollary for a covered union**: nothing after the union's extent matters. -/
theorem c08_union_window_tight (cfg : Cfg) (al : Bool) (fs : Fields) (ht : Fields.tightUnion cfg al fs = true) (ctx : Ctx)
    (d1 : Bytes) (pos : Nat) (v : Val) (p : Nat) (hr : read cfg (.union al fs) ctx d1 pos = .ok (v, p)) (post : Bytes) :
    read cfg (.union al fs) ctx (d1.take p ++ post) pos = .ok (v, p) :=
  (c08_union_prefix cfg al fs ht ctx d1 pos v p hr _ (List.prefix_append _ _)).1

theorem plainU_of_plain (cfg : Cfg) (ty : Ty) (h : ty.plain = true) : ty.plainU cfg = true :=
  Core.Lemmas.plainU_of_plain cfg ty h

/-- **Extension theorem with unions** (`Core.read_extend` for `Ty.plainU`): a successful parse is unchanged on every input
    that extends the one it was obtained from. Plain types, bit-fields, packed / aligned / mixed structures, covered unions
    anywhere; every context, every start position. -/
theorem read_extend_u (cfg : Cfg) (ty : Ty) (hplain : ty.plainU cfg = true) (ctx : Ctx) (d1 : Bytes) (pos : Nat) (v : Val) (p : Nat)
    (hr : read cfg ty ctx d1 pos = .ok (v, p)) (d2 : Bytes) (hpre : d1 <+: d2) :
    read cfg ty ctx d2 pos = .ok (v, p) := by
  obtain ⟨t, rfl⟩ := hpre
  exact Lemmas.extU_read cfg d1 t ty hplain ctx pos _ hr

/-- **Any value returned from a shortened input is the value returned from the complete input** (`c08_shortened` with
    covered unions anywhere in the type). -/
theorem c08_shortened_u (cfg : Cfg) (ty : Ty) (hplain : ty.plainU cfg = true) (ctx : Ctx) (data : Bytes) (pos k : Nat) (v : Val) (p : Nat)
    (hr : read cfg ty ctx (data.take k) pos = .ok (v, p)) :
    read cfg ty ctx data pos = .ok (v, p) :=
  read_extend_u cfg ty hplain ctx (data.take k) pos v p hr data (List.take_prefix k data)

/-- **Contrapositive form** (`c08_never_fabricates` with covered unions): if the complete input parses to `(v, p)`, every
    cut of it fails or returns exactly `(v, p)`. -/
theorem c08_never_fabricates_u (cfg : Cfg) (ty : Ty) (hplain : ty.plainU cfg = true) (ctx : Ctx) (data : Bytes) (pos k : Nat) (v : Val) (p : Nat)
    (hfull : read cfg ty ctx data pos = .ok (v, p)) :
    (∃ e, read cfg ty ctx (data.take k) pos = .error e) ∨ read cfg ty ctx (data.take k) pos = .ok (v, p) :=
  error_or_eq (fun r h => c08_shortened_u cfg ty hplain ctx data pos k r.1 r.2 h) hfull

/-- The same for an arbitrary extension of the input. -/
theorem c08_extension_u (cfg : Cfg) (ty : Ty) (hplain : ty.plainU cfg = true) (ctx : Ctx) (d more : Bytes) (pos : Nat) (v : Val) (p : Nat)
    (hr : read cfg ty ctx d pos = .ok (v, p)) : read cfg ty ctx (d ++ more) pos = .ok (v, p) :=
  read_extend_u cfg ty hplain ctx d pos v p hr (d ++ more) (List.prefix_append d more)

/-- **Prefix (window) theorem with unions** (`Core.read_prefix_bits` for `Ty.plainU`, same side conditions: one `align`
    flag, power-of-two alignments, an aligned start, in aligned mode bit-fields that can share a unit aligned alike):
    if parsing succeeds on `d1` and ends at `p`, it succeeds with the same value and end position on every input that starts
    with the first `p` bytes of `d1`. -/
theorem c08_read_prefix_u (cfg : Cfg) (al : Bool) (g : Scalar → Nat) (ty : Ty) (hplain : ty.plainU cfg = true)
    (hbn : al = true → ty.bitsAlignBy cfg g = true)
    (hu : ty.uniformAlign al = true) (hp : ty.pow2Aligned cfg) (ctx : Ctx) (d1 : Bytes) (pos : Nat)
    (hal : ty.alignsDivide cfg pos = true) (v : Val) (p : Nat)
    (hr : read cfg ty ctx d1 pos = .ok (v, p)) (d2 : Bytes) (hpre : d1.take p <+: d2) :
    read cfg ty ctx d2 pos = .ok (v, p) :=
  Core.Lemmas.WinBits.read_prefix_bits_u cfg al g ty hplain hbn hu hp ctx d1 pos hal v p hr d2 hpre

/-- **Window corollary with unions**: the result depends on nothing after the end position. -/
theorem c08_read_window_u (cfg : Cfg) (al : Bool) (g : Scalar → Nat) (ty : Ty) (hplain : ty.plainU cfg = true)
    (hbn : al = true → ty.bitsAlignBy cfg g = true)
    (hu : ty.uniformAlign al = true) (hp : ty.pow2Aligned cfg) (ctx : Ctx) (d1 : Bytes) (pos : Nat)
    (hal : ty.alignsDivide cfg pos = true) (v : Val) (p : Nat)
    (hr : read cfg ty ctx d1 pos = .ok (v, p)) (post : Bytes) :
    read cfg ty ctx (d1.take p ++ post) pos = .ok (v, p) :=
  c08_read_prefix_u cfg al g ty hplain hbn hu hp ctx d1 pos hal v p hr _ (List.prefix_append _ _)

/-- **Where a successful read ends, with unions**: not before its start and at most at start + declared size. -/
theorem c08_read_end_le_u (cfg : Cfg) (al : Bool) (g : Scalar → Nat) (ty : Ty) (hplain : ty.plainU cfg = true)
    (hbn : al = true → ty.bitsAlignBy cfg g = true) (hu : ty.uniformAlign al = true) (hp : ty.pow2Aligned cfg) (ctx : Ctx)
    (d : Bytes) (pos : Nat) (hal : ty.alignsDivide cfg pos = true) (v : Val) (p : Nat)
    (hr : read cfg ty ctx d pos = .ok (v, p)) : pos ≤ p ∧ ∀ k, ty.size cfg = some k → p ≤ pos + k :=
  Core.Lemmas.WinBits.read_end_le_u cfg al g ty hplain hbn hu hp ctx d pos hal v p hr

/-- **A union that is not covered still invents nothing**: if it returns a value on an input `d1`, then on every extension
    `d2` of `d1` it returns a value with exactly the same members, whose raw buffer extends the one seen on `d1`
    (members in `plainU`, e.g. plain types), and the same end position (`pos + size`, `c08_union_end`). This is the
    statement that remains true for the counter-examples below. -/
theorem c08_union_members (cfg : Cfg) (al : Bool) (fs : Fields) (hm : Fields.plainU cfg fs = true) (ctx : Ctx)
    (d1 d2 : Bytes) (hpre : d1 <+: d2) (pos : Nat) (v : Val) (p : Nat)
    (hr : read cfg (.union al fs) ctx d1 pos = .ok (v, p)) :
    ∃ b1 b2 vs, v = .union b1 vs ∧ b1 <+: b2 ∧
      read cfg (.union al fs) ctx d2 pos = .ok (.union b2 vs, p) := by
  obtain ⟨t, rfl⟩ := hpre
  obtain ⟨sz, vs, hsz, rfl, h1, rfl⟩ := Lemmas.read_union_ok hr
  obtain ⟨u, hu⟩ := Lemmas.sread_prefix d1 t pos sz
  refine ⟨_, sread (d1 ++ t) pos sz, vs, rfl, ⟨u, hu⟩, ?_⟩
  rw [Lemmas.read_union, hsz]
  simp only []
  rw [← hu, Lemmas.extU_members cfg _ u fs hm [] vs h1]
  rfl

/-! ### Non-vacuity
  `union U { uint8 raw[4]; uint32 x; struct { uint16 a; uint16 b; } s; }` (packed): covered (by each member), rigid.
  `struct T { uint8 tag; U u; uint8 n; uint8 tail[n]; uint16 f:3; uint16 g:13; }`: a union between plain members, an
  expression-sized array and two bit-fields. `union W { uint8 raw[8]; wchar w[4]; A a; }`: covered by `raw`; the other
  members are a `wchar` array (not rigid: it can fail with a UnicodeDecodeError) and the union `A` of the
  counter-examples below, which is not covered itself. -/
namespace UEx
def cfgL : Cfg := { endian := .little, ptr := .pint 8 false, ptrAlign := 8, consts := [] }
def u8 : Ty := .sc (.pint 1 false) 1
def u16 : Ty := .sc (.pint 2 false) 2
def u32 : Ty := .sc (.pint 4 false) 4
def sFs : Fields := .cons "a" false u16 none (.cons "b" false u16 none .nil)
def uFs : Fields := .cons "raw" false (.arr u8 (.fixed 4)) none (.cons "x" false u32 none
  (.cons "s" false (.struct false sFs) none .nil))
def tyU : Ty := .union false uFs
def tyT : Ty := .struct false (.cons "tag" false u8 none (.cons "u" false tyU none (.cons "n" false u8 none
  (.cons "tail" false (.arr u8 (.expr ["n"])) none (.cons "f" false u16 (some 3) (.cons "g" false u16 (some 13) .nil))))))
def aFs : Fields := .cons "a" false (.arr u8 (.fixed 5)) none (.cons "b" false u32 none .nil)
def tyA : Ty := .union true aFs
def wFs : Fields := .cons "raw" false (.arr u8 (.fixed 8)) none (.cons "w" false (.arr (.sc .wchar 2) (.fixed 4)) none
  (.cons "a" false tyA none .nil))
def tyW : Ty := .union false wFs

example : tyU.size cfgL = some 4 ∧ Fields.tightUnion cfgL false uFs = true ∧ tyU.rigid cfgL = true ∧
    tyU.plainU cfgL = true ∧ tyU.plain = false := by decide +kernel
example : tyT.plainU cfgL = true ∧ tyT.plain = false ∧ tyT.noBits = false ∧ tyT.size cfgL = none := by decide +kernel
example : tyW.size cfgL = some 8 ∧ Fields.tightUnion cfgL false wFs = true ∧ tyW.rigid cfgL = false ∧
    tyW.plainU cfgL = true ∧ Fields.plainU cfgL wFs = false := by decide +kernel
-- an array of unions, a union in a union, a union in an aligned structure
example : (Ty.arr tyU (.fixed 3)).plainU cfgL = true ∧
    (Ty.union false (.cons "u" false tyU none (.cons "y" false u16 none .nil))).plainU cfgL = true ∧
    (Ty.struct true (.cons "a" false u8 none (.cons "u" false (.union true uFs) none .nil))).plainU cfgL = true := by
  decide +kernel

/-- the theorems applied: three remaining bytes never give a `U`, and the error is `EOFError` -/
example (ctx : Ctx) (pre : Bytes) (a b c : UInt8) : read cfgL tyU ctx (pre ++ [a, b, c]) pre.length = .error .eof :=
  c08_union_short_eof cfgL false uFs (by decide +kernel) 4 (by decide +kernel) ctx _ _ (by simp)
/-- `W` is not rigid but covered: seven bytes never give a `W` -/
example (ctx : Ctx) (d : Bytes) (h : d.length = 7) : ∃ e, read cfgL tyW ctx d 0 = .error e :=
  c08_union_short cfgL false wFs (by decide +kernel) 8 (by decide +kernel) ctx d 0 (by omega)
/-- whatever `T` value a cut input returns is the value of the complete input -/
example (ctx : Ctx) (data : Bytes) (k : Nat) (v : Val) (p : Nat) (h : read cfgL tyT ctx (data.take k) 0 = .ok (v, p)) :
    read cfgL tyT ctx data 0 = .ok (v, p) :=
  c08_shortened_u cfgL tyT (by decide +kernel) ctx data 0 k v p h
/-- nothing after the end position of a parsed `T` matters (union, expression-sized array and bit-fields inside) -/
example (ctx : Ctx) (d post : Bytes) (v : Val) (p : Nat) (h : read cfgL tyT ctx d 0 = .ok (v, p)) :
    read cfgL tyT ctx (d.take p ++ post) 0 = .ok (v, p) :=
  c08_read_window_u cfgL false (fun _ => 0) tyT (by decide +kernel) (fun h => by cases h) (by decide +kernel)
    ⟨Or.inr ⟨0, rfl⟩, ⟨Or.inr ⟨0, rfl⟩, Or.inr ⟨2, rfl⟩, ⟨Or.inr ⟨1, rfl⟩, Or.inr ⟨1, rfl⟩, trivial⟩, trivial⟩,
      Or.inr ⟨0, rfl⟩, Or.inr ⟨0, rfl⟩, Or.inr ⟨1, rfl⟩, Or.inr ⟨1, rfl⟩, trivial⟩
    ctx d 0 (by decide +kernel) v p h post
#guard (read cfgL tyU [] [1, 2, 3, 4, 9] 0).toOption.isSome
#guard (read cfgL tyU [] [1, 2, 3] 0).map (·.2) = .error .eof
#guard (read cfgL tyT [] [7, 1, 2, 3, 4, 2, 8, 9, 0xff, 0xff] 0).map (·.2) = .ok 10
#guard (read cfgL tyT [] [7, 1, 2, 3, 4, 2, 8, 9, 0xff] 0).map (·.2) = .error .eof
#guard (read cfgL tyT [] [7, 1, 2, 3] 0).map (·.2) = .error .eof

/-! ### Counter-examples: unions that are not covered (model = library, checked by the differential run of this check)
  `A`: aligned `union { uint8 a[5]; uint32 b; }`: size 8 = 5 rounded up to the alignment 4. Five, six or seven bytes parse
  to a value (members and end position as on the complete input, raw buffer = the bytes there were).
  `V`: aligned `union { struct { uint32 a; uint8 b; } s; uint16 c; }`: the structure has size 8 but consumes 5 bytes and
  skips its tail padding with a seek. Real library, `cs.load(..., align=True)`: `cs.A(bytes(range(1, 6)))` returns
  `<A a=[1, 2, 3, 4, 5] b=0x4030201>`, `cs.A(bytes(4))` raises EOFError. -/
def vFs : Fields := .cons "s" false (.struct true (.cons "a" false u32 none (.cons "b" false u8 none .nil))) none
  (.cons "c" false u16 none .nil)
def tyV : Ty := .union true vFs
example : tyA.size cfgL = some 8 ∧ Fields.tightUnion cfgL true aFs = false ∧ Fields.plainU cfgL aFs = true := by decide +kernel
example : tyV.size cfgL = some 8 ∧ Fields.tightUnion cfgL true vFs = false ∧ Fields.plainU cfgL vFs = true := by decide +kernel
def endOf (r : Except Err (Val × Nat)) : Except Err Nat := r.map (·.2)
def bufOf (r : Except Err (Val × Nat)) : Option Bytes := match r with | .ok (.union b _, _) => some b | _ => none
#guard endOf (read cfgL tyA [] [1, 2, 3, 4] 0) = .error .eof
#guard endOf (read cfgL tyA [] [1, 2, 3, 4, 5] 0) = .ok 8            -- a value from 5 < 8 bytes
#guard bufOf (read cfgL tyA [] [1, 2, 3, 4, 5] 0) = some [1, 2, 3, 4, 5]
#guard endOf (read cfgL tyA [] [1, 2, 3, 4, 5, 6, 7] 0) = .ok 8
#guard endOf (read cfgL tyA [] [1, 2, 3, 4, 5, 6, 7, 8, 9] 0) = .ok 8
#guard bufOf (read cfgL tyA [] [1, 2, 3, 4, 5, 6, 7, 8, 9] 0) = some [1, 2, 3, 4, 5, 6, 7, 8]
#guard endOf (read cfgL tyV [] [1, 2, 3, 4, 5] 0) = .ok 8
#guard endOf (read cfgL tyV [] [1, 2, 3, 4, 5, 6, 7, 8] 0) = .ok 8

end UEx

end Cstruct.C08
