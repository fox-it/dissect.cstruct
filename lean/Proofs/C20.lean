/-
  C20 — generated type stubs: property theorems over the model `CstructModel/Stubgen.lean`.

  The model emits typed lines; that each line shape is a Python statement is checked per generated case with
  `ast.parse` on the real text (the model's rendering is compared with it character by character).  What is
  proved here, for every input:

  * `c20_declared_names`   — the names bound in the body of the stub class are exactly the user constants followed
                             by, per user typedef in table order, the typedef's key (alias lines) or its class name
                             (class stubs); under `Canonical` (class-defining typedefs are registered under their
                             class name — what `cstruct.load` produces) that is exactly constants ++ typedef keys.
  * `c20_nothing_extra`    — unconditionally, every bound name is a user constant, a user typedef key or the class
                             name of a user typedef.
  * `c20_blocks_wellformed`— indentation discipline Python's parser needs: the line after every `class …:` header is
                             one level deeper, no other line is deeper than its predecessor (blank lines aside), the
                             first line is at level 0; needs only that enums have at least one member.
  * `c20_fields_hinted`    — a structure stub annotates exactly the structure's fields, in order, each with
                             `generate_typehint` of the field's type, the keyword `__init__` overload repeats them,
                             and the hint *denotes* the field's type (`HintDenotes`: same array/pointer nesting, same
                             leaf class name).
  * `c20_bound_names_from_input` — every identifier the stub binds anywhere (class names, annotated names, enum
                             members, parameters) is a name that occurs in the input, so if those are Python
                             identifiers so are all binding positions.
-/
import Proofs.Lemmas.C20

namespace Cstruct.Stubgen.C20
open Cstruct.Stubgen

theorem c20_declared_names (inp : Input) (ls : List ILine) (h : generate inp = .ok ls) :
    declaredTop ls = inp.consts.map (·.1) ++ expectedTypeNames inp := by
  obtain ⟨tbody, h1, rfl⟩ := generate_ok h
  have h2 := declaredTop_loop inp _ _ _ _ h1
  rw [declaredTop_eq_pick] at h2 ⊢
  rw [pick_cons, pick_bodyOrEllipsis, pick_append, pick_constLines, h2]
  -- the class header is at level 0, not selected; the loop ran over the user typedefs
  rfl

theorem c20_declared_names_canonical (inp : Input) (ls : List ILine) (h : generate inp = .ok ls)
    (hc : Canonical inp) :
    declaredTop ls = inp.consts.map (·.1) ++ (userTypedefs inp).map (·.1) := by
  rw [c20_declared_names inp ls h, expectedTypeNames_canonical inp hc]

theorem c20_nothing_extra (inp : Input) (ls : List ILine) (h : generate inp = .ok ls) :
    ∀ n ∈ declaredTop ls, n ∈ inp.consts.map (·.1) ∨ n ∈ (userTypedefs inp).map (·.1) ∨
      n ∈ (userTypedefs inp).filterMap (fun p => p.2.name?) := by
  intro n hn
  rw [c20_declared_names inp ls h] at hn
  rcases List.mem_append.1 hn with h | h
  · exact .inl h
  · exact .inr (expectedNamesFrom_mem _ _ n h)

theorem c20_blocks_wellformed (inp : Input) (ls : List ILine) (h : generate inp = .ok ls)
    (he : EnumsNonEmpty inp) :
    BlocksOK (ls.filter (fun l => l.line ≠ .blank)) := by
  obtain ⟨tbody, h1, rfl⟩ := generate_ok h
  obtain ⟨h2, h3⟩ := loop_good inp _ _ _ _ h1 (enumsNonEmpty_mem he)
  obtain ⟨h4, h5⟩ := body_good_ne (inp := inp) h2 h3
  have : nb (⟨0, .classHdr inp.clsName (inp.modPrefix ++ "cstruct")⟩ :: bodyOrEllipsis (constLines inp ++ tbody)) =
      ⟨0, .classHdr inp.clsName (inp.modPrefix ++ "cstruct")⟩ :: nb (bodyOrEllipsis (constLines inp ++ tbody)) := by
    simp [nb]
  show BlocksOK (nb _)
  rw [this]
  obtain ⟨g1, _, g3, g4⟩ := good_hdr inp.clsName (inp.modPrefix ++ "cstruct") h4 h5
  exact ⟨g1, g3, g4⟩

theorem c20_fields_hinted (keys : List String) (cp mp n b : String) (fs : SFields) :
    fieldDecls (structStub keys cp mp n b fs) = fs.args keys cp mp ∧
    initArgs (structStub keys cp mp n b fs) = [fs.args keys cp mp] ∧
    ∀ f t, SFields.Mem f t fs → HintDenotes (fieldHint keys cp mp t) t := by
  exact ⟨fieldDecls_structStub keys cp mp n b fs, initArgs_structStub keys cp mp n b fs,
    fun f t _ => hint_denotes _ mp t⟩

theorem c20_bound_names_from_input (P : String → Prop) (inp : Input) (ls : List ILine)
    (h : generate inp = .ok ls) (hP : ∀ n ∈ inputNames inp, P n) :
    ∀ l ∈ ls, ∀ n ∈ boundNames l.line, P n := by
  obtain ⟨tbody, h1, rfl⟩ := generate_ok h
  intro l hl n hn
  apply hP
  unfold inputNames
  rcases List.mem_cons.1 hl with rfl | hl
  · simp only [boundNames, List.mem_singleton] at hn
    rw [hn]; exact List.mem_cons_self ..
  · apply List.mem_cons_of_mem
    unfold bodyOrEllipsis at hl
    split at hl
    · simp only [List.mem_singleton] at hl; subst hl
      simp [boundNames] at hn
    · rcases List.mem_append.1 hl with hl | hl
      · obtain ⟨c, hc, rfl⟩ := List.mem_map.1 hl
        simp only [boundNames, List.mem_singleton] at hn
        rw [hn]
        exact List.mem_append_left _ (List.mem_map.2 ⟨c, hc, rfl⟩)
      · obtain ⟨p, hp, hn'⟩ := loop_names inp _ _ _ _ h1 l hl n hn
        apply List.mem_append_right
        rw [List.mem_flatMap]
        refine ⟨p, hp, ?_⟩
        rcases hn' with rfl | hn'
        · exact List.mem_cons_self ..
        · exact List.mem_cons_of_mem _ hn'

-- non-vacuity: a concrete input meets the hypotheses and generates
example : ∃ ls, generate sampleInput = .ok ls ∧ Canonical sampleInput ∧ EnumsNonEmpty sampleInput ∧
    declaredTop ls = ["K", "E", "S", "PS", "T"] := by
  -- the witness is whatever `generate` returns; one evaluation checks all four facts
  exact ⟨(generate sampleInput).toOption.getD [], by decide +kernel⟩

end Cstruct.Stubgen.C20
