/-
  C04 — structure layout follows C rules.

  Specification: the textbook rule in `Proofs/Spec/C04.lean`. Model: `Fields.layout` / `Ty.size` / `Ty.alignment` in
  `CstructModel/Ty.lean`, which mirror `StructureMetaType._calculate_size_and_offsets`,
  `UnionMetaType._calculate_size_and_offsets`, `_make_array`, `_make_pointer` including the bit trick
  `-offset & (alignment - 1)` on Python ints (`Cstruct.pyPad`, `Cstruct.padNat` in `Bits.lean`).
  That declared size = bytes read = bytes written is `c04_size_read_write` in `Proofs/C04Size.lean`.
-/
import Proofs.Spec.C04
import Proofs.Lemmas.C04

namespace Cstruct.C04
open Cstruct Cstruct.C04.Lemmas

/-- The bit trick is the rounding rule: for a power-of-two alignment, `-o & (a-1)` is the distance from `o` to the
    next multiple of `a` — so `o + padNat o a = roundUp o a`, it is a multiple of `a`, and less than `a` is added. -/
theorem c04_pad (o k : Nat) :
    padNat o (2 ^ k) = pad o (2 ^ k) ∧ o + padNat o (2 ^ k) = roundUp o (2 ^ k) ∧
    (o + padNat o (2 ^ k)) % 2 ^ k = 0 ∧ padNat o (2 ^ k) < 2 ^ k := by
  have hr := Lemmas.padNat_roundUp o (2 ^ k) ⟨k, rfl⟩
  refine ⟨Lemmas.padNat_pow2 o k, hr, ?_, ?_⟩
  · rw [hr]; exact Lemmas.roundUp_mod _ _
  · rw [Lemmas.padNat_pow2]; exact Lemmas.pad_lt _ _ (Nat.two_pow_pos k)

/-- **Aligned mode = the C rule.** For members of fixed size without bit-fields whose alignments are powers of two,
    the code's layout is exactly: every member at the next multiple of its alignment, the structure padded to a
    multiple of its largest member alignment, which is also the structure's alignment. -/
theorem c04_abi (cfg : Cfg) (fs : Fields) (ms : List (Nat × Nat)) (hm : members cfg fs = some ms)
    (hp : ∀ m ∈ ms, isPow2 m.2) :
    structLayout cfg true fs =
      .ok (some (roundUp (cOffsets ms 0).2 (maxAlignOf ms)), maxAlignOf ms, (cOffsets ms 0).1.map some) := by
  have h := Lemmas.layout_abi cfg fs ms LState.init 0 hm hp rfl
  unfold structLayout
  rw [h]
  show Except.ok (some ((cOffsets ms 0).2 + padNat (cOffsets ms 0).2 (maxAlignOf ms)), maxAlignOf ms, _) = _
  rw [Lemmas.tail_pad ms hp (cOffsets ms 0).2 (by rintro rfl; rfl)]

/-- **Packed mode = back to back**, whatever the alignments. -/
theorem c04_packed (cfg : Cfg) (fs : Fields) (ms : List (Nat × Nat)) (hm : members cfg fs = some ms) :
    structLayout cfg false fs = .ok (some (packedOffsets ms 0).2, maxAlignOf ms, (packedOffsets ms 0).1.map some) := by
  have h := Lemmas.layout_packed cfg fs ms LState.init 0 hm rfl
  unfold structLayout
  rw [h]
  rfl

/-- Consequences a user relies on: in aligned mode every offset is a multiple of the member's alignment, members do not
    overlap (each starts at or after the end of the previous one, with less than one alignment of padding), and the size is
    a multiple of the structure alignment that leaves less than one alignment of tail padding. -/
theorem c04_abi_facts (ms : List (Nat × Nat)) (hp : ∀ m ∈ ms, isPow2 m.2) (cur : Nat) :
    let (os, e) := cOffsets ms cur
    os.length = ms.length ∧
    (∀ i (h : i < ms.length) (h' : i < os.length), os[i] % (ms[i]).2 = 0) ∧
    (∀ o ∈ os, cur ≤ o) ∧ cur ≤ e ∧
    (∀ a, isPow2 a → roundUp e a % a = 0 ∧ e ≤ roundUp e a ∧ roundUp e a < e + a) := by
  cases hc : cOffsets ms cur with
  | mk os e =>
    obtain ⟨h1, h2, h3, h4⟩ := Lemmas.cOffsets_facts ms hp cur os e hc
    exact ⟨h1, h2, h3, h4, fun a ha => ⟨Lemmas.roundUp_mod e a, Lemmas.le_roundUp e a (Lemmas.isPow2_pos ha),
      Lemmas.roundUp_lt e a (Lemmas.isPow2_pos ha)⟩⟩

/-- Arrays and nested aggregates inherit alignment: an array has its element's alignment, a pointer the configured
    pointer type's, an enum its underlying type's, a structure or union the largest alignment of its members
    (at least 1); an array of `n` fixed-size elements has `n` times the element size. -/
theorem c04_inherit (cfg : Cfg) (e : Ty) (n : Nat) (len : Len) (al : Bool) (fs : Fields) (t : Ty) (b : Scalar) (a : Nat) (f : Bool) :
    (Ty.arr e len).alignment cfg = e.alignment cfg ∧
    (Ty.arr e (.fixed n)).size cfg = (e.size cfg).map (n * ·) ∧
    (Ty.ptr t).alignment cfg = max 1 cfg.ptrAlign ∧ (Ty.ptr t).size cfg = cfg.ptr.size ∧
    (Ty.enum b a f).alignment cfg = max 1 a ∧ (Ty.enum b a f).size cfg = b.size ∧
    (Ty.struct al fs).alignment cfg = max 1 (Fields.maxAlign cfg fs 0) ∧
    (Ty.union al fs).alignment cfg = max 1 (Fields.maxAlign cfg fs 0) := by
  have or1 : ∀ a : Nat, (if a = 0 then 1 else a) = max 1 a := fun a => by split <;> omega
  refine ⟨?_, ?_, ?_, ?_, ?_, ?_, ?_, ?_⟩
  · simp only [Ty.alignment]
  · simp only [Ty.size]
    cases e.size cfg <;> rfl
  · simp only [Ty.alignment, or1]
  · simp only [Ty.size]
  · simp only [Ty.alignment, or1]
  · simp only [Ty.size]
  · simp only [Ty.alignment, or1]
  · simp only [Ty.alignment, or1]

/-- **Unions.** A fixed-size union has the size of its largest member, rounded up to its alignment in aligned mode. -/
theorem c04_union (cfg : Cfg) (al : Bool) (fs : Fields) (ms : List (Nat × Nat)) (hm : members cfg fs = some ms)
    (hp : ∀ m ∈ ms, isPow2 m.2) :
    (Ty.union al fs).size cfg =
      some (if al then roundUp (ms.foldl (fun s m => max s m.1) 0) (maxAlignOf ms)
            else ms.foldl (fun s m => max s m.1) 0) := by
  simp only [Ty.size]
  rw [Lemmas.unionSize_members cfg fs ms 0 hm, Lemmas.maxAlign_members cfg fs ms 0 hm]
  cases al
  · rfl
  · simp only [if_true]
    congr 1
    exact Lemmas.tail_pad ms hp _ (by intro h; subst h; rfl)

/-- A member without fixed size makes every later offset, and the structure size, dynamic (`None`) — never a stale
    number. -/
theorem c04_dynamic_tail (cfg : Cfg) (al : Bool) (name : String) (an : Bool) (ty : Ty) (rest : Fields) (st : LState)
    (hdyn : ty.size cfg = none) (sz : Option Nat) (a : Nat) (offs : List (Option Nat))
    (h : Fields.layout cfg al (.cons name an ty none rest) st = .ok (sz, a, offs)) :
    sz = none ∧ ∀ o ∈ offs.drop 1, o = none := by
  obtain ⟨st', foff, offs', hs, hr, rfl⟩ := Layout.layout_cons_ok h
  rcases (Layout.stepL_ok hs).2 with ⟨_, _, h2⟩ | ⟨⟨b, hb⟩, _⟩
  · rw [hdyn] at h2
    exact layout_none cfg _ rest st' sz a offs' (by rw [h2]; cases Layout.offOf al _ st.offset <;> rfl) hr
  · cases hb

/-- Every alignment in the built-in type table (regenerated from cstruct.py on every run) is a power of two, except
    `void`'s 0 and the variable-length types' `None`; so `hp` above holds for every definition built from built-in types. -/
theorem c04_table_pow2 :
    ∀ p ∈ Gen.typeTable, match p.2 with
      | .type _ _ _ (some a) => a = 0 ∨ ∃ k, k ≤ 4 ∧ a = 2 ^ k
      | _ => True := by
  intro p hp
  have h := List.all_eq_true.mp table_all_ok p hp
  obtain ⟨n, e⟩ := p
  cases e with
  | alias t => trivial
  | type name kind size al =>
    cases al with
    | none => trivial
    | some a =>
      simp only [entryOk, Bool.or_eq_true, beq_iff_eq] at h
      show a = 0 ∨ ∃ k, k ≤ 4 ∧ a = 2 ^ k
      rcases h with ((((h | h) | h) | h) | h) | h
      · exact Or.inl h
      · exact Or.inr ⟨0, by decide, h⟩
      · exact Or.inr ⟨1, by decide, h⟩
      · exact Or.inr ⟨2, by decide, h⟩
      · exact Or.inr ⟨3, by decide, h⟩
      · exact Or.inr ⟨4, by decide, h⟩

def cfg0 : Cfg := { endian := .little, ptr := .pint 8 false, ptrAlign := 8, consts := [] }
def fs0 : Fields := .cons "a" false (.sc (.pint 1 false) 1) none (.cons "b" false (.sc (.pint 4 false) 4) none
  (.cons "c" false (.arr (.sc (.aint 3 true) 4) (.fixed 2)) none .nil))
example : structLayout cfg0 true fs0 = .ok (some 16, 4, [some 0, some 4, some 8]) := by decide +kernel
example : members cfg0 fs0 = some [(1, 1), (4, 4), (6, 4)] := by decide +kernel
example : structLayout cfg0 false fs0 = .ok (some 11, 4, [some 0, some 1, some 5]) := by decide +kernel

end Cstruct.C04
