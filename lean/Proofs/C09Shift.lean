/-
  C09, position independence with respect to what precedes: parsing from a stream positioned at `p` returns what parsing
  the bytes from `p` onward on their own returns, shifted by `p`.
-/
import Proofs.Core
import Proofs.Lemmas.C09

namespace Cstruct.C09
open Cstruct Cstruct.Core Cstruct.C09.Lemmas

def shiftRes (k : Nat) : Except Err (Val × Nat) → Except Err (Val × Nat)
  | .ok (v, p) => .ok (v, k + p)
  | .error e => .error e

/-- **Position independence.** For every plain type (bit-fields included) whose structures share one `align` flag and whose
    alignments are powers of two: parsing at position `|pre| + pos` of `pre ++ d` is parsing at `pos` of `d`, shifted by
    `|pre|` — the same value or the same error, whatever the bytes of `pre` are — provided `|pre|` is a multiple of every
    alignment occurring in the type (in packed mode, `al = false`, any `pre`). -/
theorem c09_shift (cfg : Cfg) (al : Bool) (ty : Ty) (hplain : ty.plain = true) (hu : ty.uniformAlign al = true)
    (hp : ty.pow2Aligned cfg) (ctx : Ctx) (pre d : Bytes) (pos : Nat)
    (hal : al = true → ty.alignsDivide cfg pre.length = true) :
    read cfg ty ctx (pre ++ d) (pre.length + pos) = shiftRes pre.length (read cfg ty ctx d pos) := by
  rw [read_shift cfg al ty hplain hu hp ctx pre d pos hal]
  cases read cfg ty ctx d pos with
  | error e => rfl
  | ok r => rfl

/-- Corollary: the bytes before the start position never matter. -/
theorem c09_before_irrelevant (cfg : Cfg) (al : Bool) (ty : Ty) (hplain : ty.plain = true) (hu : ty.uniformAlign al = true)
    (hp : ty.pow2Aligned cfg) (ctx : Ctx) (pre pre' d : Bytes) (hlen : pre.length = pre'.length)
    (hal : al = true → ty.alignsDivide cfg pre.length = true) :
    read cfg ty ctx (pre ++ d) pre.length = read cfg ty ctx (pre' ++ d) pre'.length := by
  have h1 := c09_shift cfg al ty hplain hu hp ctx pre d 0 hal
  have h2 := c09_shift cfg al ty hplain hu hp ctx pre' d 0 (by rw [← hlen]; exact hal)
  rw [Nat.add_zero] at h1 h2
  rw [h1, h2, hlen]

end Cstruct.C09
