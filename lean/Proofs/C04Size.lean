/-
  C04 — declared size = bytes read = bytes written (fragment S): `c04_size_read_write`, from `Core.read_size_S` and
  `Core.write_total_S`.
-/
import Proofs.Core

namespace Cstruct.C04
open Cstruct Cstruct.Core

/-- For every fixed-size type of fragment S: parsing a long-enough input from an aligned start consumes exactly `len(T)`
    bytes and yields a value of the type; dumping any value of the type produces exactly `len(T)` bytes. -/
theorem c04_size_read_write (cfg : Cfg) (al : Bool) (ty : Ty) (hS : ty.fragS cfg = true) (hu : ty.uniformAlign al = true)
    (hp : ty.pow2Aligned cfg) (n : Nat) (hsz : ty.size cfg = some n) :
    (∀ ctx data pos, pos + n ≤ data.length → ty.alignsDivide cfg pos = true →
        ∃ v, read cfg ty ctx data pos = .ok (v, pos + n) ∧ HasTy cfg v ty) ∧
    (∀ v pos, HasTy cfg v ty → ty.alignsDivide cfg pos = true → ∃ bs, write cfg ty v pos = .ok bs ∧ bs.length = n) := by
  refine ⟨fun ctx data pos hlen hal => read_size_S cfg al ty hS hu hp ctx data pos n hsz hlen hal, ?_⟩
  intro v pos hv hal
  obtain ⟨bs, hw, h⟩ := write_total_S cfg al ty hS hu hp v hv pos hal
  rw [hsz] at h
  exact ⟨bs, hw, (Option.some.inj h).symm⟩

end Cstruct.C04
