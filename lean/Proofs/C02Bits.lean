/-
  C02 / C04 for structures WITH bit-fields (fragment SB of `Proofs/Spec/CoreBits.lean`: fragment S plus bit-fields over
  integer or enum storage, signed or unsigned, any width, either byte order): first the statements for packed mode,
  then the same for packed or aligned structures.

  Property C02: dumping the parsed value yields exactly as many bytes as parsing consumed, and those bytes are identical
  to the input at every bit that belongs to a field; only alignment padding and bit-field bits not assigned to any
  field may differ, and they are written as zero.  Property C04: the number of bytes consumed by parsing and produced by
  dumping agree with the declared size.

  Specification side: `Proofs/Spec/C02Bits.lean` — the bit-level data mask `C02B.maskB`, computed from the layout offsets
  and the slot positions of `Proofs/Spec/C06.lean`, independently of reader and writer. The invariant of the proof is
  `Lemmas.Units` (`Proofs/Lemmas/C02Units.lean`).
-/
import Proofs.Spec.C02Bits
import Proofs.Lemmas.C02Fidelity
import Proofs.Lemmas.C02Mask
import Proofs.CoreBits

namespace Cstruct.C02B
open Cstruct Cstruct.Core

/-- **Parsing consumes exactly the declared size (fragment SB, packed)** when the input is long enough — any start
    position, any context — and the parsed value is a value of the type, so that the round-trip theorem
    `Core.roundtrip_SB_packed` and `Core.write_total_SB_packed` apply to parsed values. (`hd`, that the definition is
    accepted, i.e. no bit-field straddles its storage unit, follows here from `hsz`: a type whose layout is rejected
    has no size; it is what gives a size in `c02_fidelity_SB_packed_gen`.) -/
theorem read_size_SB_packed (cfg : Cfg) (ty : Ty) (hS : ty.fragSB cfg = true) (hu : ty.uniformAlign false = true)
    (hd : ty.defErr cfg = none) (ctx : Ctx) (data : Bytes) (pos n : Nat) (hsz : ty.size cfg = some n)
    (hlen : pos + n ≤ data.length) :
    ∃ v, read cfg ty ctx data pos = .ok (v, pos + n) ∧ HasTyB cfg v ty := by
  obtain ⟨v, hr, hv, _⟩ := (Lemmas.ty_ok cfg false ty (.packed hS hu) n hsz).2 data pos hlen nofun ctx
  exact ⟨v, hr, hv⟩

theorem maskB_length_packed (cfg : Cfg) (ty : Ty) (hS : ty.fragSB cfg = true) (hu : ty.uniformAlign false = true)
    (hd : ty.defErr cfg = none) (n : Nat) (hsz : ty.size cfg = some n) : (maskB cfg ty).length = n :=
  (Lemmas.ty_ok cfg false ty (.packed hS hu) n hsz).1

/-- **Every successful parse (fragment SB, packed)** — whatever the input, start position and context — ends exactly
    `size` bytes after its start (C04) and yields a value of the type; when the consumed bytes lie inside the input
    (always, except for a zero-size type parsed beyond the end of the input), dumping the value at the same position
    gives exactly those bytes under the bit-level mask (C02): every bit that belongs to a field is reproduced, every
    other bit is written as zero. -/
theorem c02_fidelity_SB_packed_gen (cfg : Cfg) (ty : Ty) (hS : ty.fragSB cfg = true) (hu : ty.uniformAlign false = true)
    (hd : ty.defErr cfg = none) (ctx : Ctx) (d : Bytes) (pos : Nat) (v : Val) (p : Nat)
    (hr : read cfg ty ctx d pos = .ok (v, p)) :
    ∃ n, ty.size cfg = some n ∧ p = pos + n ∧ HasTyB cfg v ty ∧ (maskB cfg ty).length = n ∧
      (p ≤ d.length → write cfg ty v pos = .ok (andBytes (sread d pos n) (maskB cfg ty))) := by
  obtain ⟨n, hn⟩ := Core.size_some_SB cfg ty hS hd
  exact ⟨n, hn, Lemmas.fidelity cfg false ty (.packed hS hu) n hn ctx d pos nofun v p hr⟩

/-- **Byte-and-bit fidelity (fragment SB, packed).** If parsing the input `pre ++ w ++ post` from position `pre.length`
    succeeds and consumes the `n` bytes `w`, then `n` is the declared size, dumping the parsed value succeeds and yields
    exactly `n` bytes, and byte `i` of the output is byte `i` of the input ANDed with byte `i` of the bit-level mask:
    every data bit is reproduced, every other bit (bits of a bit-field storage unit that no field uses) is zero. -/
theorem c02_fidelity_SB_packed (cfg : Cfg) (ty : Ty) (hS : ty.fragSB cfg = true) (hu : ty.uniformAlign false = true)
    (hd : ty.defErr cfg = none) (ctx : Ctx) (pre w post : Bytes) (n : Nat) (hw : w.length = n) (v : Val)
    (hr : read cfg ty ctx (pre ++ w ++ post) pre.length = .ok (v, pre.length + n)) :
    ty.size cfg = some n ∧ (maskB cfg ty).length = n ∧
    ∃ bs, write cfg ty v pre.length = .ok bs ∧ bs.length = n ∧ bs = andBytes w (maskB cfg ty) ∧
      ∀ (i : Nat) (h1 : i < bs.length) (h2 : i < w.length) (h3 : i < (maskB cfg ty).length),
        bs[i] = w[i] &&& (maskB cfg ty)[i] := by
  exact Lemmas.fidelity_mid cfg false ty (.packed hS hu) (Core.size_some_SB cfg ty hS hd) ctx pre w post n hw nofun v hr

/-- **C04 for parsed values (fragment SB, packed)**: parsing a long-enough input consumes the declared size, and dumping
    the parsed value produces the declared size. -/
theorem c04_sizes_SB_packed (cfg : Cfg) (ty : Ty) (hS : ty.fragSB cfg = true) (hu : ty.uniformAlign false = true)
    (hd : ty.defErr cfg = none) (ctx : Ctx) (data : Bytes) (pos n : Nat) (hsz : ty.size cfg = some n)
    (hlen : pos + n ≤ data.length) :
    ∃ v bs, read cfg ty ctx data pos = .ok (v, pos + n) ∧ write cfg ty v pos = .ok bs ∧ bs.length = n := by
  obtain ⟨hml, hf⟩ := Lemmas.ty_ok cfg false ty (.packed hS hu) n hsz
  obtain ⟨v, hr, _, hw⟩ := hf data pos hlen nofun ctx
  exact ⟨v, _, hr, hw, Lemmas.andBytes_window_length data pos n _ hml hlen⟩


/-! ### Packed or aligned
  Under the hypotheses of `Core.roundtrip_SB`: one `align` flag throughout, power-of-two alignments, a start position
  that is a multiple of the alignments occurring in the type, in aligned mode every bit-field storage scalar has
  `size = alignment` (the finding recorded in `Proofs/CoreBits.lean` for int24/int48 storage is outside), the definition
  is accepted (which is used only where no size is given, to obtain one). Alignment padding — in front of a member and at the end of an aligned structure — is a run of zero mask
  bytes: skipped by the reader, written as zero bytes. -/

/-- **Parsing consumes exactly the declared size (fragment SB, packed or aligned)** and yields a value of the type. -/
theorem read_size_SB (cfg : Cfg) (al : Bool) (ty : Ty) (hS : ty.fragSB cfg = true) (hu : ty.uniformAlign al = true)
    (hp : ty.pow2Aligned cfg) (hn : al = true → ty.bitsNatural cfg = true) (hd : ty.defErr cfg = none)
    (ctx : Ctx) (data : Bytes) (pos n : Nat) (hsz : ty.size cfg = some n) (hlen : pos + n ≤ data.length)
    (hal : ty.alignsDivide cfg pos = true) :
    ∃ v, read cfg ty ctx data pos = .ok (v, pos + n) ∧ HasTyB cfg v ty := by
  obtain ⟨v, hr, hv, _⟩ := (Lemmas.ty_ok cfg al ty ⟨hS, hu, fun _ => hp, hn⟩ n hsz).2 data pos hlen
    (fun _ => Core.Lemmas.sAlign_dvd_of_alignsDivide cfg pos ty hal) ctx
  exact ⟨v, hr, hv⟩

theorem maskB_length (cfg : Cfg) (al : Bool) (ty : Ty) (hS : ty.fragSB cfg = true) (hu : ty.uniformAlign al = true)
    (hp : ty.pow2Aligned cfg) (hn : al = true → ty.bitsNatural cfg = true) (hd : ty.defErr cfg = none) (n : Nat)
    (hsz : ty.size cfg = some n) : (maskB cfg ty).length = n :=
  (Lemmas.ty_ok cfg al ty ⟨hS, hu, fun _ => hp, hn⟩ n hsz).1

/-- **Every successful parse from an aligned start (fragment SB, packed or aligned)** ends exactly `size` bytes after its
    start, yields a value of the type, and dumping the value gives the consumed bytes under the bit-level mask. -/
theorem c02_fidelity_SB_gen (cfg : Cfg) (al : Bool) (ty : Ty) (hS : ty.fragSB cfg = true) (hu : ty.uniformAlign al = true)
    (hp : ty.pow2Aligned cfg) (hn : al = true → ty.bitsNatural cfg = true) (hd : ty.defErr cfg = none) (ctx : Ctx)
    (d : Bytes) (pos : Nat) (hal : ty.alignsDivide cfg pos = true) (v : Val) (p : Nat)
    (hr : read cfg ty ctx d pos = .ok (v, p)) :
    ∃ n, ty.size cfg = some n ∧ p = pos + n ∧ HasTyB cfg v ty ∧ (maskB cfg ty).length = n ∧
      (p ≤ d.length → write cfg ty v pos = .ok (andBytes (sread d pos n) (maskB cfg ty))) := by
  obtain ⟨n, hn'⟩ := Core.size_some_SB cfg ty hS hd
  exact ⟨n, hn', Lemmas.fidelity cfg al ty ⟨hS, hu, fun _ => hp, hn⟩ n hn' ctx d pos
    (fun _ => Core.Lemmas.sAlign_dvd_of_alignsDivide cfg pos ty hal) v p hr⟩

/-- **Byte-and-bit fidelity (fragment SB, packed or aligned).** As `c02_fidelity_SB_packed`; the bits that may differ
    from the input — and are written as zero — are alignment padding and the bits of a bit-field storage unit that no
    field uses. -/
theorem c02_fidelity_SB (cfg : Cfg) (al : Bool) (ty : Ty) (hS : ty.fragSB cfg = true) (hu : ty.uniformAlign al = true)
    (hp : ty.pow2Aligned cfg) (hn : al = true → ty.bitsNatural cfg = true) (hd : ty.defErr cfg = none)
    (ctx : Ctx) (pre w post : Bytes) (n : Nat) (hw : w.length = n) (hal : ty.alignsDivide cfg pre.length = true) (v : Val)
    (hr : read cfg ty ctx (pre ++ w ++ post) pre.length = .ok (v, pre.length + n)) :
    ty.size cfg = some n ∧ (maskB cfg ty).length = n ∧
    ∃ bs, write cfg ty v pre.length = .ok bs ∧ bs.length = n ∧ bs = andBytes w (maskB cfg ty) ∧
      ∀ (i : Nat) (h1 : i < bs.length) (h2 : i < w.length) (h3 : i < (maskB cfg ty).length),
        bs[i] = w[i] &&& (maskB cfg ty)[i] := by
  exact Lemmas.fidelity_mid cfg al ty ⟨hS, hu, fun _ => hp, hn⟩ (Core.size_some_SB cfg ty hS hd) ctx pre w post n hw
    (fun _ => Core.Lemmas.sAlign_dvd_of_alignsDivide cfg pre.length ty hal) v hr

/-- **Consistency of the two masks.** On fragment S (no bit-fields) the bit-level mask is the byte-level mask
    `C02.tyMask` of `Proofs/Spec/C02.lean` with `true ↦ 0xFF` (data) and `false ↦ 0x00` (padding); packed, aligned or
    mixed. (Definitions only.) -/
theorem maskB_fragS (cfg : Cfg) (ty : Ty) (hS : ty.fragS cfg = true) :
    maskB cfg ty = (C02.tyMask cfg ty).map fun b => if b then 0xFF else 0x00 :=
  Lemmas.maskB_fragS cfg ty hS

/-! ### Non-vacuity
  `struct { uint16 a:3; uint16 b:4; uint8 c; }`, packed: one 16-bit unit of which 7 bits are used, then a byte.
  Little endian: the fields occupy bits 0..6 of the unit, i.e. of its FIRST byte: mask `7f 00 ff`.
  Big endian: the fields occupy bits 15..9 of the unit, again in its first byte (the most significant one): `fe 00 ff`. -/
namespace Ex
open Cstruct.Core.Ex

def cfgB : Cfg := { endian := .big, ptr := .pint 4 false, ptrAlign := 4, consts := [] }
/-- `struct { uint16 a:3; uint16 b:4; uint8 c; }` -/
def tyP : Ty := .struct false (.cons "a" false u16 (some 3) (.cons "b" false u16 (some 4) (.cons "c" false u8 none .nil)))
/-- `struct { int8 a:3; uint16 b:4; uint16 c:5; int8 z:2; }`: three units, the first and last of a signed type -/
def tyQ : Ty := .struct false (.cons "a" false i8 (some 3) (.cons "b" false u16 (some 4) (.cons "c" false u16 (some 5)
  (.cons "z" false i8 (some 2) .nil))))

example : tyP.fragSB cfgL = true ∧ tyP.uniformAlign false = true ∧ tyP.defErr cfgL = none ∧ tyP.size cfgL = some 3 := by
  decide +kernel
example : maskB cfgL tyP = [0x7f, 0x00, 0xff] := by decide +kernel
example : maskB cfgB tyP = [0xfe, 0x00, 0xff] := by decide +kernel
example : maskB cfgL tyQ = [0x07, 0xff, 0x01, 0x03] := by decide +kernel
example : maskB cfgB tyQ = [0xe0, 0xff, 0x80, 0xc0] := by decide +kernel
-- the structure of `Proofs/CoreBits.lean` (`int8 a:3; int8 b:5; uint16 c:4; uint16 d:12; uint8 e;`): every bit is used
example : maskB cfgL tyA = [0xff, 0xff, 0xff, 0xff] := by decide +kernel
-- an array of the structure above nested in a structure: the unit's mask repeats per element
example : maskB cfgL (.struct false (.cons "x" false u16 none (.cons "s" false (.arr tyP (.fixed 2)) none .nil))) =
    [0xff, 0xff, 0x7f, 0x00, 0xff, 0x7f, 0x00, 0xff] := by decide +kernel

/-- parsing `ff ff ab` as `tyP` (little endian) succeeds, consumes 3 bytes, and dumping the result gives `7f 00 ab`:
    the nine unused bits of the unit come back as zero, everything else is reproduced -/
example (post : Bytes) (ctx : Ctx) :
    ∃ v, read cfgL tyP ctx ([0xff, 0xff, 0xab] ++ post) 0 = .ok (v, 3) ∧ HasTyB cfgL v tyP ∧
      write cfgL tyP v 0 = .ok [0x7f, 0x00, 0xab] := by
  obtain ⟨v, hr, hv⟩ := read_size_SB_packed cfgL tyP (by decide +kernel) (by decide +kernel) (by decide +kernel) ctx
    ([0xff, 0xff, 0xab] ++ post) 0 3 (by decide +kernel) (by simp)
  refine ⟨v, hr, hv, ?_⟩
  obtain ⟨_, _, bs, hw, _, hbs, _⟩ := c02_fidelity_SB_packed cfgL tyP (by decide +kernel) (by decide +kernel)
    (by decide +kernel) ctx [] [0xff, 0xff, 0xab] post 3 rfl v hr
  rw [hbs] at hw
  have : andBytes [0xff, 0xff, 0xab] (maskB cfgL tyP) = [0x7f, 0x00, 0xab] := by decide +kernel
  rw [this] at hw
  exact hw

/-- the same input in big endian comes back as `fe 00 ab` -/
example (post : Bytes) (ctx : Ctx) :
    ∃ v, read cfgB tyP ctx ([0xff, 0xff, 0xab] ++ post) 0 = .ok (v, 3) ∧ write cfgB tyP v 0 = .ok [0xfe, 0x00, 0xab] := by
  obtain ⟨v, hr, hv⟩ := read_size_SB_packed cfgB tyP (by decide +kernel) (by decide +kernel) (by decide +kernel) ctx
    ([0xff, 0xff, 0xab] ++ post) 0 3 (by decide +kernel) (by simp)
  refine ⟨v, hr, ?_⟩
  obtain ⟨_, _, bs, hw, _, hbs, _⟩ := c02_fidelity_SB_packed cfgB tyP (by decide +kernel) (by decide +kernel)
    (by decide +kernel) ctx [] [0xff, 0xff, 0xab] post 3 rfl v hr
  rw [hbs] at hw
  have : andBytes [0xff, 0xff, 0xab] (maskB cfgB tyP) = [0xfe, 0x00, 0xab] := by decide +kernel
  rw [this] at hw
  exact hw

/-! aligned, big endian: `struct { uint8 a:3; uint16 b:4; uint16 c:12; uint8 e; }` (`Core.Ex.tyG`): an 8-bit unit with
    3 bits used (`e0`), one byte of padding, a full 16-bit unit, a byte, one byte of tail padding -/
example : tyG.fragSB cfgBE = true ∧ tyG.uniformAlign true = true ∧ tyG.bitsNatural cfgBE = true ∧ tyG.defErr cfgBE = none ∧
    tyG.alignsDivide cfgBE 0 = true ∧ tyG.size cfgBE = some 6 := by
  decide +kernel
example : maskB cfgBE tyG = [0xe0, 0x00, 0xff, 0xff, 0xff, 0x00] := by decide +kernel
-- `struct { uint8 x; uint32 a:5; uint32 b:9; uint16 c:3; uint8 y; }`, aligned, little endian, size 12
example : maskB cfgL (.struct true (.cons "x" false u8 none (.cons "a" false (.sc (.pint 4 false) 4) (some 5)
    (.cons "b" false (.sc (.pint 4 false) 4) (some 9) (.cons "c" false u16 (some 3) (.cons "y" false u8 none .nil)))))) =
    [0xff, 0, 0, 0, 0xff, 0x3f, 0, 0, 0x07, 0, 0xff, 0] := by decide +kernel

/-- parsing six `ff` bytes as `tyG` (aligned, big endian) and dumping the result gives `e0 00 ff ff ff 00` -/
example (post : Bytes) (ctx : Ctx) :
    ∃ v, read cfgBE tyG ctx ([0xff, 0xff, 0xff, 0xff, 0xff, 0xff] ++ post) 0 = .ok (v, 6) ∧ HasTyB cfgBE v tyG ∧
      write cfgBE tyG v 0 = .ok [0xe0, 0x00, 0xff, 0xff, 0xff, 0x00] := by
  have hp : tyG.pow2Aligned cfgBE := ⟨Or.inr ⟨0, rfl⟩, Or.inr ⟨1, rfl⟩, Or.inr ⟨1, rfl⟩, Or.inr ⟨0, rfl⟩, trivial⟩
  obtain ⟨v, hr, hv⟩ := read_size_SB cfgBE true tyG (by decide +kernel) (by decide +kernel) hp (fun _ => by decide +kernel)
    (by decide +kernel) ctx ([0xff, 0xff, 0xff, 0xff, 0xff, 0xff] ++ post) 0 6 (by decide +kernel) (by simp)
    (by decide +kernel)
  refine ⟨v, hr, hv, ?_⟩
  obtain ⟨_, _, bs, hw, _, hbs, _⟩ := c02_fidelity_SB cfgBE true tyG (by decide +kernel) (by decide +kernel) hp
    (fun _ => by decide +kernel) (by decide +kernel) ctx [] [0xff, 0xff, 0xff, 0xff, 0xff, 0xff] post 6 rfl
    (by decide +kernel) v hr
  rw [hbs] at hw
  have : andBytes [0xff, 0xff, 0xff, 0xff, 0xff, 0xff] (maskB cfgBE tyG) = [0xe0, 0x00, 0xff, 0xff, 0xff, 0x00] := by
    decide +kernel
  rw [this] at hw
  exact hw

-- the hypothesis `defErr = none` is not vacuous either way: a straddling definition is rejected
example : (Ty.struct false (.cons "x" false u8 (some 5) (.cons "y" false u8 (some 5) .nil))).defErr cfgL = some .value := by
  decide +kernel

end Ex

end Cstruct.C02B
