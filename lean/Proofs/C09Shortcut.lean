/-
  C09 / C18 — the structure shortcut of the class call (`Proofs/C09Call.lean`) joined to the read model: where it applies,
  reading the bytes yields the very record the shortcut builds.
-/
import Proofs.C09Call
import Proofs.Lemmas.CoreRW

namespace Cstruct.Call.C09
open Cstruct Cstruct.Core

/-- **Where the structure shortcut applies it is a parse in disguise**: for a packed structure whose only member is
    `char name[n]` (n > 0) and an input of exactly n bytes, reading the structure yields the record holding exactly those
    bytes and ends at n - the value the shortcut constructs from the argument. -/
theorem c09_shortcut_is_parse (cfg : Cfg) (nm : String) (an : Bool) (a n : Nat) (hn : 0 < n) (ctx : Ctx) (d : Bytes)
    (hd : d.length = n) :
    read cfg (.struct false (.cons nm an (.arr (.sc .char a) (.fixed n)) none .nil)) ctx d 0 =
      .ok (.record (.cons (.bytes d) .nil), n) := by
  rw [Lemmas.read_struct]
  -- the layout: one member of size `n` at offset 0
  obtain ⟨al', hl⟩ : ∃ al', structLayout cfg false (.cons nm an (.arr (.sc .char a) (.fixed n)) none .nil) =
      .ok (some n, al', [some 0]) := by
    refine ⟨max 0 (Ty.alignment cfg (.arr (.sc .char a) (.fixed n))), ?_⟩
    unfold structLayout
    rw [Lemmas.init_eq_mkSt, Lemmas.layout_cons cfg false nm an _ .nil 0 0 n (by simp [Ty.size, Scalar.size]), Lemmas.layout_nil]
    simp [Lemmas.alignTo]
    rfl
  rw [hl]
  simp only [Except.bind]
  rw [Lemmas.readFields_cons_nobits _ _ _ _ _ _ _ _ _ _ _ _ _ (by rfl)]
  have hpos : Lemmas.fieldPos cfg false (.arr (.sc .char a) (.fixed n)) ([some 0] : List (Option Nat)).head?.join 0 0 = 0 := by
    simp [Lemmas.fieldPos]
  rw [hpos, Lemmas.read_arr_fixed, Lemmas.readArray_char]
  have hne : n ≠ 0 := by omega
  have hs : sread d 0 n = d := by
    simp [sread, ← hd]
  simp only [hne, if_false, readExact, hs, hd, ne_eq, not_true_eq_false, Except.bind, Lemmas.readFields_nil]
  simp

end Cstruct.Call.C09
