/-
  C16 — pointers: width from configuration, dereference reads the target in place.

  Over `CstructModel/Pointer.lean` (types/pointer.py) and the `Ty.ptr` cases of the read/write model.
-/
import CstructModel.Pointer
import Proofs.Lemmas.C16

namespace Cstruct.C16
open Cstruct Cstruct.Pointer Cstruct.Core

/-- **Width and value**: a pointer field occupies exactly the configured pointer type's width, whatever the target; its
    value is the integer that type decodes at that place — for an unsigned pointer type of `n` bytes the unsigned integer
    stored there, in [0, 2^(8n)) — and parsing binds it to the stream it was read from. -/
theorem c16_width_value (cfg : Cfg) (t : Ty) (ctx : Ctx) (d : Bytes) (pos n : Nat) (hp : cfg.ptr = .pint n false ∨ cfg.ptr = .aint n false) :
    (Ty.ptr t).size cfg = some n ∧
    (∀ v p, read cfg (.ptr t) ctx d pos = .ok (v, p) →
      p = pos + n ∧ ∃ a : Int, v = .ptr a ∧ a = (decodeNat cfg.endian ((d.drop pos).take n) : Int) ∧ 0 ≤ a ∧ a < 2 ^ (8 * n)) ∧
    (∀ ptr p, readPtr cfg t d pos = .ok (ptr, p) → ptr.stream = some d ∧ ptr.target = t ∧ ptr.cache = none ∧
      read cfg (.ptr t) ctx d pos = .ok (.ptr ptr.addr, p)) := by
  refine ⟨Lemmas.size_uptr cfg n hp t, ?_, ?_⟩
  · intro v p h
    rw [Lemmas.read_uptr cfg n hp] at h
    split at h
    · rename_i hl
      cases h
      refine ⟨rfl, _, rfl, rfl, Int.natCast_nonneg _, ?_⟩
      have := C05.Lemmas.decodeNat_lt cfg.endian (sread d pos n)
      rw [hl] at this
      exact_mod_cast this
    · cases h
  · intro ptr p h
    rw [Lemmas.readPtr_uptr cfg n hp] at h
    rw [Lemmas.read_uptr cfg n hp]
    split at h
    · rename_i hl
      cases h
      rw [if_pos hl]
      exact ⟨rfl, rfl, rfl, rfl⟩
    · cases h

/-- **Dereference reads the target in place**: for a non-null pointer bound to a stream, dereferencing returns what parsing
    the target type at that absolute offset returns (for a char target: the NUL-terminated string there), leaves the stream
    position where it was, and fills the cache. -/
theorem c16_deref (cfg : Cfg) (ptr : Ptr) (data : Bytes) (pos : Nat) (hs : ptr.stream = some data) (ha : 0 < ptr.addr)
    (hc : ptr.cache = none) (hv : isVoid ptr.target = false) :
    (isChar ptr.target = false →
      deref cfg ptr pos = (read cfg ptr.target [] data ptr.addr.toNat).map (fun (v, _) => (v, { ptr with cache := some v }, pos))) ∧
    (isChar ptr.target = true →
      deref cfg ptr pos = (read cfg (.arr ptr.target .nullTerm) [] data ptr.addr.toNat).map (fun (v, _) => (v, { ptr with cache := some v }, pos))) := by
  have h0 : ptr.addr ≠ 0 := by omega
  have hn : ¬ ptr.addr < 0 := by omega
  constructor
  · intro hch
    simp only [deref, hs, hc, hv, hch, h0, hn, if_false, Bool.false_eq_true]
    cases read cfg ptr.target [] data ptr.addr.toNat with
    | error e => rfl
    | ok r => rfl
  · intro hch
    simp only [deref, hs, hc, hv, hch, h0, hn, if_false, if_true, Bool.false_eq_true]
    cases read cfg (.arr ptr.target .nullTerm) [] data ptr.addr.toNat with
    | error e => rfl
    | ok r => rfl

/-- **Stable on repeated access, stream never moves**: a second dereference returns the same value and the same pointer
    state, and every successful dereference leaves the position unchanged. -/
theorem c16_deref_stable (cfg : Cfg) (ptr : Ptr) (pos pos' : Nat) (v : Val) (ptr' : Ptr) (q : Nat)
    (h : deref cfg ptr pos = .ok (v, ptr', q)) :
    q = pos ∧ deref cfg ptr' pos' = .ok (v, ptr', pos') ∧ ptr'.addr = ptr.addr ∧ ptr'.stream = ptr.stream ∧ ptr'.target = ptr.target := by
  -- a successful dereference leaves a pointer that answers from its cache (a void target answers without reading):
  -- follow `deref` down to each of its three successful returns and run it again on the pointer returned
  unfold deref at h
  obtain ⟨data, hs⟩ : ∃ data, ptr.stream = some data := by
    cases hs : ptr.stream with
    | none => rw [hs] at h; cases h
    | some data => exact ⟨data, rfl⟩
  rw [hs] at h
  simp only [] at h
  by_cases h0 : ptr.addr = 0
  · rw [if_pos h0] at h; cases h
  rw [if_neg h0] at h
  cases hc : ptr.cache with
  | some w =>
    rw [hc] at h
    cases h
    refine ⟨rfl, ?_, rfl, rfl, rfl⟩
    simp only [deref, hs, hc, h0, if_false]
  | none =>
    rw [hc] at h
    simp only [] at h
    by_cases hv : isVoid ptr.target = true
    · rw [if_pos hv] at h
      cases h
      refine ⟨rfl, ?_, rfl, rfl, rfl⟩
      simp only [deref, hs, hc, h0, hv, if_false, if_true]
    rw [if_neg hv] at h
    by_cases hn : ptr.addr < 0
    · rw [if_pos hn] at h; cases h
    rw [if_neg hn] at h
    split at h
    · cases h
      refine ⟨rfl, ?_, rfl, hs.symm, rfl⟩
      simp only [deref, h0, if_false]
    · cases h

/-- **Null pointers and pointers without a stream raise the dedicated error**, whatever the target and the cache. -/
theorem c16_null (cfg : Cfg) (ptr : Ptr) (pos : Nat) (h : ptr.addr = 0 ∨ ptr.stream = none) :
    deref cfg ptr pos = .error .nullDeref := by
  unfold deref
  cases hs : ptr.stream with
  | none => rfl
  | some data =>
    rcases h with h | h
    · simp only [h, if_true]
    · rw [hs] at h; cases h

/-- **Pointer arithmetic yields a pointer of the same type on the same stream** whose dereference reads at the new address. -/
theorem c16_arith (cfg : Cfg) (ptr : Ptr) (f : Int → Int) (pos : Nat) :
    (arith ptr f).target = ptr.target ∧ (arith ptr f).stream = ptr.stream ∧ (arith ptr f).addr = f ptr.addr ∧
    deref cfg (arith ptr f) pos = deref cfg { ptr with addr := f ptr.addr, cache := none } pos :=
  ⟨rfl, rfl, rfl, rfl⟩

/-- **Dumping writes the address back unchanged**: what `readPtr` read is what `writePtr` writes, and an address that does
    not fit the pointer type is rejected. -/
theorem c16_dump (cfg : Cfg) (t : Ty) (d : Bytes) (pos n : Nat) (ptr : Ptr) (p : Nat)
    (hp : cfg.ptr = .pint n false ∨ cfg.ptr = .aint n false) (h : readPtr cfg t d pos = .ok (ptr, p)) :
    writePtr cfg ptr = .ok ((d.drop pos).take n) ∧ write cfg (.ptr t) (.ptr ptr.addr) pos = .ok ((d.drop pos).take n) ∧
    (∀ a : Int, (a < 0 ∨ 2 ^ (8 * n) ≤ a) → write cfg (.ptr t) (.ptr a) pos = .error .overflow) := by
  rw [Lemmas.readPtr_uptr cfg n hp] at h
  split at h
  · rename_i hl
    cases h
    have hw : writeScalar cfg cfg.ptr (.int (decodeNat cfg.endian (sread d pos n) : Int)) = .ok (sread d pos n) := by
      have := (C05.c05_int_roundtrip_bytes cfg.endian false (sread d pos n)).2
      rw [hl, Lemmas.decodeInt_unsigned] at this
      rcases hp with hp | hp <;> rw [hp] <;> simp only [writeScalar, this]
    refine ⟨hw, ?_, ?_⟩
    · rw [Core.Lemmas.write_ptr_ptr]; exact hw
    · intro a ha
      rw [Core.Lemmas.write_ptr_ptr]
      have hf : fits n false a = false := by
        cases hfit : fits n false a with
        | false => rfl
        | true =>
          have := ((C05.c05_fits_range n a).1).1 hfit
          omega
      have := C05.c05_int_reject cfg.endian n false a hf
      rcases hp with hp | hp <;> rw [hp] <;> simp only [writeScalar, this]
  · cases h

end Cstruct.C16
