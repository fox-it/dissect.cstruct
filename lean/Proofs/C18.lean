/-
  C18 — incrementally built structures equal the one-shot definition.

  Over `CstructModel/Commit.lean` (add_field / commit with the offsets that persist on the Field objects) and
  `Fields.layout` (`CstructModel/Ty.lean`).
  By correspondence only: that `commit` reinstalls every generated method and recompiles the reader (`_update_fields` with
  `__compiled__`), checked on the real classes for every way of splitting generated field lists into batches.
-/
import CstructModel.Commit
import Proofs.Lemmas.C18

namespace Cstruct.C18
open Cstruct Cstruct.Commit

def len : Fields → Nat
  | .nil => 0
  | .cons _ _ _ _ r => len r + 1

/-- With no persisted offsets the incremental layout is the one-shot layout. -/
theorem c18_fresh (cfg : Cfg) (al : Bool) (fs : Fields) (st : LState) (n : Nat) :
    layoutP cfg al fs (List.replicate n none) st = Fields.layout cfg al fs st := by
  exact Lemmas.fresh cfg al fs st n

/-- **Committing again changes nothing** (no stale offset survives): laying out the same fields with the offsets the
    previous commit recorded gives the same size, alignment and offsets. Stated for structures without bit-fields in aligned
    mode with power-of-two alignments, and for every structure in packed mode. -/
theorem c18_idem_packed (cfg : Cfg) (fs : Fields) (sz : Option Nat) (a : Nat) (offs : List (Option Nat))
    (h : Fields.layout cfg false fs LState.init = .ok (sz, a, offs)) :
    commit cfg false fs offs = .ok (sz, a, offs) := by
  exact Lemmas.layoutP_idem cfg false fs LState.init sz a offs (Lemmas.restep_packed cfg fs) h

theorem c18_idem_aligned (cfg : Cfg) (fs : Fields) (ms : List (Nat × Nat)) (hm : Cstruct.C04.members cfg fs = some ms)
    (hp : ∀ m ∈ ms, Cstruct.C04.isPow2 m.2) (sz : Option Nat) (a : Nat) (offs : List (Option Nat))
    (h : Fields.layout cfg true fs LState.init = .ok (sz, a, offs)) :
    commit cfg true fs offs = .ok (sz, a, offs) := by
  exact Lemmas.layoutP_idem cfg true fs LState.init sz a offs (Lemmas.restep_aligned cfg fs ms hm hp) h

/-- **Extending a committed structure = defining it in one piece** (packed mode, any fields): committing `fs`, then adding
    `gs` and committing again yields exactly the one-shot layout of `fs ++ gs`. -/
theorem c18_extend_packed (cfg : Cfg) (fs gs : Fields) (sz : Option Nat) (a : Nat) (offs : List (Option Nat))
    (h : Fields.layout cfg false fs LState.init = .ok (sz, a, offs)) :
    commit cfg false (Fields.append fs gs) offs = Fields.layout cfg false (Fields.append fs gs) LState.init := by
  exact Lemmas.layoutP_extend cfg false fs gs LState.init sz a offs (Lemmas.restep_packed cfg fs) h

/-- The same in aligned mode for members of fixed size without bit-fields and power-of-two alignments. -/
theorem c18_extend_aligned (cfg : Cfg) (fs gs : Fields) (ms : List (Nat × Nat)) (hm : Cstruct.C04.members cfg (Fields.append fs gs) = some ms)
    (hp : ∀ m ∈ ms, Cstruct.C04.isPow2 m.2) (sz : Option Nat) (a : Nat) (offs : List (Option Nat))
    (h : Fields.layout cfg true fs LState.init = .ok (sz, a, offs)) :
    commit cfg true (Fields.append fs gs) offs = Fields.layout cfg true (Fields.append fs gs) LState.init := by
  exact Lemmas.layoutP_extend cfg true fs gs LState.init sz a offs
    (Lemmas.restep_append_left cfg true fs gs (Lemmas.restep_aligned cfg _ ms hm hp)) h

/-- **Confluence (packed mode):** whatever the split into batches, committing after each batch ends with the one-shot
    layout of all fields. -/
theorem c18_confluence_packed (cfg : Cfg) (batches : List Fields) (r : Fields × Option Nat × Nat × List (Option Nat))
    (h : commitAll cfg false .nil [] batches = .ok r) :
    Fields.layout cfg false r.1 LState.init = .ok r.2 ∧ r.1 = batches.foldl Fields.append .nil := by
  exact Lemmas.commitAll_confluent cfg false batches .nil [] (some 0) 0 r (Lemmas.restep_packed cfg _) rfl h

/-- **Confluence (aligned mode):** the same for members of fixed size without bit-fields and power-of-two alignments. -/
theorem c18_confluence_aligned (cfg : Cfg) (batches : List Fields) (ms : List (Nat × Nat))
    (hm : Cstruct.C04.members cfg (batches.foldl Fields.append .nil) = some ms) (hp : ∀ m ∈ ms, Cstruct.C04.isPow2 m.2)
    (r : Fields × Option Nat × Nat × List (Option Nat)) (h : commitAll cfg true .nil [] batches = .ok r) :
    Fields.layout cfg true r.1 LState.init = .ok r.2 ∧ r.1 = batches.foldl Fields.append .nil := by
  exact Lemmas.commitAll_confluent cfg true batches .nil [] _ _ r (Lemmas.restep_aligned cfg _ ms hm hp) rfl h

def cfg0 : Cfg := { endian := .little, ptr := .pint 8 false, ptrAlign := 8, consts := [] }
def f1 : Fields := .cons "a" false (.sc (.pint 1 false) 1) none .nil
def f2 : Fields := .cons "b" false (.sc (.pint 4 false) 4) none (.cons "c" false (.sc (.pint 2 false) 2) none .nil)
example : (commitAll cfg0 true .nil [] [f1, f2]).map (·.2) = .ok (some 12, 4, [some 0, some 4, some 8]) := by decide +kernel
example : commit cfg0 true (Fields.append f1 f2) [some 0] = Fields.layout cfg0 true (Fields.append f1 f2) LState.init := by decide +kernel
def f3 : Fields := .cons "d" false (.sc (.pint 8 false) 8) none (.cons "e" false (.sc (.pint 1 false) 1) none .nil)
example : Cstruct.C04.members cfg0 ([f1, f2, f3].foldl Fields.append .nil) = some [(1, 1), (4, 4), (2, 2), (8, 8), (1, 1)] := by
  decide +kernel
example : (commitAll cfg0 true .nil [] [f1, f2, f3]).map (·.2) =
    .ok (some 32, 8, [some 0, some 4, some 8, some 16, some 24]) := by decide +kernel
example : (commitAll cfg0 true .nil [] [f1, f2, f3]).map (·.2) =
    Fields.layout cfg0 true ([f1, f2, f3].foldl Fields.append .nil) LState.init := by decide +kernel

end Cstruct.C18
