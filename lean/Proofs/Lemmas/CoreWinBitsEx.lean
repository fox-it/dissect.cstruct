/-
  Non-vacuity material for `Proofs/CoreWinBits.lean`: an aligned structure with int24 bit-fields (`bitsNatural` fails,
  `bitsAlignBy Scalar.tableAlign` holds), read member by member.
-/
import Proofs.Lemmas.CoreWin
namespace Cstruct.Core.Ex24
open Cstruct Cstruct.Core Cstruct.Core.Lemmas Cstruct.Core.Lemmas.WinBits
set_option linter.unusedSimpArgs false

/-! aligned, little endian: `struct { uint24 a:8; uint24 b:8; uint8 e; }` with `uint24 = .sc (.aint 3 false) 4` (size 3,
    alignment 4). Layout: `a` opens a unit at 0, `b` a second one at 4 (3 re-aligned to 4 lies behind the first unit), `e`
    at 7, size 8. Reader: loads bytes 0..2 for `a`, seeks to 4 for `b` but takes `b` from the unit it has, seeks to 7. -/
def cfgL : Cfg := { endian := .little, ptr := .pint 4 false, ptrAlign := 4, consts := [] }
def u24 : Ty := .sc (.aint 3 false) 4
def u8 : Ty := .sc (.pint 1 false) 1
def fsE : Fields := .cons "e" false u8 none .nil
def fsB : Fields := .cons "b" false u24 (some 8) fsE
def fsA : Fields := .cons "a" false u24 (some 8) fsB
def ty24 : Ty := .struct true fsA
def dat : Bytes := [1, 2, 3, 4, 5, 6, 7, 8]
def val24 : Val := .record (.cons (.int 1) (.cons (.int 2) (.cons (.int 8) .nil)))

theorem ex_read24_0 (ctx : Ctx) : read cfgL ty24 ctx dat 0 = .ok (val24, 8) := by
  have hl : structLayout cfgL true fsA = .ok (some 8, 4, [some 0, some 4, some 7]) := by decide +kernel
  rw [ty24, read_struct, hl]
  simp only [Except.bind]
  -- a: a unit is loaded from bytes 0..2
  rw [fsA, readFields_cons_bitfield]
  simp only [u24, Ty.bitBase]
  have l1 : loadUnit cfgL (.aint 3 false) BitBuf.empty dat (fieldPos cfgL true (.sc (.aint 3 false) 4) (some 0) 0 0) =
      .ok ({ ty := some (.aint 3 false), buffer := 0x030201, remaining := 24 }, 3) := by decide +kernel
  have t1 : BitBuf.take cfgL.endian { ty := some (.aint 3 false), buffer := 0x030201, remaining := 24 } (7 + 1) =
      some (1, { ty := some (.aint 3 false), buffer := 0x0302, remaining := 16 }) := by decide +kernel
  rw [l1]
  simp only [Except.bind, t1, bitVal]
  -- b: the layout says "new unit at 4"; the reader seeks to 4 and goes on with the unit it has
  rw [fsB, readFields_cons_bitfield]
  simp only [u24, Ty.bitBase]
  have l2 : loadUnit cfgL (.aint 3 false) { ty := some (.aint 3 false), buffer := 0x0302, remaining := 16 } dat
      (fieldPos cfgL true (.sc (.aint 3 false) 4) (some 4) 0 3) =
      .ok ({ ty := some (.aint 3 false), buffer := 0x0302, remaining := 16 }, 4) := by decide +kernel
  have t2 : BitBuf.take cfgL.endian { ty := some (.aint 3 false), buffer := 0x0302, remaining := 16 } (7 + 1) =
      some (2, { ty := some (.aint 3 false), buffer := 0x03, remaining := 8 }) := by decide +kernel
  rw [l2]
  simp only [Except.bind, t2, bitVal]
  rw [fsE, readFields_cons_nb _ _ _ _ _ _ _ _ _ _ _ _ _ _ rfl, u8, read_sc]
  have r3 : readScalar cfgL (.pint 1 false) dat (fieldPos cfgL true (.sc (.pint 1 false) 1) (some 7) 0 4) = .ok (.int 8, 8) := by
    rfl
  rw [r3]
  simp only [Except.bind, readFields_nil]
  have hp : padNat 8 4 = 0 := by decide +kernel
  simp only [if_true, hp, val24]

theorem ex_read24 (junk : Bytes) (ctx : Ctx) : read cfgL ty24 ctx (dat ++ junk) 0 = .ok (val24, 8) :=
  read_extend cfgL ty24 (by decide +kernel) ctx dat 0 _ _ (ex_read24_0 ctx) _ (List.prefix_append _ _)

end Cstruct.Core.Ex24
