/-
  Structures with bit-fields (`Proofs/CoreBits.lean`, `Proofs/CoreDyn.lean`): the cases of the member equations of
  `writeFields` and `Fields.layout` the proofs use, in either mode and with or without a recorded offset (padding `padW`);
  the facts about one storage unit (what a flush emits, what the
  reader loads from those bytes, how a field's slot is recovered from the final unit value; `WriteInv`, `ReadInv`,
  `slotVal`, `put_step`, `take_step` are those of `Proofs/Lemmas/C06.lean`); and the notions "between units" (`LIdle`,
  `RIdle`) and "a unit being filled" (`Pend`).
-/
import Proofs.Spec.CoreBits
import Proofs.Lemmas.CoreRW
import Proofs.Lemmas.C06
namespace Cstruct.Core.Lemmas
open Cstruct Cstruct.Core Cstruct.C06 Cstruct.C06.Lemmas
open Cstruct.C05.Lemmas (encBytes encBytes_length)

theorem padTo_eq_zero {foff : Option Nat} {start pos : Nat} (h : ∀ fo, foff = some fo → start + fo ≤ pos) :
    padTo foff start pos = 0 := by
  cases foff with
  | none => rfl
  | some fo => exact if_neg (Nat.not_lt.mpr (h fo rfl))

theorem needFlush_pending {bits : Option Nat} {ty : Ty} {bb : BitBuf} {t : Scalar} (ht : bb.ty = some t)
    (hne : isBitW bits = false ∨ ty.bitBase ≠ some t) : needFlush bits ty bb = true := by
  cases hb : isBitW bits with
  | false => simp [needFlush, hb, ht]
  | true =>
    have hne' : ¬ some t = ty.bitBase := fun h => (hne.resolve_left (by simp [hb])) h.symm
    simp [needFlush, hb, ht, hne']

theorem needFlush_same {b : Nat} {ty : Ty} {bb : BitBuf} (h : bb.ty = ty.bitBase) :
    needFlush (some (b + 1)) ty bb = false := by
  simp [needFlush, isBitW, h]

theorem bitInt?_of {v : Val} {i : Int} (hv : v = .int i ∨ v = .enum i) : bitInt? v = some i := by
  rcases hv with rfl | rfl <;> rfl

theorem writeFields_nb_idle (cfg : Cfg) (name an ty rest foff offs v vs start pos)
    (hfo : ∀ fo, foff = some fo → start + fo = pos) :
    writeFields cfg false (.cons name an ty none rest) (foff :: offs) (.cons v vs) start BitBuf.empty pos =
      (write cfg ty v pos).bind fun body =>
        (writeFields cfg false rest offs vs start BitBuf.empty (pos + body.length)).bind fun (o, bbf) =>
          .ok (body ++ o, bbf) := by
  rw [writeFields_cons_nobits _ _ _ _ _ _ _ _ _ _ _ _ _ rfl]
  simp only [needFlush_empty, Bool.false_eq_true, if_false, Except.bind, List.length_nil, Nat.add_zero, List.nil_append,
    List.head?, Option.join, Option.bind, id, padTo_eq_zero fun fo h => Nat.le_of_eq (hfo fo h), padAl_false, zeros_zero,
    List.drop_one, List.tail_cons]

theorem putStepG_prefix (cfg : Cfg) (al rest offs vs start fsz i w bb2 pos) (fl pre : Bytes) :
    putStepG cfg al rest offs vs start fsz i w bb2 pos (fl ++ pre) =
      (putStepG cfg al rest offs vs start fsz i w bb2 (pos + fl.length) pre).bind fun (o, bbf) => .ok (fl ++ o, bbf) := by
  unfold putStepG
  cases bb2.put cfg.endian fsz i w with
  | none => rfl
  | some bb3 =>
    simp only []
    cases (if bb3.remaining = 0 then flushBits cfg bb3 else Except.ok []) with
    | error e => rfl
    | ok fl3 =>
      simp only [ok_bind, List.length_append, Nat.add_assoc]
      cases writeFields cfg al rest offs vs start _ _ with
      | error e => rfl
      | ok r => simp only [ok_bind, List.append_assoc]

theorem writeFields_flush (cfg : Cfg) (al name an ty bits rest offs v vs start bb pos t) (ht : bb.ty = some t)
    (hne : isBitW bits = false ∨ ty.bitBase ≠ some t) :
    writeFields cfg al (.cons name an ty bits rest) offs (.cons v vs) start bb pos =
      (flushBits cfg bb).bind fun fl =>
        (writeFields cfg al (.cons name an ty bits rest) offs (.cons v vs) start BitBuf.empty (pos + fl.length)).bind
          fun (o, bbf) => .ok (fl ++ o, bbf) := by
  have hnf := needFlush_pending ht hne
  cases hb : isBitW bits with
  | false =>
    rw [writeFields_cons_nobits _ _ _ _ _ _ _ _ _ _ _ bb _ hb, hnf, if_pos rfl]
    cases flushBits cfg bb with
    | error e => rfl
    | ok fl =>
      rw [ok_bind, ok_bind, writeFields_cons_nobits _ _ _ _ _ _ _ _ _ _ _ BitBuf.empty _ hb]
      simp only [needFlush_empty, Bool.false_eq_true, if_true, if_false, ok_bind, List.length_nil, Nat.add_zero,
        List.nil_append]
      cases write cfg ty v _ with
      | error e => rfl
      | ok body =>
        simp only [ok_bind, List.length_append, Nat.add_assoc]
        cases writeFields cfg al rest _ vs start _ _ with
        | error e => rfl
        | ok r => simp only [ok_bind, List.append_assoc]
  | true =>
    obtain ⟨b, rfl⟩ : ∃ b, bits = some (b + 1) := by
      rcases bits with _ | _ | b
      · cases hb
      · cases hb
      · exact ⟨b, rfl⟩
    rw [writeFields_cons_bits _ _ _ _ _ _ _ _ _ _ _ bb, hnf, if_pos rfl]
    cases flushBits cfg bb with
    | error e => rfl
    | ok fl =>
      rw [ok_bind, ok_bind, writeFields_cons_bits _ _ _ _ _ _ _ _ _ _ _ BitBuf.empty]
      simp only [needFlush_empty, Bool.false_eq_true, if_true, if_false, ok_bind, List.length_nil, Nat.add_zero,
        List.nil_append]
      cases ty.bitBase with
      | none => rfl
      | some ft =>
        cases bitInt? v with
        | none => rfl
        | some i =>
          simp only []
          cases ft.size with
          | none => rfl
          | some fsz =>
            simp only [if_neg fun h : (_ ∨ _) ∧ BitBuf.empty.ty.isSome = true => Bool.false_ne_true h.2, ok_bind,
              List.append_assoc fl, putStepG_prefix]

theorem padAl_eq_zero {cfg : Cfg} {al : Bool} {ty : Ty} {pos : Nat} (h : al = true → padNat pos (ty.alignment cfg) = 0)
    (foff : Option Nat) (bb : BitBuf) : padAl cfg al ty foff bb pos = 0 := by
  unfold padAl
  by_cases ha : al = true
  · rw [h ha]; exact ite_self _
  · exact if_neg fun hc => ha hc.1

/-- the padding the writer emits in front of a member when no unit is pending: up to the recorded offset if there is one,
    else (aligned mode) up to the next multiple of the member's alignment from the current position -/
def padW (cfg : Cfg) (al : Bool) (ty : Ty) (foff : Option Nat) (start pos : Nat) : Nat :=
  match foff with
  | some fo => if pos < start + fo then start + fo - pos else 0
  | none => if al then padNat pos (ty.alignment cfg) else 0

theorem pads_idle (cfg : Cfg) (al : Bool) (ty : Ty) (foff : Option Nat) (start pos : Nat) :
    padTo foff start pos + padAl cfg al ty foff BitBuf.empty (pos + padTo foff start pos) = padW cfg al ty foff start pos := by
  cases foff with
  | none => simp [padTo, padAl, padW, BitBuf.empty]
  | some fo => rw [padAl_some]; rfl

theorem zeros_add (a b : Nat) : zeros a ++ zeros b = zeros (a + b) := by
  simp only [zeros, List.replicate_append_replicate]

theorem writeFields_nb (cfg : Cfg) (al name an ty rest foff offs v vs start pos) :
    writeFields cfg al (.cons name an ty none rest) (foff :: offs) (.cons v vs) start BitBuf.empty pos =
      (write cfg ty v (pos + padW cfg al ty foff start pos)).bind fun body =>
        (writeFields cfg al rest offs vs start BitBuf.empty
            (pos + (zeros (padW cfg al ty foff start pos) ++ body).length)).bind fun (o, bbf) =>
          .ok (zeros (padW cfg al ty foff start pos) ++ body ++ o, bbf) := by
  rw [writeFields_cons_nobits _ _ _ _ _ _ _ _ _ _ _ _ _ rfl]
  simp only [needFlush_empty, Bool.false_eq_true, if_false, ok_bind, List.length_nil, Nat.add_zero, List.nil_append,
    List.head?, Option.join, Option.bind, id, List.drop_one, List.tail_cons, zeros_add, Nat.add_assoc, Nat.zero_add,
    pads_idle]

/-- the writer's bit-field step once the unit `bb2` is selected and the padding is out: put the bits, flush the unit if
    it is full, go on with the remaining members -/
def putStep (cfg : Cfg) (al : Bool) (rest : Fields) (offs : List (Option Nat)) (vs : Vals) (start : Nat) (fsz : Nat) (i : Int)
    (w : Nat) (bb2 : BitBuf) (pos : Nat) : Except Err (Bytes × BitBuf) :=
  match bb2.put cfg.endian fsz i w with
  | none => .error .value
  | some bb3 =>
    (if bb3.remaining = 0 then flushBits cfg bb3 else .ok []).bind fun fl3 =>
      (writeFields cfg al rest offs vs start (if bb3.remaining = 0 then BitBuf.empty else bb3) (pos + fl3.length)).bind
        fun (o, bbf) => .ok (fl3 ++ o, bbf)

theorem putStepG_nil (cfg : Cfg) (al rest offs vs start fsz i w bb2 pos) :
    putStepG cfg al rest offs vs start fsz i w bb2 pos [] = putStep cfg al rest offs vs start fsz i w bb2 pos := rfl

theorem putStepG_zeros (cfg : Cfg) (al rest offs vs start fsz i w bb2 pos pad) :
    putStepG cfg al rest offs vs start fsz i w bb2 pos (zeros pad) =
      (putStep cfg al rest offs vs start fsz i w bb2 (pos + pad)).bind fun (o, bbf) => .ok (zeros pad ++ o, bbf) := by
  have h := putStepG_prefix cfg al rest offs vs start fsz i w bb2 pos (zeros pad) []
  rw [List.append_nil, length_zeros, putStepG_nil] at h
  exact h

theorem writeFields_bit_new (cfg : Cfg) (al name an ty b rest foff offs v vs start pos ft fsz i)
    (hbase : ty.bitBase = some ft) (hsz : ft.size = some fsz) (hv : v = .int i ∨ v = .enum i) :
    writeFields cfg al (.cons name an ty (some (b + 1)) rest) (foff :: offs) (.cons v vs) start BitBuf.empty pos =
      (putStep cfg al rest offs vs start fsz i (b + 1) { ty := some ft, buffer := 0, remaining := fsz * 8 }
          (pos + padW cfg al ty foff start pos)).bind fun (o, bbf) =>
        .ok (zeros (padW cfg al ty foff start pos) ++ o, bbf) := by
  rw [writeFields_cons_bits]
  simp only [needFlush_empty, Bool.false_eq_true, if_false, ok_bind, List.length_nil, Nat.add_zero, List.nil_append,
    List.head?, Option.join, Option.bind, id, List.drop_one, List.tail_cons, hbase, bitInt?_of hv, hsz,
    if_neg fun h : (_ ∨ _) ∧ BitBuf.empty.ty.isSome = true => Bool.false_ne_true h.2,
    if_pos (Or.inl rfl : BitBuf.empty.remaining = 0 ∨ _), zeros_add, pads_idle, List.append_nil, putStepG_zeros]

/-- a bit-field that continues the pending unit `bb`; `hpad`: the writer's padding by the absolute position is empty -/
theorem writeFields_bit_cont (cfg : Cfg) (al name an ty b rest offs v vs start pos ft fsz i bb)
    (hbase : ty.bitBase = some ft) (hsz : ft.size = some fsz) (hv : v = .int i ∨ v = .enum i) (hty : bb.ty = some ft)
    (hrem : bb.remaining ≠ 0) (hpad : al = true → padNat pos (ty.alignment cfg) = 0) :
    writeFields cfg al (.cons name an ty (some (b + 1)) rest) (none :: offs) (.cons v vs) start bb pos =
      putStep cfg al rest offs vs start fsz i (b + 1) bb pos := by
  have hsel : ¬ (bb.remaining = 0 ∨ bb.ty ≠ some ft) := fun h => h.elim hrem fun h => h hty
  rw [writeFields_cons_bits]
  simp only [needFlush_same (hty.trans hbase.symm), Bool.false_eq_true, if_false, ok_bind, List.length_nil, Nat.add_zero,
    List.nil_append, List.head?, Option.join, Option.bind, id, padTo, padAl_eq_zero hpad, zeros_zero, List.drop_one,
    List.tail_cons, hbase, bitInt?_of hv, hsz, if_neg hsel,
    if_neg fun h : (bb.remaining = 0 ∨ bb.ty ≠ some ft) ∧ _ => hsel h.1, putStepG_nil]

/-- the layout state after a bit-field of width `w` that continues the pending unit -/
def stCont (cfg : Cfg) (ty : Ty) (w : Nat) (st : LState) : LState :=
  { st with alignment := max st.alignment (ty.alignment cfg), bitsRemaining := st.bitsRemaining - ((w : Nat) : Int) }

/-- the layout state after a bit-field of width `w` that opens a unit of storage type `ft` at the (re-aligned) offset -/
def stNew (cfg : Cfg) (al : Bool) (ty : Ty) (ft : Scalar) (fsz w : Nat) (st : LState) : LState :=
  { offset := (alignedOff cfg al ty st).map (· + fsz), alignment := max st.alignment (ty.alignment cfg), bitsType := some ft,
    bitsFieldOffset := alignedOff cfg al ty st, bitsRemaining := ((fsz * 8 : Nat) : Int) - ((w : Nat) : Int) }

theorem layout_bit_new (cfg : Cfg) (al : Bool) (n an ty b rest st ft fsz) (hbase : ty.bitBase = some ft)
    (hsz : ft.size = some fsz) (hnew : st.bitsRemaining = 0 ∨ some ft ≠ st.bitsType) :
    Fields.layout cfg al (.cons n an ty (some (b + 1)) rest) st =
      if ((fsz * 8 : Nat) : Int) - ((b + 1 : Nat) : Int) < 0 then .error .value else
      (Fields.layout cfg al rest (stNew cfg al ty ft fsz (b + 1) st)).bind fun (sz, sa, offs) =>
        .ok (sz, sa, alignedOff cfg al ty st :: offs) := by
  have hoff : Layout.offOf al (ty.alignment cfg) st.offset = alignedOff cfg al ty st := by
    unfold alignedOff; cases st.offset <;> cases al <;> rfl
  rw [Layout.layout_cons_eq, Layout.stepL_new hbase hsz (if_pos hnew), hoff]
  split
  · rfl
  · rw [Layout.andRest_step]; unfold stNew
    cases Fields.layout cfg al rest _ <;> rfl

/-- a bit-field that continues the pending unit; `hal`: re-aligning the offset behind the unit does not move it -/
theorem layout_bit_cont (cfg : Cfg) (al : Bool) (n an ty b rest st ft fsz) (hbase : ty.bitBase = some ft)
    (hsz : ft.size = some fsz) (hrem : st.bitsRemaining ≠ 0) (hty : st.bitsType = some ft)
    (hoff : st.offset = st.bitsFieldOffset.map (· + fsz))
    (hal : ∀ o, st.offset = some o → alignTo al o (ty.alignment cfg) = o) :
    Fields.layout cfg al (.cons n an ty (some (b + 1)) rest) st =
      if st.bitsRemaining - ((b + 1 : Nat) : Int) < 0 then .error .value else
      (Fields.layout cfg al rest (stCont cfg ty (b + 1) st)).bind fun (sz, sa, offs) =>
        .ok (sz, sa, none :: offs) := by
  have hoff' : Layout.offOf al (ty.alignment cfg) st.offset = st.offset := by
    cases ho : st.offset with
    | none => rfl
    | some o =>
      exact (show Layout.offOf al _ (some o) = some (alignTo al o _) by cases al <;> rfl).trans (congrArg some (hal o ho))
  rw [Layout.layout_cons_eq, Layout.stepL_cont hbase hsz (Layout.third_cont hsz hrem hty (by rw [hoff']; exact hoff)), hoff']
  split
  · rfl
  · rw [Layout.andRest_step]; unfold stCont
    cases Fields.layout cfg al rest _ <;> rfl

theorem layout_step (cfg : Cfg) (al : Bool) (name an ty bits rest st sz sa offs)
    (h : Fields.layout cfg al (.cons name an ty bits rest) st = .ok (sz, sa, offs)) :
    ∃ st' offs', Fields.layout cfg al rest st' = .ok (sz, sa, offs') ∧
      st'.alignment = max st.alignment (ty.alignment cfg) ∧
      ((isBitW bits = false → (ty.size cfg).isSome = true) → st.offset.isSome = true → st'.offset.isSome = true) := by
  obtain ⟨st', foff, offs', hs, hr, _⟩ := Layout.layout_cons_ok h
  obtain ⟨ha, hcase⟩ := Layout.stepL_ok hs
  refine ⟨st', offs', hr, ha, fun hk ho => ?_⟩
  obtain ⟨o, ho⟩ := Option.isSome_iff_exists.mp ho
  rcases hcase with ⟨hb, _, h2⟩ | ⟨_, ⟨_, fsz, h2⟩ | ⟨_, h2⟩⟩
  · have hb' : isBitW bits = false := by
      rcases bits with _ | _ | b
      · rfl
      · rfl
      · exact absurd rfl (hb b)
    obtain ⟨k, hk⟩ := Option.isSome_iff_exists.mp (hk hb')
    rw [h2, ho, hk]; cases al <;> rfl
  · rw [h2, ho]; cases al <;> rfl
  · rw [h2, ho]; cases al <;> rfl

theorem layout_final (cfg : Cfg) (al : Bool) : ∀ (fs : Fields) (st : LState) sz sa offs,
    Fields.layout cfg al fs st = .ok (sz, sa, offs) →
    sa = Fields.maxAlign cfg fs st.alignment ∧ (al = true → IsP2 sa → ∀ s, sz = some s → sa ∣ s)
  | .nil, st, sz, sa, offs, h => by
    rw [Fields.layout] at h
    simp only [Except.ok.injEq, Prod.mk.injEq] at h
    obtain ⟨rfl, rfl, _⟩ := h
    refine ⟨rfl, ?_⟩
    intro ha hp s hs
    subst ha
    cases ho : st.offset with
    | none => rw [ho] at hs; cases hs
    | some o =>
      rw [ho] at hs
      simp only [if_true, Option.some.injEq] at hs
      subst hs
      exact padNat_p2_dvd hp o
  | .cons name an ty bits rest, st, sz, sa, offs, h => by
    obtain ⟨st', offs', hl, ha, _⟩ := layout_step cfg al name an ty bits rest st sz sa offs h
    obtain ⟨h1, h2⟩ := layout_final cfg al rest st' sz sa offs' hl
    exact ⟨by rw [h1, ha]; rfl, h2⟩

/-- what the final unit value `F` must satisfy for the `k` bits accumulated so far (`n`) -/
def URel (e : Endian) (W k n F : Nat) : Prop :=
  match e with
  | .little => F % 2 ^ k = n
  | .big => F / 2 ^ (W - k) = n

theorem urel_step (e : Endian) (W k n m b F : Nat) (hn : n < 2 ^ k) (hm : m < 2 ^ b) (hk : k + b ≤ W)
    (h : URel e W (k + b) (acc e k n m b) F) :
    URel e W k n F ∧ slotVal (F : Int) (slotLo e W k b) b = (m : Int) := by
  cases e with
  | little =>
    simp only [URel, acc] at h ⊢
    obtain ⟨h1, h2⟩ := little_rel F n m k b hn h
    exact ⟨h1, by rw [slotVal_nat]; simp only [slotLo, h2]⟩
  | big =>
    simp only [URel, acc] at h ⊢
    have hs : W - k = b + (W - (k + b)) := by omega
    obtain ⟨h1, h2⟩ := big_rel F n m b (W - (k + b)) hm h
    refine ⟨by rw [hs]; exact h1, ?_⟩
    rw [slotVal_nat]
    have : slotLo .big W k b = W - (k + b) := by simp only [slotLo]; omega
    rw [this, h2]

theorem flush_nat (cfg : Cfg) (ft : Scalar) (fsz F : Nat) (bb : BitBuf) (hty : bb.ty = some ft) (hsz : ft.size = some fsz)
    (hbuf : bb.buffer = (F : Int)) (hF : F < 2 ^ (8 * fsz)) : flushBits cfg bb = .ok (encBytes cfg.endian fsz F) := by
  simp only [flushBits, hty, hsz, hbuf, C05.Lemmas.encodeInt_nat _ _ _ hF]

/-- the unit value a writer holds after `k` bits: below `2^W`, and it continues the accumulated number -/
theorem winv_value (e : Endian) (n k a : Nat) (bb : BitBuf) (hinv : WriteInv e (8 * n) k a bb)
    (ha : a < 2 ^ k) (hk : k ≤ 8 * n) : ∃ F : Nat, bb.buffer = (F : Int) ∧ F < 2 ^ (8 * n) ∧ URel e (8 * n) k a F := by
  obtain ⟨_, hbuf⟩ := hinv
  have hle : 2 ^ k ≤ 2 ^ (8 * n) := Nat.pow_le_pow_right (by omega) hk
  cases e with
  | little =>
    simp only at hbuf
    exact ⟨a, hbuf, by omega, by simp only [URel]; exact Nat.mod_eq_of_lt ha⟩
  | big =>
    simp only at hbuf
    have h1 : a * 2 ^ (8 * n - k) < 2 ^ (8 * n) := by
      have h2 := (Nat.mul_lt_mul_right (Nat.two_pow_pos (8 * n - k))).2 ha
      rw [← Nat.pow_add] at h2
      have h3 : k + (8 * n - k) = 8 * n := by omega
      rwa [h3] at h2
    exact ⟨a * 2 ^ (8 * n - k), hbuf, h1, by simp only [URel]; exact Nat.mul_div_cancel _ (Nat.two_pow_pos _)⟩

theorem flush_pend (cfg : Cfg) (ft : Scalar) (fsz k n : Nat) (bb : BitBuf) (hty : bb.ty = some ft)
    (hsz : ft.size = some fsz) (hinv : WriteInv cfg.endian (8 * fsz) k n bb) (hn : n < 2 ^ k) (hk : k ≤ 8 * fsz) :
    ∃ F, flushBits cfg bb = .ok (C05.Lemmas.encBytes cfg.endian fsz F) ∧ F < 2 ^ (8 * fsz) ∧
      URel cfg.endian (8 * fsz) k n F := by
  obtain ⟨F, hbuf, hF, hrel⟩ := winv_value cfg.endian fsz k n bb hinv hn hk
  exact ⟨F, flush_nat cfg ft fsz F bb hty hsz hbuf hF, hF, hrel⟩

/-- loading a unit from its flushed bytes: the integer the reader sees is the unit modulo `2^(8·size)` -/
theorem unit_load (cfg : Cfg) (ft : Scalar) (hi : Scalar.isInt ft = true) (fsz : Nat) (hsz : ft.size = some fsz) (F : Nat)
    (hF : F < 2 ^ (8 * fsz)) (pre post : Bytes) (pos : Nat) (hp : pre.length = pos) :
    ∃ U : Int, readScalar cfg ft (pre ++ C05.Lemmas.encBytes cfg.endian fsz F ++ post) pos = .ok (.int U, pos + fsz) ∧
      U % ((2 ^ (8 * fsz) : Nat) : Int) = (F : Int) := by
  have hlen := C05.Lemmas.encBytes_length cfg.endian fsz F
  cases ft with
  | pint n sg | aint n sg =>
    simp only [Scalar.size, Option.some.injEq] at hsz; subst hsz
    refine ⟨_, ?_, C05.Lemmas.decodeInt_encBytes_emod cfg.endian sg n F hF⟩
    simp only [readScalar, bind, pure, readExact_mid pre _ post pos n hp hlen, Except.bind, Except.pure]
  | pflt n | char | wchar | leb sg | void => simp [Scalar.isInt] at hi

theorem isInt_size (s : Scalar) (h : Scalar.isInt s = true) : ∃ k, s.size = some k := by
  cases s <;> simp [Scalar.isInt] at h <;> simp [Scalar.size]

theorem bitOk_base (ty : Ty) (h : ty.bitOk = true) :
    ∃ ft fsz, ty.bitBase = some ft ∧ Scalar.isInt ft = true ∧ ft.size = some fsz := by
  cases ty with
  | sc s a => simp only [Ty.bitOk] at h; obtain ⟨k, hk⟩ := isInt_size s h; exact ⟨s, k, rfl, h, hk⟩
  | enum s a f => simp only [Ty.bitOk] at h; obtain ⟨k, hk⟩ := isInt_size s h; exact ⟨s, k, rfl, h, hk⟩
  | ptr _ | arr _ _ | struct _ _ | union _ _ => simp [Ty.bitOk] at h

theorem bitVal_eq (ty : Ty) (v : Int) : bitVal ty v = ty.bitVal v := by
  cases ty <;> rfl

theorem bitVal_cases (ty : Ty) (v : Int) : ty.bitVal v = .int v ∨ ty.bitVal v = .enum v := by
  cases ty <;> simp [Ty.bitVal]

/-- between units, as far as the layout is concerned: the next bit-field (if the next member is one) opens a new unit -/
def LIdle (st : LState) : Fields → Prop
  | .cons _ _ ty (some (_ + 1)) _ => st.bitsRemaining = 0 ∨ ty.bitBase ≠ st.bitsType
  | _ => True

/-- between units, as far as the reader is concerned: the next bit-field (if the next member is one) loads a new unit -/
def RIdle (bbR : BitBuf) : Fields → Prop
  | .cons _ _ ty (some (_ + 1)) _ => bbR.remaining = 0 ∨ bbR.ty ≠ ty.bitBase
  | _ => True

theorem lidle_of_rem (st : LState) (h : st.bitsRemaining = 0) : ∀ fs, LIdle st fs
  | .nil => trivial
  | .cons _ _ _ none _ => trivial
  | .cons _ _ _ (some 0) _ => trivial
  | .cons _ _ _ (some (_ + 1)) _ => Or.inl h

theorem ridle_of_rem (bb : BitBuf) (h : bb.remaining = 0) : ∀ fs, RIdle bb fs
  | .nil => trivial
  | .cons _ _ _ none _ => trivial
  | .cons _ _ _ (some 0) _ => trivial
  | .cons _ _ _ (some (_ + 1)) _ => Or.inl h

/-- the state with a pending unit of storage type `ft` (`fsz` bytes) of which `k` bits are used and hold `n`:
    the layout has allocated the unit (its offset is behind it), the writer has emitted nothing for it yet -/
structure Pend (cfg : Cfg) (st : LState) (ft : Scalar) (fsz k n : Nat) (bbW : BitBuf) : Prop where
  isInt : Scalar.isInt ft = true
  size : ft.size = some fsz
  lty : st.bitsType = some ft
  lrem : st.bitsRemaining = ((8 * fsz - k : Nat) : Int)
  lt : k < 8 * fsz
  loff : st.offset = st.bitsFieldOffset.map (· + fsz)
  wty : bbW.ty = some ft
  winv : WriteInv cfg.endian (8 * fsz) k n bbW
  nlt : n < 2 ^ k

theorem put_ty {e : Endian} {bb bb' : BitBuf} {size : Nat} {i : Int} {w : Nat} (h : bb.put e size i w = some bb') :
    bb'.ty = bb.ty := by
  unfold BitBuf.put at h
  split at h
  · cases h
  · split at h
    · cases h
    · cases h; rfl

theorem take_ty {e : Endian} {bb bb' : BitBuf} {v : Int} {w : Nat} (h : bb.take e w = some (v, bb')) :
    bb'.ty = bb.ty := by
  unfold BitBuf.take at h
  split at h
  · cases h
  · cases e <;> (simp only [Option.some.injEq, Prod.mk.injEq] at h; rw [← h.2])

/-- the reader's step once the final unit value `F` is known: the relation to `F` goes back one field, and any reader
    that holds the unit takes the field's value out of it -/
theorem take_of_urel (e : Endian) (fsz k n m w F : Nat) (hn : n < 2 ^ k) (hm : m < 2 ^ w) (hkw : k + w ≤ 8 * fsz)
    (hrel : URel e (8 * fsz) (k + w) (acc e k n m w) F) :
    URel e (8 * fsz) k n F ∧
    ∀ (bbR : BitBuf) (U : Int), ReadInv e (8 * fsz) U k bbR → U % ((2 ^ (8 * fsz) : Nat) : Int) = (F : Int) →
      ∃ bbR2, bbR.take e w = some ((m : Int), bbR2) ∧ ReadInv e (8 * fsz) U (k + w) bbR2 ∧ bbR2.ty = bbR.ty := by
  obtain ⟨h1, h2⟩ := urel_step e (8 * fsz) k n m w F hn hm hkw hrel
  refine ⟨h1, ?_⟩
  intro bbR U hR hUF
  obtain ⟨bbR2, ht, hR2, _, _⟩ := take_step e (8 * fsz) k w U bbR hR hkw
  rw [← slotVal_emod U (8 * fsz) _ w (slotLo_le e (8 * fsz) k w hkw), hUF, h2] at ht
  exact ⟨bbR2, ht, hR2, take_ty ht⟩

theorem not_same_unit {bits : Option Nat} {ty : Ty} {ft : Scalar} (h : ¬ (isBitW bits = true ∧ ty.bitBase = some ft)) :
    isBitW bits = false ∨ ty.bitBase ≠ some ft := by
  by_cases h1 : isBitW bits = true
  · exact Or.inr fun h2 => h ⟨h1, h2⟩
  · exact Or.inl (by simpa using h1)

theorem lidle_of_ne {st : LState} {ft : Scalar} (hty : st.bitsType = some ft) {name an ty bits rest}
    (hne : isBitW bits = false ∨ ty.bitBase ≠ some ft) : LIdle st (.cons name an ty bits rest) := by
  rcases bits with _ | _ | b
  · trivial
  · trivial
  · exact Or.inr (by rw [hty]; exact hne.resolve_left (by simp [isBitW]))

theorem ridle_of_ne {bbR : BitBuf} {ft : Scalar} (hty : bbR.ty = some ft) {name an ty bits rest}
    (hne : isBitW bits = false ∨ ty.bitBase ≠ some ft) : RIdle bbR (.cons name an ty bits rest) := by
  rcases bits with _ | _ | b
  · trivial
  · trivial
  · exact Or.inr (by rw [hty]; exact fun h => hne.resolve_left (by simp [isBitW]) h.symm)

theorem hasTysB_cons_vals {cfg : Cfg} {vs : Vals} {name an ty bits r} (h : HasTysB cfg vs (.cons name an ty bits r)) :
    ∃ v vs', vs = .cons v vs' := by
  cases h <;> exact ⟨_, _, rfl⟩

theorem loadUnit_new (cfg : Cfg) (ft : Scalar) (hi : Scalar.isInt ft = true) (fsz : Nat) (hsz : ft.size = some fsz) (F : Nat)
    (hF : F < 2 ^ (8 * fsz)) (pre post : Bytes) (pos : Nat) (hp : pre.length = pos) (bbR : BitBuf)
    (hc : bbR.remaining = 0 ∨ bbR.ty ≠ some ft) :
    ∃ U : Int, loadUnit cfg ft bbR (pre ++ encBytes cfg.endian fsz F ++ post) pos =
        .ok ({ ty := some ft, buffer := U, remaining := fsz * 8 }, pos + fsz) ∧
      U % ((2 ^ (8 * fsz) : Nat) : Int) = (F : Int) := by
  obtain ⟨U, hU, hUF⟩ := unit_load cfg ft hi fsz hsz F hF pre post pos hp
  refine ⟨U, ?_, hUF⟩
  simp only [loadUnit, hc, if_true, hsz, hU, unitInt]

theorem bitsNatural_head {cfg : Cfg} {name an ty b rest ft fsz}
    (h : Fields.bitsNatural cfg (.cons name an ty (some (b + 1)) rest) = true) (hbase : ty.bitBase = some ft)
    (hsz : ft.size = some fsz) : fsz = ty.alignment cfg := by
  simp only [Fields.bitsNatural, hbase, Bool.and_eq_true, beq_iff_eq, hsz, Option.some.injEq] at h
  exact h.1

theorem fieldPos_none (cfg : Cfg) (al : Bool) (ty : Ty) (start pos : Nat)
    (h : al = true → padNat pos (ty.alignment cfg) = 0) : fieldPos cfg al ty none start pos = pos := by
  simp only [fieldPos, Option.isNone_none, and_true]
  split
  · rename_i ha; rw [h ha]; rfl
  · rfl

theorem defErr_cons {cfg : Cfg} {name an ty bits rest} (h : Fields.defErr cfg (.cons name an ty bits rest) = none) :
    ty.defErr cfg = none ∧ Fields.defErr cfg rest = none := by
  simp only [Fields.defErr] at h
  split at h
  · cases h
  · rename_i h1; exact ⟨h1, h⟩

end Cstruct.Core.Lemmas
