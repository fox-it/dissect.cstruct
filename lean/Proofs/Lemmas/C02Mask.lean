/-
  The bit-level mask `C02B.maskB` alone: the equations of `fieldsMaskB`, and that on fragment S it is the byte-level mask
  `C02.tyMask` with `true ↦ 0xFF`, `false ↦ 0x00` (definitions only; neither reader nor writer is involved).
-/
import Proofs.Spec.C02
import Proofs.Spec.C02Bits
namespace Cstruct.C02B.Lemmas
open Cstruct Cstruct.C02 Cstruct.C02B

theorem flushMask_none (e : Endian) : flushMask e none = [] := rfl

theorem flushMask_some (e : Endian) (p : PendMask) : flushMask e (some p) = unitBytes e p.size p.mask := rfl

theorem fieldsMaskB_nil (cfg : Cfg) (offs cur u) : fieldsMaskB cfg .nil offs cur u = flushMask cfg.endian u := by
  rw [fieldsMaskB.eq_def]

theorem fieldsMaskB_nb (cfg : Cfg) (name an ty rest offs cur u) :
    fieldsMaskB cfg (.cons name an ty none rest) offs cur u =
      flushMask cfg.endian u ++ zeros ((offs.headD none).getD cur - cur) ++ maskB cfg ty ++
        fieldsMaskB cfg rest (offs.drop 1) ((offs.headD none).getD cur + (maskB cfg ty).length) none := by
  rw [fieldsMaskB.eq_def]

theorem fieldsMaskB_bit_new (cfg : Cfg) (name an ty b rest o offs cur u ft fsz) (hbase : ty.bitBase = some ft)
    (hsz : ft.size = some fsz) :
    fieldsMaskB cfg (.cons name an ty (some (b + 1)) rest) (some o :: offs) cur u =
      flushMask cfg.endian u ++ zeros (o - cur) ++
        fieldsMaskB cfg rest offs (o + fsz) (some (PendMask.first cfg.endian fsz (b + 1))) := by
  rw [fieldsMaskB.eq_def]
  simp only [hbase, hsz, Option.bind, List.headD_cons, List.drop_one, List.tail_cons, Option.getD_some]

theorem fieldsMaskB_bit_cont (cfg : Cfg) (name an ty b rest offs cur p ft fsz) (hbase : ty.bitBase = some ft)
    (hsz : ft.size = some fsz) :
    fieldsMaskB cfg (.cons name an ty (some (b + 1)) rest) (none :: offs) cur (some p) =
      fieldsMaskB cfg rest offs cur (some (p.add cfg.endian (b + 1))) := by
  rw [fieldsMaskB.eq_def]
  simp only [hbase, hsz, Option.bind, List.headD_cons, List.drop_one, List.tail_cons]

def maskByte (b : Bool) : UInt8 := if b then 0xFF else 0x00

theorem map_replicate_true (n : Nat) : (List.replicate n true).map maskByte = List.replicate n 0xFF := by
  simp [maskByte]

theorem map_replicate_false (n : Nat) : (List.replicate n false).map maskByte = zeros n := by
  simp [maskByte, zeros]

mutual
theorem maskB_fragS (cfg : Cfg) : ∀ ty : Ty, ty.fragS cfg = true → maskB cfg ty = (tyMask cfg ty).map maskByte
  | .sc s _, _ => by simp only [maskB, tyMask, map_replicate_true]
  | .enum b _ _, _ => by simp only [maskB, tyMask, map_replicate_true]
  | .ptr _, _ => by simp only [maskB, tyMask, map_replicate_true]
  | .arr e len, h => by
    simp only [Ty.fragS, Bool.and_eq_true] at h
    cases len with
    | fixed n =>
      simp only [maskB, tyMask, maskB_fragS cfg e h.2, List.map_flatten, List.map_replicate]
    | expr _ => simp at h
    | nullTerm => simp at h
    | eof => simp at h
  | .struct al fs, h => by
    simp only [Ty.fragS] at h
    simp only [maskB, tyMask]
    cases hl : structLayout cfg al fs with
    | error e => rfl
    | ok r =>
      obtain ⟨sz, sa, offs⟩ := r
      cases sz with
      | none => rfl
      | some sz =>
        simp only [fieldsMaskB_fragS cfg fs h offs 0, List.map_append, List.length_map, map_replicate_false]
  | .union _ _, h => by simp [Ty.fragS] at h
theorem fieldsMaskB_fragS (cfg : Cfg) : ∀ fs : Fields, Fields.fragS cfg fs = true → ∀ (offs : List (Option Nat)) (cur : Nat),
    fieldsMaskB cfg fs offs cur none = (fieldsMask cfg fs offs cur).map maskByte
  | .nil, _, offs, cur => by rw [fieldsMaskB_nil]; rfl
  | .cons name an ty bits rest, h, offs, cur => by
    simp only [Fields.fragS, Bool.and_eq_true, Option.isNone_iff_eq_none] at h
    obtain ⟨⟨rfl, h1⟩, h2⟩ := h
    rw [fieldsMaskB_nb, fieldsMask]
    simp only [flushMask_none, List.nil_append, maskB_fragS cfg ty h1, fieldsMaskB_fragS cfg rest h2, List.map_append,
      List.length_map, map_replicate_false]
end

end Cstruct.C02B.Lemmas
