/-
  Helper lemmas for `Proofs/C17.lean` and `Proofs/C17Aligned.lean`: the shape of the bytes the structure writer emits for
  a value of a fixed-size structure without bit-fields (fragment S), packed or aligned (`Shape`); that an assignment
  changes only the assigned member's bytes is a corollary.
  `nTy` / `nV` / `setV` / `IsPadAt` are the functions the property files state their theorems with under the names
  `nthTy` / `nthV` / `setNthV` / `IsPad` (`nthTy_eq`, `setNthV_eq`, `nthV_eq`, `isPad_iff` there).
-/
import Proofs.Core
namespace Cstruct.C17.Lemmas
open Cstruct Cstruct.Core Cstruct.Core.Lemmas

def nTy : Fields → Nat → Option Ty
  | .nil, _ => none
  | .cons _ _ t _ _, 0 => some t
  | .cons _ _ _ _ r, k + 1 => nTy r k

def nV : Vals → Nat → Option Val
  | .nil, _ => none
  | .cons v _, 0 => some v
  | .cons _ r, k + 1 => nV r k

def setV : Vals → Nat → Val → Vals
  | .nil, _, _ => .nil
  | .cons _ r, 0, v => .cons v r
  | .cons a r, k + 1, v => .cons a (setV r k v)

/-- position `i` (relative to the structure start) lies in no member's extent -/
def IsPadAt (cfg : Cfg) (fs : Fields) (offs : List (Option Nat)) (i : Nat) : Prop :=
  ∀ k t off n, nTy fs k = some t → offs[k]? = some (some off) → t.size cfg = some n → ¬ (off ≤ i ∧ i < off + n)

theorem nV_setV_eq : ∀ (vs : Vals) (k : Nat) (v w : Val), nV vs k = some w → nV (setV vs k v) k = some v
  | .nil, _, _, _, h => by simp [nV] at h
  | .cons _ _, 0, _, _, _ => rfl
  | .cons _ r, k + 1, v, w, h => by simp only [setV, nV] at h ⊢; exact nV_setV_eq r k v w h

theorem nV_setV_ne : ∀ (vs : Vals) (k j : Nat) (v : Val), j ≠ k → nV (setV vs k v) j = nV vs j
  | .nil, _, _, _, _ => rfl
  | .cons _ _, 0, 0, _, h => absurd rfl h
  | .cons _ _, 0, j + 1, _, _ => rfl
  | .cons _ _, k + 1, 0, _, _ => rfl
  | .cons _ r, k + 1, j + 1, v, h => by simp only [setV, nV]; exact nV_setV_ne r k j v (by omega)

theorem hasTys_setV (cfg : Cfg) : ∀ (fs : Fields) (vs : Vals), HasTys cfg vs fs → ∀ (k : Nat) (t : Ty),
    nTy fs k = some t → ∀ v, HasTy cfg v t → HasTys cfg (setV vs k v) fs
  | .nil, _, _, _, _, ht, _, _ => nomatch ht
  | .cons _ _ ty _ rest, _, hvs, k, t, ht, v, hv => by
    cases hvs with | cons hv0 hvs' => ?_
    cases k with
    | zero => cases ht; exact .cons hv hvs'
    | succ k => exact .cons hv0 (hasTys_setV cfg rest _ hvs' k t ht v hv)

theorem isPadAt_cons {cfg : Cfg} {name an ty bits rest fo offs i} (h : IsPadAt cfg (.cons name an ty bits rest) (some fo :: offs) i) :
    (∀ n, ty.size cfg = some n → ¬ (fo ≤ i ∧ i < fo + n)) ∧ IsPadAt cfg rest offs i :=
  ⟨fun n hn => h 0 ty fo n rfl rfl hn, fun k t off n hk ho => h (k + 1) t off n hk ho⟩

theorem offsS_cons (cfg : Cfg) (al : Bool) (name an ty bits rest o) {n : Nat} (hn : ty.size cfg = some n) :
    offsS cfg al (.cons name an ty bits rest) o =
      some (alignTo al o (ty.alignment cfg)) :: offsS cfg al rest (alignTo al o (ty.alignment cfg) + n) := by
  rw [offsS, hn]; rfl

theorem endOff_cons (cfg : Cfg) (al : Bool) (name an ty bits rest o) {n : Nat} (hn : ty.size cfg = some n) :
    endOff cfg al (.cons name an ty bits rest) o = endOff cfg al rest (alignTo al o (ty.alignment cfg) + n) := by
  rw [endOff, hn]; rfl

theorem offsS_ge (cfg : Cfg) (al : Bool) : ∀ (fs : Fields) (o k off : Nat), (offsS cfg al fs o)[k]? = some (some off) → o ≤ off
  | .nil, _, _, _, h => nomatch h
  | .cons _ _ ty _ r, o, 0, off, h => by cases h; exact le_alignTo al o _
  | .cons _ _ ty _ r, o, k + 1, off, h =>
    Nat.le_trans (Nat.le_trans (le_alignTo al o (ty.alignment cfg)) (Nat.le_add_right ..)) (offsS_ge cfg al r _ k off h)

theorem offsS_member (cfg : Cfg) (al : Bool) : ∀ (fs : Fields) (o k : Nat) (t : Ty) (off n : Nat), nTy fs k = some t →
    (offsS cfg al fs o)[k]? = some (some off) → t.size cfg = some n →
    off + n ≤ endOff cfg al fs o ∧ ∀ k' off', k < k' → (offsS cfg al fs o)[k']? = some (some off') → off + n ≤ off'
  | .nil, _, _, _, _, _, ht, _, _ => nomatch ht
  | .cons name an ty bits r, o, 0, t, off, n, ht, ho, hn => by
    cases ht
    rw [offsS_cons cfg al name an ty bits r o hn] at ho ⊢
    rw [endOff_cons cfg al name an ty bits r o hn]
    cases ho
    refine ⟨le_endOff cfg al r _, fun k' off' hk ho' => ?_⟩
    obtain ⟨k', rfl⟩ := Nat.exists_eq_add_one_of_ne_zero (Nat.ne_of_gt hk)
    exact offsS_ge cfg al r _ k' off' ho'
  | .cons name an ty bits r, o, k + 1, t, off, n, ht, ho, hn => by
    obtain ⟨h1, h2⟩ := offsS_member cfg al r _ k t off n ht ho hn
    refine ⟨h1, fun k' off' hk ho' => ?_⟩
    obtain ⟨k', rfl⟩ := Nat.exists_eq_add_one_of_ne_zero (Nat.ne_of_gt (Nat.zero_lt_of_lt hk))
    exact h2 k' off' (Nat.lt_of_succ_lt_succ hk) ho'

theorem writeFields_cons (cfg : Cfg) (al : Bool) (name : String) (an : Bool) (ty : Ty) (rest : Fields)
    (hS : ty.fragS cfg = true) (hU : ty.uniformAlign al = true) (hP : ty.pow2Aligned cfg) (v : Val) (hv : HasTy cfg v ty)
    (vs : Vals) (start o : Nat) (hdv : al = true → ty.alignment cfg ∣ start) :
    ∃ enc, write cfg ty v (start + alignTo al o (ty.alignment cfg)) = .ok enc ∧ ty.size cfg = some enc.length ∧
      writeFields cfg al (.cons name an ty none rest) (offsS cfg al (.cons name an ty none rest) o) (.cons v vs) start
          BitBuf.empty (start + o) =
        (writeFields cfg al rest (offsS cfg al rest (alignTo al o (ty.alignment cfg) + enc.length)) vs start BitBuf.empty
            (start + (alignTo al o (ty.alignment cfg) + enc.length))).bind fun (out, bb) =>
          .ok (zeros (alignTo al o (ty.alignment cfg) - o) ++ enc ++ out, bb) := by
  have hle := le_alignTo al o (ty.alignment cfg)
  have hpos : al = true → sAlign cfg ty ∣ start + alignTo al o (ty.alignment cfg) := by
    intro ha; subst ha
    exact Nat.dvd_trans (sAlign_dvd_alignment cfg ty) (Nat.dvd_add (hdv rfl) (alignTo_dvd (alignment_p2 cfg ty hP) o))
  obtain ⟨enc, n, w, s, rfl, _⟩ := wr_ty cfg al ty hS hU hP v hv _ hpos
  refine ⟨enc, w, s, ?_⟩
  rw [offsS_cons cfg al name an ty none rest o s, writeFields_cons_S]
  generalize alignTo al o (ty.alignment cfg) = fo at *
  have hpad : (if start + o < start + fo then start + fo - (start + o) else 0) = fo - o := by
    split <;> omega
  have e1 : start + o + (fo - o) = start + fo := by omega
  have e2 : start + o + (zeros (fo - o) ++ enc).length = start + (fo + enc.length) := by
    rw [List.length_append, zeros, List.length_replicate]; omega
  rw [hpad, e1, w]
  simp only [Except.bind]
  rw [e2]

theorem dump_fields (cfg : Cfg) (al : Bool) : ∀ (fs : Fields), Fields.fragS cfg fs = true →
    Fields.uniformAlign al fs = true → fs.pow2Aligned cfg → ∀ vs, HasTys cfg vs fs → ∀ (start o : Nat),
    (al = true → allAlignDvd cfg start fs) →
    ∃ out, writeFields cfg al fs (offsS cfg al fs o) vs start BitBuf.empty (start + o) = .ok (out, BitBuf.empty) ∧
      o + out.length = endOff cfg al fs o ∧
      (∀ k t, nTy fs k = some t → ∃ off w enc pre post, (offsS cfg al fs o)[k]? = some (some off) ∧ nV vs k = some w ∧
          write cfg t w (start + off) = .ok enc ∧ t.size cfg = some enc.length ∧ out = pre ++ enc ++ post ∧
          o + pre.length = off) ∧
      (∀ i, i < out.length → IsPadAt cfg fs (offsS cfg al fs o) (o + i) → out[i]? = some 0)
  | .nil, _, _, _, _, hvs, start, o, _ => by
    cases hvs
    exact ⟨[], writeFields_nil .., rfl, fun _ _ ht => (nomatch ht), fun _ hi => absurd hi (Nat.not_lt_zero _)⟩
  | .cons name an ty _ rest, hS, hU, hP, _, hvs, start, o, hdv => by
    cases hvs with | @cons v0 vs' _ _ _ _ hv0 hvs' => ?_
    simp only [Fields.fragS, Bool.and_eq_true] at hS
    simp only [Fields.uniformAlign, Bool.and_eq_true] at hU
    obtain ⟨enc, w, s, e⟩ := writeFields_cons cfg al name an ty rest hS.1.2 hU.1 hP.1 v0 hv0 vs' start o
      (fun ha => (hdv ha).1)
    rw [e, offsS_cons cfg al name an ty none rest o s, endOff_cons cfg al name an ty none rest o s]
    -- the member's offset is `o` plus `p` bytes of padding
    obtain ⟨p, hp⟩ := Nat.exists_eq_add_of_le (le_alignTo al o (ty.alignment cfg))
    rw [hp] at w ⊢
    rw [Nat.add_sub_cancel_left]
    obtain ⟨out', w', l', hm', hz'⟩ := dump_fields cfg al rest hS.2 hU.2 hP.2 vs' hvs' start (o + p + enc.length)
      (fun ha => (hdv ha).2)
    have hz : (zeros p).length = p := List.length_replicate
    have hl : (zeros p ++ enc).length = p + enc.length := by rw [List.length_append, hz]
    refine ⟨zeros p ++ enc ++ out', by rw [w']; rfl, ?_, ?_, ?_⟩
    · rw [List.length_append, hl, ← l']; omega
    · intro k t ht
      cases k with
      | zero =>
        cases ht
        exact ⟨o + p, v0, enc, zeros p, out', rfl, rfl, w, s, rfl, by rw [hz]⟩
      | succ k =>
        obtain ⟨off, w0, enc', pre, post, a1, a2, a3, a4, rfl, a6⟩ := hm' k t ht
        refine ⟨off, w0, enc', zeros p ++ enc ++ pre, post, a1, a2, a3, a4, by simp only [List.append_assoc], ?_⟩
        rw [List.length_append, hl, ← a6]; omega
    · intro i hi hpad
      obtain ⟨hp0, hpr⟩ := isPadAt_cons hpad
      rw [List.length_append, hl] at hi
      by_cases h1 : i < p
      · rw [List.append_assoc, List.getElem?_append_left (by rw [hz]; exact h1)]
        exact List.getElem?_replicate_of_lt h1
      · -- not inside this member, which is not padding: in the rest, at `i - (p + enc.length)`
        obtain ⟨i', rfl⟩ : ∃ i', i = p + enc.length + i' :=
          Nat.exists_eq_add_of_le (Nat.le_of_not_lt fun h2 => hp0 _ s ⟨by omega, by omega⟩)
        rw [List.getElem?_append_right (by rw [hl]; exact Nat.le_add_right ..), hl, Nat.add_sub_cancel_left]
        apply hz' _ (by omega)
        rw [show o + p + enc.length + i' = o + (p + enc.length + i') by omega]
        exact hpr

theorem getElem?_mid {α} (pre enc post : List α) {j : Nat} (h : j < enc.length) :
    (pre ++ enc ++ post)[pre.length + j]? = enc[j]? := by
  rw [List.getElem?_append_left (by rw [List.length_append]; omega), List.getElem?_append_right (Nat.le_add_right ..),
    Nat.add_sub_cancel_left]

/-- what a dump `b` of the values `vs` looks like: every member's encoding at its layout offset, members in order
    without overlap, zero in no member's extent (alignment and tail padding) -/
def Shape (cfg : Cfg) (fs : Fields) (offs : List (Option Nat)) (vs : Vals) (b : Bytes) : Prop :=
  (∀ k t, nTy fs k = some t → ∃ off n w enc, offs[k]? = some (some off) ∧ t.size cfg = some n ∧
      nV vs k = some w ∧ write cfg t w off = .ok enc ∧ enc.length = n ∧ off + n ≤ b.length ∧
      (∀ j, j < n → b[off + j]? = enc[j]?) ∧
      (∀ k' off', k < k' → offs[k']? = some (some off') → off + n ≤ off')) ∧
  (∀ i, i < b.length → IsPadAt cfg fs offs i → b[i]? = some 0)

theorem dump_shape (cfg : Cfg) (al : Bool) (fs : Fields) (hS : (Ty.struct al fs).fragS cfg = true)
    (hu : (Ty.struct al fs).uniformAlign al = true) (hp : (Ty.struct al fs).pow2Aligned cfg)
    (vs : Vals) (hv : HasTy cfg (.record vs) (.struct al fs)) (offs : List (Option Nat)) (sz : Option Nat) (a : Nat)
    (hl : structLayout cfg al fs = .ok (sz, a, offs)) :
    ∃ b, dumps cfg (.struct al fs) (.record vs) = .ok b ∧ sz = some b.length ∧ Shape cfg fs offs vs b := by
  simp only [Ty.fragS] at hS
  simp only [Ty.uniformAlign, Bool.and_eq_true] at hu
  cases hv with | @struct _ _ _ hvs => ?_
  rw [structLayout_S cfg al fs hS] at hl
  cases hl
  obtain ⟨out, w, l, hm, hz⟩ := dump_fields cfg al fs hS hu.2 hp vs hvs 0 0
    (fun _ => allAlignDvd_of_sAlign cfg al fs hp 0 (Nat.dvd_zero _))
  simp only [Nat.zero_add] at w l hm hz
  rw [← l]
  have hle := le_alignTo al out.length (Fields.maxAlign cfg fs 0)
  generalize hm' : alignTo al out.length (Fields.maxAlign cfg fs 0) - out.length = m
  -- the tail padding of an aligned structure; none in packed mode
  have hd : dumps cfg (.struct al fs) (.record vs) = .ok (out ++ zeros m) := by
    unfold dumps
    rw [write_struct, structLayout_S cfg al fs hS]
    simp only [Except.bind, w, flushBits_empty, List.append_nil, Nat.zero_add]
    subst hm'
    cases al <;> simp [alignTo, zeros]
  have hlen : (out ++ zeros m).length = out.length + m := by rw [List.length_append, zeros, List.length_replicate]
  refine ⟨_, hd, by rw [hlen]; congr 1; omega, fun k t ht => ?_, fun i hi hpad => ?_⟩
  · obtain ⟨off, w0, enc, pre, post, a1, a2, a3, a4, rfl, a6⟩ := hm k t ht
    have ho := offsS_member cfg al fs 0 k t off enc.length ht a1 a4
    rw [← l] at ho
    subst a6
    refine ⟨_, _, w0, enc, a1, a4, a2, a3, rfl, by rw [hlen]; omega, fun j hj => ?_, ho.2⟩
    rw [List.append_assoc _ post]
    exact getElem?_mid pre enc _ hj
  · by_cases hlt : i < out.length
    · rw [List.getElem?_append_left hlt]; exact hz i hlt hpad
    · rw [List.getElem?_append_right (by omega)]
      exact List.getElem?_replicate_of_lt (by omega)

/-- position by position: a byte outside member `k`'s extent is a padding zero or belongs to another member, whose value
    and position, hence encoding, are the same in both dumps -/
theorem shape_agree {cfg : Cfg} {fs : Fields} {offs : List (Option Nat)} {vs : Vals} {k : Nat} {v : Val} {b1 b2 : Bytes}
    (h1 : Shape cfg fs offs vs b1) (h2 : Shape cfg fs offs (setV vs k v) b2) (hlen : b1.length = b2.length)
    {t : Ty} (ht : nTy fs k = some t) {off n : Nat} (hoff : offs[k]? = some (some off)) (hn : t.size cfg = some n)
    (i : Nat) (hi : i < off ∨ off + n ≤ i) : b1[i]? = b2[i]? := by
  obtain ⟨m1, z1⟩ := h1
  obtain ⟨m2, z2⟩ := h2
  by_cases hlt : b1.length ≤ i
  · rw [List.getElem?_eq_none hlt, List.getElem?_eq_none (hlen ▸ hlt)]
  by_cases hpad : IsPadAt cfg fs offs i
  · rw [z1 i (by omega) hpad, z2 i (by omega) hpad]
  · simp only [IsPadAt, Classical.not_forall, Classical.not_not] at hpad
    obtain ⟨j, tj, offj, nj, htj, hoj, hnj, hij⟩ := hpad
    have hjk : j ≠ k := by
      rintro rfl
      rw [hoff] at hoj; rw [ht] at htj; cases hoj; cases htj
      rw [hn] at hnj; cases hnj
      omega
    obtain ⟨_, _, w1, e1, p1, p2, p3, p4, _, _, p7, _⟩ := m1 j tj htj
    obtain ⟨_, _, w2, e2, q1, q2, q3, q4, _, _, q7, _⟩ := m2 j tj htj
    rw [hoj] at p1 q1; cases p1; cases q1
    rw [hnj] at p2 q2; cases p2; cases q2
    rw [nV_setV_ne vs k j v hjk, p3] at q3; cases q3
    rw [p4] at q4; cases q4
    have e : offj + (i - offj) = i := by omega
    have h1 := p7 (i - offj) (by omega)
    have h2 := q7 (i - offj) (by omega)
    rw [e] at h1 h2
    rw [h1, h2]

theorem hasTy_setV {cfg : Cfg} {al : Bool} {fs : Fields} {vs : Vals} (hv : HasTy cfg (.record vs) (.struct al fs))
    {k : Nat} {t : Ty} (ht : nTy fs k = some t) {v : Val} (hvk : HasTy cfg v t) :
    HasTy cfg (.record (setV vs k v)) (.struct al fs) := by
  cases hv with | @struct _ _ _ hvs => exact .struct (hasTys_setV cfg fs vs hvs k t ht v hvk)

theorem assign_local (cfg : Cfg) (al : Bool) (fs : Fields) (hS : (Ty.struct al fs).fragS cfg = true)
    (hu : (Ty.struct al fs).uniformAlign al = true) (hp : (Ty.struct al fs).pow2Aligned cfg)
    (vs : Vals) (hv : HasTy cfg (.record vs) (.struct al fs)) (k : Nat) (t : Ty) (ht : nTy fs k = some t) (v : Val)
    (hvk : HasTy cfg v t) (off n : Nat) (offs : List (Option Nat)) (sz : Option Nat) (a : Nat)
    (hl : structLayout cfg al fs = .ok (sz, a, offs)) (hoff : offs[k]? = some (some off)) (hn : t.size cfg = some n) :
    ∃ b1 b2, dumps cfg (.struct al fs) (.record vs) = .ok b1 ∧
      dumps cfg (.struct al fs) (.record (setV vs k v)) = .ok b2 ∧
      b1.length = b2.length ∧ ∀ i, (i < off ∨ off + n ≤ i) → b1[i]? = b2[i]? := by
  obtain ⟨b1, d1, s1, h1⟩ := dump_shape cfg al fs hS hu hp vs hv offs sz a hl
  obtain ⟨b2, d2, s2, h2⟩ := dump_shape cfg al fs hS hu hp _ (hasTy_setV hv ht hvk) offs sz a hl
  have hlen : b1.length = b2.length := Option.some.inj (s1.symm.trans s2)
  exact ⟨b1, b2, d1, d2, hlen, shape_agree h1 h2 hlen ht hoff hn⟩

end Cstruct.C17.Lemmas
