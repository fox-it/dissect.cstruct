/-
  The two theorems about `readCompiled` (from the simulation `sim_plan` in
  `Proofs/Lemmas/C03Plan.lean`) and the facts about the sample of `Proofs/Spec/C03.lean`.
-/
import Proofs.Spec.C03
import Proofs.Lemmas.C03Plan
namespace Cstruct.Compiler
open Cstruct Cstruct.Core.Lemmas

/-- the two readers of a structure with a validated plan, reduced to the plan run and the field loop -/
theorem readers_sim (cfg : Cfg) (al : Bool) (fs : Fields) (plan : Plan) (data : Bytes) (pos : Nat)
    (hok : planOK cfg al fs plan = true) :
    ∃ c i : Res, Sim c i ∧
      readCompiled cfg al fs plan data pos = c.map (fun r => (.record r.1, r.2)) ∧
      readStructWithSizes cfg al fs data pos = i.map (fun r => (.record r.1, r.2)) := by
  unfold planOK at hok
  unfold readCompiled readStructWithSizes
  cases hl : structLayout cfg al fs with
  | error e => rw [hl] at hok; cases hok
  | ok r =>
    obtain ⟨sz, salign, offs⟩ := r
    rw [hl] at hok
    dsimp only at hok ⊢
    refine ⟨_, _, sim_plan cfg al salign pos data plan fs offs _ { pos := pos, bb := BitBuf.empty, ctx := [] } pos
      BitBuf.empty hok (Inv.sync fun k hk => by cases hk; rfl), ?_, ?_⟩
    · cases exec cfg salign pos data plan fs { pos := pos, bb := BitBuf.empty, ctx := [] } <;> rfl
    · cases readFields cfg al fs offs pos BitBuf.empty [] data pos <;> rfl

theorem compiled_refines (cfg : Cfg) (al : Bool) (fs : Fields) (plan : Plan) (data : Bytes) (pos : Nat)
    (hok : planOK cfg al fs plan = true)
    (v : Val) (szs : List (String × Nat)) (p : Nat)
    (hc : readCompiled cfg al fs plan data pos = .ok (v, szs, p)) :
    ∃ szs', readStructWithSizes cfg al fs data pos = .ok (v, szs', p) ∧
      szs.filter (fun e => e.2 ≠ 0) = szs'.filter (fun e => e.2 ≠ 0) := by
  obtain ⟨c, i, hsim, h1, h2⟩ := readers_sim cfg al fs plan data pos hok
  rw [h1] at hc
  rw [h2]
  cases c with
  | error e => cases hc
  | ok x =>
    obtain ⟨vs, s, pe⟩ := x
    cases hc
    rcases hsim with h | h
    · cases h
    · cases i with
      | error e => exact h.elim
      | ok y =>
        obtain ⟨vs', s', pe'⟩ := y
        obtain ⟨rfl, rfl, h3⟩ := h
        exact ⟨s', rfl, h3⟩

theorem interp_ok_compiled (cfg : Cfg) (al : Bool) (fs : Fields) (plan : Plan) (data : Bytes) (pos : Nat)
    (hok : planOK cfg al fs plan = true)
    (v : Val) (szs : List (String × Nat)) (p : Nat)
    (hi : readStructWithSizes cfg al fs data pos = .ok (v, szs, p)) :
    (∃ szs', readCompiled cfg al fs plan data pos = .ok (v, szs', p) ∧
        szs'.filter (fun e => e.2 ≠ 0) = szs.filter (fun e => e.2 ≠ 0)) ∨
      readCompiled cfg al fs plan data pos = .error .eof := by
  obtain ⟨c, i, hsim, h1, h2⟩ := readers_sim cfg al fs plan data pos hok
  rw [h2] at hi
  rw [h1]
  cases i with
  | error e => cases hi
  | ok y =>
    obtain ⟨vs, s, pe⟩ := y
    cases hi
    rcases hsim with h | h
    · right; rw [h]; rfl
    · cases c with
      | error e => exact h.elim
      | ok x =>
        obtain ⟨vs', s', pe'⟩ := x
        obtain ⟨rfl, rfl, h3⟩ := h
        exact Or.inl ⟨s', rfl, h3⟩

theorem s_rs0 : readScalar samplecfg (.pint 1 false) sampleData 0 = .ok (.int 45, 1) := by rfl
theorem s_take1 : BitBuf.take .little { ty := some (.pint 1 false), buffer := 45, remaining := 8 } 3 =
    some (5, { ty := some (.pint 1 false), buffer := 5, remaining := 5 }) := by decide +kernel
theorem s_take2 : BitBuf.take .little { ty := some (.pint 1 false), buffer := 5, remaining := 5 } 4 =
    some (5, { ty := some (.pint 1 false), buffer := 0, remaining := 1 }) := by decide +kernel
theorem s_re1 : readExact sampleData 4 4 = .ok ([1, 2, 3, 4], 8) := by decide +kernel
theorem s_re2 : readExact sampleData 16 7 = .ok ([0x10, 0, 0x20, 0, 0xff, 0xff, 0xff], 23) := by decide +kernel
theorem s_sv1 : slotVal samplecfg (.sc (.pint 4 false) 4) [1, 2, 3, 4] [⟨.pint 4 false, 0, 4⟩] ⟨"c", .data1 0, .init, 4⟩ =
    .ok (.int 67305985) := by rfl
theorem s_sv2 : slotVal samplecfg (.arr (.sc (.pint 2 false) 2) (.fixed 2)) [0x10, 0, 0x20, 0, 0xff, 0xff, 0xff]
    [⟨.pint 2 false, 0, 2⟩, ⟨.pint 2 false, 2, 2⟩] ⟨"d", .dataN 0 2, .initArray, 4⟩ =
    .ok (.list (.cons (.int 16) (.cons (.int 32) .nil))) := by rfl
theorem s_sv3 : slotVal samplecfg (.sc (.aint 3 true) 4) [0x10, 0, 0x20, 0, 0xff, 0xff, 0xff]
    [⟨.pint 2 false, 0, 2⟩, ⟨.pint 2 false, 2, 2⟩] ⟨"e", .buf 4 7, .parse, 3⟩ = .ok (.int (-1)) := by rfl
theorem s_rx : readScalar samplecfg (.pint 1 false) sampleData 8 = .ok (.int 9, 9) := by rfl
theorem s_ry : readScalar samplecfg (.pint 4 false) sampleData 12 = .ok (.int 134678021, 16) := by rfl
theorem s_pad1 : padNat 16 4 = 0 := by decide +kernel
theorem s_pad2 : padNat 23 4 = 1 := by decide +kernel
theorem sample_layout : structLayout samplecfg true sampleFields =
    .ok (some 24, 4, [some 0, none, some 4, some 8, some 16, some 20, some 20]) := by decide +kernel
theorem sample_fmt1 : fmtItemsOf (some "I") 4 = some [⟨.pint 4 false, 0, 4⟩] := by decide +kernel
theorem sample_fmt2 : fmtItemsOf (some "2H3x") 7 = some [⟨.pint 2 false, 0, 2⟩, ⟨.pint 2 false, 2, 2⟩] := by decide +kernel
theorem sample_inner : structLayout samplecfg true
    (.cons "x" false (.sc (.pint 1 false) 1) none (.cons "y" false (.sc (.pint 4 false) 4) none .nil)) =
    .ok (some 8, 4, [some 0, some 4]) := by decide +kernel
theorem s_end : samplecfg.endian = .little := rfl

theorem s_sub (ctx : Ctx) : read samplecfg (.struct true
      (.cons "x" false (.sc (.pint 1 false) 1) none (.cons "y" false (.sc (.pint 4 false) 4) none .nil))) ctx sampleData 8 =
    .ok (.record (.cons (.int 9) (.cons (.int 134678021) .nil)), 16) := by
  rw [read_struct, sample_inner]
  simp only [Except.bind]
  rw [readFields_nobits, read_sc, hdOff, fieldPos_some, Nat.add_zero, s_rx]
  simp only [Except.bind]
  rw [readFields_nobits, read_sc, List.drop_one, List.tail_cons, hdOff, fieldPos_some, s_ry]
  simp only [Except.bind, readFields_nil, wrapR, if_true, s_pad1]

theorem s_es1 (ctx : Ctx) (fs : Fields) : execSlots samplecfg [1, 2, 3, 4] [⟨.pint 4 false, 0, 4⟩] [⟨"c", .data1 0, .init, 4⟩]
    (.cons "c" false (.sc (.pint 4 false) 4) none fs) ctx =
    .ok (.cons (.int 67305985) .nil, [("c", 4)], fs, ctx.set "c" (.int 67305985)) := by
  rw [execSlots_slot _ _ _ _ _ _ _ _ _ _ _ (by simp [isVoid]) (by simp), s_sv1]
  simp only [Except.bind, execSlots_nil, Except.map]

theorem s_es2 (ctx : Ctx) : execSlots samplecfg [0x10, 0, 0x20, 0, 0xff, 0xff, 0xff]
    [⟨.pint 2 false, 0, 2⟩, ⟨.pint 2 false, 2, 2⟩] [⟨"d", .dataN 0 2, .initArray, 4⟩, ⟨"e", .buf 4 7, .parse, 3⟩]
    (.cons "d" false (.arr (.sc (.pint 2 false) 2) (.fixed 2)) none
      (.cons "v" false (.sc .void 0) none (.cons "e" false (.sc (.aint 3 true) 4) none .nil))) ctx =
    .ok (.cons (.list (.cons (.int 16) (.cons (.int 32) .nil))) (.cons .void (.cons (.int (-1)) .nil)), [("d", 4), ("e", 3)],
      .nil, ((ctx.set "d" (.list (.cons (.int 16) (.cons (.int 32) .nil)))).set "v" .void).set "e" (.int (-1))) := by
  rw [execSlots_slot _ _ _ _ _ _ _ _ _ _ _ (by simp [isVoid]) (by simp), s_sv2]
  simp only [Except.bind]
  rw [execSlots_void _ _ _ _ _ _ _ _ _ _ _ (by simp [isVoid])]
  rw [execSlots_slot _ _ _ _ _ _ _ _ _ _ _ (by simp [isVoid]) (by simp), s_sv3]
  simp only [Except.bind, execSlots_nil, Except.map]

theorem sample_runs : readCompiled samplecfg true sampleFields samplePlan sampleData 0 = .ok (
    .record (.cons (.int 5) (.cons (.int 5) (.cons (.int 67305985)
      (.cons (.record (.cons (.int 9) (.cons (.int 134678021) .nil)))
      (.cons (.list (.cons (.int 16) (.cons (.int 32) .nil))) (.cons .void (.cons (.int (-1)) .nil))))))),
    [("c", 4), ("s", 8), ("d", 4), ("e", 3)], 24) := by
  rw [readCompiled, sample_layout]
  simp [samplePlan, sampleFields, exec, skipVoids, isVoid, bitsVia, BitBuf.empty, Scalar.size, sample_fmt1, sample_fmt2,
    s_rs0, unitInt, s_end, s_take1, s_take2, padNat_one, s_re1, s_re2, s_es1, s_es2, s_sub, s_pad2, exec.Vals.append]

theorem sample_inner_layout : Fields.layout samplecfg true
    (.cons "x" false (.sc (.pint 1 false) 1) none (.cons "y" false (.sc (.pint 4 false) 4) none .nil))
    { offset := some 0, alignment := 0, bitsType := none, bitsFieldOffset := some 0, bitsRemaining := 0 } =
    .ok (some 8, 4, [some 0, some 4]) := by decide +kernel

theorem sample_planOK : planOK samplecfg true sampleFields samplePlan = true := by
  rw [planOK, sample_layout]
  simp [samplePlan, sampleFields, planOKAux, dropVoids, isVoid, sample_fmt1, sample_fmt2, hdOff, bitsVia, Ty.bitBase,
    Scalar.size, posOK, Ty.alignment, nonBitHead, nextStatic, slotsOK, slotRange, readType, expectDec, isPacked,
    Ty.size, itemsAre, sample_inner_layout]

end Cstruct.Compiler
