/-
  The struct format string: `_optimize_struct_fmt` (model: `optFmt` + `renderFmt`) prints a string that `parseFmt` reads back, and merging runs /
  dropping empty entries does not change what `struct.unpack` returns (`fmtItems`).
-/
import CstructModel.Compile

namespace Cstruct.Compiler
open Cstruct

theorem parseFmtAux_digits (ds rest : List Char) (hd : ∀ c ∈ ds, c.isDigit = true) (a : Nat) :
    parseFmtAux (ds ++ rest) (some a) = parseFmtAux rest (some (Nat.ofDigitChars 10 ds a)) := by
  induction ds generalizing a with
  | nil => simp
  | cons c ds ih =>
    have hc : c.isDigit = true := hd c (by simp)
    rw [List.cons_append, parseFmtAux, if_pos hc, Nat.ofDigitChars_cons]
    rw [show (some a).getD 0 * 10 + (c.toNat - 48) = 10 * a + (c.toNat - '0'.toNat) by
      simp [Nat.mul_comm]]
    exact ih (fun c' h => hd c' (by simp [h])) _

theorem parseFmtAux_digits_none (ds rest : List Char) (hd : ∀ c ∈ ds, c.isDigit = true) (hne : ds ≠ []) :
    parseFmtAux (ds ++ rest) none = parseFmtAux rest (some (Nat.ofDigitChars 10 ds 0)) := by
  cases ds with
  | nil => exact absurd rfl hne
  | cons c ds =>
    have hc : c.isDigit = true := hd c (by simp)
    rw [List.cons_append, parseFmtAux, if_pos hc, Nat.ofDigitChars_cons]
    rw [show (none : Option Nat).getD 0 * 10 + (c.toNat - 48) = 10 * 0 + (c.toNat - '0'.toNat) by simp]
    exact parseFmtAux_digits ds rest (fun c' h => hd c' (by simp [h])) _

/-- a character that `_generate_struct_info` puts into an info entry -/
def FmtChar (c : Char) : Prop :=
  c = 'x' ∨ c = 'b' ∨ c = 'B' ∨ c = 'h' ∨ c = 'H' ∨ c = 'i' ∨ c = 'I' ∨ c = 'q' ∨ c = 'Q' ∨ c = 'e' ∨ c = 'f' ∨ c = 'd'

theorem FmtChar.alpha {c : Char} (h : FmtChar c) : c.isDigit = false ∧ c.isAlpha = true := by
  rcases h with h | h | h | h | h | h | h | h | h | h | h | h <;> subst h <;> decide

theorem parseFmtAux_letter (c : Char) (hc : FmtChar c) (rest : List Char) (acc : Option Nat) :
    parseFmtAux (c :: rest) acc = (parseFmtAux rest none).map ((acc.getD 1, c) :: ·) := by
  obtain ⟨h1, h2⟩ := hc.alpha
  rw [parseFmtAux, if_neg (by simp [h1]), if_pos h2]

theorem parseFmt_render (chars : List (Nat × Char)) (h : ∀ p ∈ chars, 1 ≤ p.1 ∧ FmtChar p.2) :
    parseFmt (renderFmt chars) = some chars := by
  unfold parseFmt
  induction chars with
  | nil => simp [renderFmt, parseFmtAux]
  | cons p chars ih =>
    obtain ⟨n, c⟩ := p
    obtain ⟨hn, hc⟩ := h (n, c) (by simp)
    have ih' := ih (fun p hp => h p (by simp [hp]))
    simp only [renderFmt]
    by_cases h1 : n > 1
    · rw [if_pos h1, parseFmtAux_digits_none _ _ (fun c hc => Nat.isDigit_of_mem_toDigits (by decide) (by decide) hc)
        Nat.toDigits_ne_nil, Nat.ofDigitChars_ten_toDigits, parseFmtAux_letter c hc, ih']
      rfl
    · have : n = 1 := by omega
      subst this
      rw [if_neg h1, List.nil_append, parseFmtAux_letter c hc, ih']
      rfl

theorem FmtChar.cases {c : Char} (h : FmtChar c) :
    c = 'x' ∨ (c ≠ 'x' ∧ ∃ s sz, charScalar c = some s ∧ charSize c = some sz) := by
  rcases h with h | h | h | h | h | h | h | h | h | h | h | h <;> subst h
  · exact Or.inl rfl
  all_goals exact Or.inr ⟨by decide, _, _, rfl, rfl⟩

theorem replicateItems_add (s : Scalar) (sz n1 n2 off : Nat) :
    replicateItems s sz (n1 + n2) off = replicateItems s sz n1 off ++ replicateItems s sz n2 (off + n1 * sz) := by
  induction n1 generalizing off with
  | zero => simp [replicateItems]
  | succ n ih =>
    rw [show n + 1 + n2 = (n + n2) + 1 by omega, replicateItems, replicateItems, ih, List.cons_append]
    congr 3
    rw [Nat.add_mul]; omega

theorem fmtItems_merge (c : Char) (hc : FmtChar c) (n1 n2 : Nat) (r : List (Nat × Char)) (off : Nat) :
    fmtItems ((n1 + n2, c) :: r) off = fmtItems ((n1, c) :: (n2, c) :: r) off := by
  rcases hc.cases with rfl | ⟨hx, s, sz, h1, h2⟩
  · simp only [fmtItems, if_true, Nat.add_assoc]
  · simp only [fmtItems, if_neg hx, h1, h2]
    rw [show off + (n1 + n2) * sz = off + n1 * sz + n2 * sz by rw [Nat.add_mul]; omega]
    cases fmtItems r (off + n1 * sz + n2 * sz) with
    | none => rfl
    | some p => obtain ⟨its, tot⟩ := p; simp only [replicateItems_add, List.append_assoc]

theorem fmtItems_zero (c : Char) (hc : FmtChar c) (r : List (Nat × Char)) (off : Nat) :
    fmtItems ((0, c) :: r) off = fmtItems r off := by
  rcases hc.cases with rfl | ⟨hx, s, sz, h1, h2⟩
  · simp only [fmtItems, if_true, Nat.add_zero]
  · simp only [fmtItems, if_neg hx, h1, h2, Nat.zero_mul, Nat.add_zero, replicateItems, List.nil_append]
    cases fmtItems r off with
    | none => rfl
    | some p => rfl

def infoPairs (info : List Info) : List (Nat × Char) := info.map fun i => (i.count, i.char)

/-- the run that `_optimize_struct_fmt` is accumulating -/
def curPair (cnt : Nat) : Option Char → List (Nat × Char)
  | some c => [(cnt, c)]
  | none => []

theorem fmtItems_cons_congr (p : Nat × Char) (l1 l2 : List (Nat × Char)) (h : ∀ off, fmtItems l1 off = fmtItems l2 off)
    (off : Nat) : fmtItems (p :: l1) off = fmtItems (p :: l2) off := by
  obtain ⟨n, c⟩ := p
  simp only [fmtItems, h]

theorem optFmt_spec (info : List Info) (hv : ∀ i ∈ info, FmtChar i.char) (cnt : Nat) (cur : Option Char)
    (hcur : ∀ c, cur = some c → FmtChar c) :
    (∀ off, fmtItems (optFmt info cnt cur) off = fmtItems (curPair cnt cur ++ infoPairs info) off) ∧
      ∀ p ∈ optFmt info cnt cur, 1 ≤ p.1 ∧ FmtChar p.2 := by
  -- the run that is closed when the character changes or the list ends
  have hrun : ∀ (n : Nat) c, FmtChar c → ∀ p ∈ (if n ≠ 0 then [(n, c)] else []), 1 ≤ p.1 ∧ FmtChar p.2 := by
    intro n c hc p hp
    by_cases h0 : n = 0
    · rw [if_neg (by simp [h0])] at hp; cases hp
    · rw [if_pos h0] at hp
      cases List.mem_singleton.mp hp
      exact ⟨Nat.pos_of_ne_zero h0, hc⟩
  induction info generalizing cnt cur with
  | nil =>
    cases cur with
    | none => exact ⟨fun _ => rfl, fun p hp => by cases hp⟩
    | some c =>
      refine ⟨fun off => ?_, hrun cnt c (hcur c rfl)⟩
      simp only [optFmt, infoPairs, List.map_nil, List.append_nil, curPair]
      by_cases h0 : cnt = 0
      · subst h0; rw [if_neg (by simp), fmtItems_zero c (hcur c rfl)]
      · rw [if_pos h0]
  | cons i rest ih =>
    have hi : FmtChar i.char := hv i (by simp)
    have hrest : ∀ j ∈ rest, FmtChar j.char := fun j hj => hv j (by simp [hj])
    obtain ⟨ih1, ih2⟩ := ih hrest i.count (some i.char) (fun c h => by cases h; exact hi)
    simp only [curPair, List.cons_append, List.nil_append] at ih1
    cases cur with
    | none => exact ⟨ih1, ih2⟩
    | some c =>
      have hc := hcur c rfl
      simp only [optFmt, curPair, infoPairs, List.map_cons, List.cons_append, List.nil_append]
      by_cases hne : i.char ≠ c
      · rw [if_pos hne]
        refine ⟨fun off => ?_, fun p hp => (List.mem_append.mp hp).elim (hrun cnt c hc p) (ih2 p)⟩
        by_cases h0 : cnt = 0
        · subst h0
          rw [if_neg (by simp), List.nil_append, fmtItems_zero c hc]
          exact ih1 off
        · rw [if_pos h0, List.cons_append, List.nil_append]
          exact fmtItems_cons_congr _ _ _ ih1 off
      · have heq : i.char = c := by simpa using hne
        obtain ⟨ih1', ih2'⟩ := ih hrest (cnt + i.count) (some c) hcur
        rw [if_neg hne]
        refine ⟨fun off => ?_, ih2'⟩
        rw [ih1']
        simp only [curPair, List.cons_append, List.nil_append, heq]
        exact fmtItems_merge c hc cnt i.count _ off

theorem fmtItems_allx (l : List (Nat × Char)) (h : ∀ p ∈ l, p.2 = 'x') (off : Nat) :
    ∃ tot, fmtItems l off = some ([], tot) := by
  induction l generalizing off with
  | nil => exact ⟨off, rfl⟩
  | cons p l ih =>
    obtain ⟨n, c⟩ := p
    have : c = 'x' := h (n, c) (by simp)
    subst this
    simp only [fmtItems, if_true]
    exact ih (fun p hp => h p (by simp [hp])) _

theorem fmtItemsOf_block (info : List Info) (hv : ∀ i ∈ info, FmtChar i.char) (its : List Item) (tot : Nat)
    (h : fmtItems (infoPairs info) 0 = some (its, tot)) :
    fmtItemsOf (if fmtLooksPadding (renderFmt (optFmt info 0 none)) ∧ info.all (fun i => i.char == 'x') then none
      else some (String.ofList (renderFmt (optFmt info 0 none)))) tot = some its := by
  split
  · rename_i hc
    have hall : ∀ p ∈ infoPairs info, p.2 = 'x' := by
      intro p hp
      simp only [infoPairs, List.mem_map] at hp
      obtain ⟨i, hi, rfl⟩ := hp
      have := List.all_eq_true.mp hc.2 i hi
      simpa using this
    obtain ⟨t, ht⟩ := fmtItems_allx _ hall 0
    rw [ht] at h
    cases h
    rfl
  · simp only [fmtItemsOf, String.toList_ofList]
    rw [parseFmt_render _ (optFmt_spec info hv 0 none (fun c h => by cases h)).2]
    simp only
    rw [(optFmt_spec info hv 0 none (fun c h => by cases h)).1 0]
    simp only [curPair, List.nil_append, h, if_true]

end Cstruct.Compiler
