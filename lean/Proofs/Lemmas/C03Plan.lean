/-
  A plan the validator accepts is simulated by the interpreted field loop (`sim_plan`).  One lemma per
  statement, on a cursor whose head is not a `void` member; `sim_norm` passes the void members first.
-/
import Proofs.Lemmas.C03Sim
namespace Cstruct.Compiler
open Cstruct Cstruct.Core.Lemmas

theorem readExact_error {d : Bytes} {pos n : Nat} {e : Err} (h : readExact d pos n = .error e) : e = .eof := by
  unfold readExact at h
  simp only at h
  split at h <;> cases h
  rfl

theorem subSpos_some {rs : Bool} {o sp z : Option Nat} {k : Nat} (h : subSpos rs o sp z = some k) :
    rs = false ∧ ∃ oo k0 zz, o = some oo ∧ sp = some k0 ∧ z = some zz ∧ k = k0 + zz := by
  unfold subSpos at h
  split at h
  · cases rs with
    | true => cases h
    | false => cases h; exact ⟨rfl, _, _, _, rfl, rfl, rfl, rfl⟩
  · cases h

section
variable (cfg : Cfg) (al : Bool) (salign start : Nat) (data : Bytes)

/-- running `plan` from `st` gives what the interpreted field loop from `(ipos, ibb)`, followed by the final alignment,
    gives, in the sense of `Sim` -/
def SimAt (plan : Plan) (fs : Fields) (offs : List (Option Nat)) (st : St) (ipos : Nat) (ibb : BitBuf) : Prop :=
  Sim (exec cfg salign start data plan fs st) (finR al salign (readFields cfg al fs offs start ibb st.ctx data ipos))

/-- the statements `is` are simulated from every state related to the interpreted reader's (`Inv`) -/
def SimFrom (is : Plan) : Prop :=
  ∀ fs offs vst st ipos ibb, planOKAux cfg al salign is fs offs vst = true →
    Inv start vst fs offs st.pos st.bb ipos ibb → SimAt cfg al salign start data is fs offs st ipos ibb

variable {cfg al salign start data} {fs : Fields} {offs : List (Option Nat)} {vst : VSt} {st : St} {ipos : Nat}
  {ibb : BitBuf} (hinv : Inv start vst fs offs st.pos st.bb ipos ibb)
include hinv

theorem sim_nil (hn : NoVoidHead fs) (hok : planOKAux cfg al salign [] fs offs vst = true) :
    SimAt cfg al salign start data [] fs offs st ipos ibb := by
  unfold SimAt
  cases fs with
  | cons name an ty bits rest => rw [planOKAux_nil_cons hn] at hok; cases hok
  | nil =>
    rw [planOKAux_nil] at hok
    simp only [Bool.and_eq_true, Bool.not_eq_true', Option.isNone_iff_eq_none] at hok
    obtain ⟨rfl, hla⟩ := hok
    have hp : ipos = st.pos := by
      have := hinv.pos
      rw [hla] at this
      exact this.resolve_left (by simp [nextStatic])
    rw [exec_nil, readFields_nil]
    exact Or.inr ⟨rfl, hp.symm, rfl⟩

theorem sim_alignCls (hn : NoVoidHead fs) (hok : planOKAux cfg al salign [.alignCls] fs offs vst = true) :
    SimAt cfg al salign start data [.alignCls] fs offs st ipos ibb := by
  unfold SimAt
  cases fs with
  | cons name an ty bits rest => rw [planOKAux_alignCls_cons hn] at hok; cases hok
  | nil =>
    rw [planOKAux_alignCls] at hok
    simp only [Bool.and_eq_true, Option.isNone_iff_eq_none] at hok
    obtain ⟨rfl, hla⟩ := hok
    have hp : ipos = st.pos := by
      have := hinv.pos
      rw [hla] at this
      exact this.resolve_left (by simp [nextStatic])
    rw [exec_alignCls hn, exec_nil, readFields_nil, hp]
    exact Or.inr ⟨rfl, rfl, rfl⟩

variable {is : Plan} (ih : SimFrom cfg al salign start data is)
include ih

theorem sim_seek {o : Nat} (hn : NoVoidHead fs) (hok : planOKAux cfg al salign (.seek o :: is) fs offs vst = true) :
    SimAt cfg al salign start data (.seek o :: is) fs offs st ipos ibb := by
  unfold SimAt
  rw [planOKAux_seek hn] at hok
  rw [exec_seek hn]
  by_cases hns : nextStatic fs offs = true
  · -- in front of a field with a layout offset: the interpreted reader seeks as well
    rw [if_pos hns] at hok
    exact ih fs offs _ { st with pos := start + o } ipos ibb hok
      ⟨(by intro k hk; cases hk; rfl), Or.inl hns, (by intro _ a ha; cases ha), hinv.unit, hinv.bb⟩
  · -- a seek to where the stream is
    rw [if_neg hns] at hok
    by_cases hsp : (vst.spos == some o) = true
    · rw [if_pos hsp] at hok
      rw [← hinv.spos o (by simpa using hsp)]
      exact ih fs offs vst st ipos ibb hok hinv
    · rw [if_neg hsp] at hok; cases hok

theorem sim_seek_none {o : Nat} (hd : dropVoids cfg al fs offs vst.spos = none)
    (hok : planOKAux cfg al salign (.seek o :: is) fs offs vst = true) :
    SimAt cfg al salign start data (.seek o :: is) fs offs st ipos ibb := by
  unfold SimAt
  rw [planOKAux_seek_none hd, Bool.and_eq_true] at hok
  rw [exec_seek_voids]
  exact ih fs offs _ { st with pos := start + o } ipos ibb hok.2
    ⟨(by intro k hk; cases hk; rfl), Or.inl hok.1, (by intro _ a ha; cases ha), hinv.unit, hinv.bb⟩

theorem sim_align {a : Nat} (hn : NoVoidHead fs) (hok : planOKAux cfg al salign (.align a :: is) fs offs vst = true) :
    SimAt cfg al salign start data (.align a :: is) fs offs st ipos ibb := by
  unfold SimAt
  rw [planOKAux_align hn] at hok
  rw [exec_align hn]
  split at hok
  · cases hok
  rename_i hc
  obtain ⟨hla, _⟩ : vst.lastAlign = none ∧ a ≠ 0 := by simpa using hc
  by_cases ha1 : a = 1
  · rw [if_pos ha1] at hok
    rw [ha1, padNat_one]
    exact ih fs offs vst st ipos ibb hok hinv
  · rw [if_neg ha1] at hok
    split at hok
    · cases hok
    -- the statement pads on the absolute position: the static offset is not known afterwards
    refine ih fs offs _ _ ipos ibb hok ⟨(by intro k hk; cases hk), ?_, (fun h => (h rfl).elim), hinv.unit, hinv.bb⟩
    refine hinv.pos.imp_right fun h => ?_
    rw [hla] at h
    rw [show ipos = st.pos from h]
    rfl

theorem sim_bitsReset (hok : planOKAux cfg al salign (.bitsReset :: is) fs offs vst = true) :
    SimAt cfg al salign start data (.bitsReset :: is) fs offs st ipos ibb := by
  unfold SimAt
  rw [planOKAux_bitsReset, Bool.and_eq_true] at hok
  rw [exec_bitsReset]
  refine ih fs offs _ _ ipos ibb hok.2 ⟨hinv.spos, hinv.pos, hinv.la, rfl, ?_⟩
  -- the interpreted reader drops its bit buffer when it reads the field under the cursor, which is not a bit-field
  show (if false = true then _ else _)
  rw [if_neg (by simp)]
  exact ⟨rfl, Or.inr hok.1⟩

theorem sim_sub {nm : String} (hn : NoVoidHead fs) (hok : planOKAux cfg al salign (.sub nm :: is) fs offs vst = true) :
    SimAt cfg al salign start data (.sub nm :: is) fs offs st ipos ibb := by
  unfold SimAt
  cases fs with
  | nil => rw [planOKAux_sub_nil] at hok; cases hok
  | cons name an ty bits rest =>
    cases bits with
    | some b => rw [planOKAux_sub_bits] at hok; cases hok
    | none =>
      rw [planOKAux_sub hn] at hok
      simp only [Bool.and_eq_true, beq_iff_eq, Bool.not_eq_true'] at hok
      obtain ⟨⟨⟨rfl, hd⟩, hpos⟩, hok⟩ := hok
      obtain ⟨hq, hso⟩ := posOK_pos hinv hpos
      have hbb := hinv.clean hd
      rw [exec_sub hn, readFields_nobits, hq]
      cases hr : read cfg ty st.ctx data st.pos with
      | error e => exact sim_err _ _
      | ok vp =>
        simp only [Except.bind]
        rw [finR_wrapR, hbb]
        refine sim_wrap _ _ _ rfl (ih rest _ _ { pos := vp.2, bb := BitBuf.empty, ctx := _ } vp.2 BitBuf.empty hok
          (Inv.sync fun k hk => ?_))
        -- the position after the member is known only for a member that consumes exactly its declared size
        obtain ⟨hns, o, k0, z, ho, hk0, hz, rfl⟩ := subSpos_some hk
        rw [static_size hns hz hr, hinv.spos k0 hk0, Nat.add_assoc]

theorem sim_bits {nm : String} {n : Nat} {via : Via} (hn : NoVoidHead fs)
    (hok : planOKAux cfg al salign (.bits nm n via :: is) fs offs vst = true) :
    SimAt cfg al salign start data (.bits nm n via :: is) fs offs st ipos ibb := by
  unfold SimAt
  cases fs with
  | nil => rw [planOKAux_bits_nil] at hok; cases hok
  | cons name an ty bits rest =>
    cases bits with
    | none => rw [planOKAux_bits_nobits hn] at hok; cases hok
    | some b =>
      obtain ⟨ft, fsz, hvia, hbb, hsz⟩ := planOKAux_bits_via hok
      rw [planOKAux_bits hvia hbb hsz] at hok
      simp only [Bool.and_eq_true, beq_iff_eq, bne_iff_ne] at hok
      obtain ⟨⟨⟨⟨⟨rfl, rfl⟩, hn0⟩, hpos⟩, _⟩, hok⟩ := hok
      obtain ⟨b', rfl⟩ : ∃ b', b = b' + 1 := ⟨b - 1, by omega⟩
      obtain ⟨hq, _⟩ := posOK_pos hinv hpos
      -- the interpreted reader's bit buffer is the compiled bit reader's
      obtain rfl : ibb = st.bb := by
        have := hinv.bb
        by_cases hd : vst.dirty = true
        · rw [if_pos hd] at this; exact this
        · rw [if_neg hd] at this
          rw [this.1]
          exact this.2.resolve_right (by simp [nonBitHead])
      rw [exec_bits hvia, readFields_bits _ _ _ _ _ _ _ _ _ _ _ _ _ hbb, hq]
      cases hl : loadUnit cfg ft st.bb data st.pos with
      | error e => exact sim_err _ _
      | ok r =>
        simp only [Except.bind]
        cases ht : r.1.take cfg.endian (b' + 1) with
        | none => exact sim_err _ _
        | some x =>
          dsimp only
          rw [finR_wrapR]
          exact sim_wrap _ _ _ rfl (ih rest _ _ { pos := r.2, bb := x.2, ctx := _ } r.2 x.2 hok (bits_inv hinv hl hsz ht))

theorem sim_block {size : Nat} {fmt : Option String} {slots : List Slot} (hn : NoVoidHead fs)
    (hok : planOKAux cfg al salign (.block size fmt slots :: is) fs offs vst = true) :
    SimAt cfg al salign start data (.block size fmt slots :: is) fs offs st ipos ibb := by
  unfold SimAt
  obtain ⟨hd, its, fs', offs', hfi, hso, hok⟩ := planOKAux_block_inv hn hok
  have hbb := hinv.clean hd
  rw [exec_block hn hfi]
  cases hre : readExact data st.pos size with
  | error e =>
    -- the block is read eagerly
    rw [readExact_error hre]
    exact sim_eof _
  | ok bp =>
    have hp : bp.2 = st.pos + size := readExact_pos hre
    simp only [Except.bind]
    cases slots with
    | nil =>
      -- a block without slots reads no field: a pending alignment stays pending
      rw [slotsOK_nil] at hso
      obtain ⟨rfl, rfl, rfl⟩ : fs = fs' ∧ offs = offs' ∧ 0 = size := by simpa using hso
      rw [slotsThen_nil]
      refine ih fs offs _ _ ipos ibb hok ⟨?_, by rw [hp]; exact hinv.pos, ?_, hbb, ?_⟩
      · intro k hk
        cases hs : vst.spos with
        | none => rw [hs] at hk; cases hk
        | some k0 => rw [hs] at hk; cases hk; rw [hp]; exact hinv.spos k0 hs
      · intro hs
        rw [hp]
        exact hinv.la fun h0 => hs (by rw [h0]; rfl)
      · have := hinv.bb
        rw [hd] at this
        exact this
    | cons sl rest =>
      refine slots_sim cfg al salign data bp.1 start st.pos size bp.2 its vst.spos vst.lastAlign _ hre hinv.spos hinv.la
        (sl :: rest) fs offs true 0 fs' offs' size st.ctx ipos ibb (fun _ h => by cases h) hso
        (by unfold SPre; rw [if_pos rfl]; exact ⟨rfl, hinv.pos⟩) fun ctx' => ?_
      rw [hbb, ← hp]
      refine ih fs' offs' _ { pos := bp.2, bb := BitBuf.empty, ctx := ctx' } bp.2 BitBuf.empty hok (Inv.sync fun k hk => ?_)
      cases hs : vst.spos with
      | none => rw [hs] at hk; cases hk
      | some k0 => rw [hs] at hk; cases hk; rw [hp, hinv.spos k0 hs, Nat.add_assoc]

theorem sim_step (i : Instr) (hn : NoVoidHead fs) (hok : planOKAux cfg al salign (i :: is) fs offs vst = true) :
    SimAt cfg al salign start data (i :: is) fs offs st ipos ibb := by
  unfold SimAt
  cases i with
  | seek o => exact sim_seek hinv ih hn hok
  | align a => exact sim_align hinv ih hn hok
  | alignCls =>
    cases is with
    | nil => exact sim_alignCls hinv hn hok
    | cons _ _ => rw [planOKAux_alignCls_more] at hok; cases hok
  | bitsReset => exact sim_bitsReset hinv ih hok
  | sub nm => exact sim_sub hinv ih hn hok
  | bits nm n via => exact sim_bits hinv ih hn hok
  | block size fmt slots => exact sim_block hinv ih hn hok

end

theorem sim_norm {cfg : Cfg} {al : Bool} {salign start : Nat} {data : Bytes} (plan : Plan)
    (hh : plan.head? ≠ some .bitsReset) {vst : VSt}
    (hstep : ∀ fs offs st ipos ibb, NoVoidHead fs → planOKAux cfg al salign plan fs offs vst = true →
      Inv start vst fs offs st.pos st.bb ipos ibb → SimAt cfg al salign start data plan fs offs st ipos ibb)
    {fs : Fields} {offs : List (Option Nat)} {st : St} {ipos : Nat} {ibb : BitBuf} {fs' : Fields}
    {offs' : List (Option Nat)} {sk : Bool} (hd : dropVoids cfg al fs offs vst.spos = some (fs', offs', sk))
    (hok : planOKAux cfg al salign plan fs offs vst = true) (hinv : Inv start vst fs offs st.pos st.bb ipos ibb) :
    SimAt cfg al salign start data plan fs offs st ipos ibb := by
  unfold SimAt
  have key : ¬(sk = true ∧ vst.dirty = true) ∧ planOKAux cfg al salign plan fs' offs' vst = true := by
    cases hdd : vst.dirty with
    | false => exact ⟨by simp, by rw [← planOKAux_dropVoids hh hdd hd]; exact hok⟩
    | true =>
      cases sk with
      | true => rw [planOKAux_dirty_void hh hdd hd] at hok; cases hok
      | false =>
        obtain ⟨rfl, rfl⟩ := dropVoids_not_skipped cfg al fs offs _ hd
        exact ⟨by simp, hok⟩
  obtain ⟨ctx', k, zs, ipos', ibb', hsk, hz, hrf, hinv'⟩ :=
    dropVoids_sim cfg al data start vst st.pos st.bb fs offs _ _ _ _ st.ctx ipos ibb rfl hd hinv key.1
  rw [exec_absorb cfg salign start data plan fs st _ _ _ hsk]
  exact sim_skip hz hrf
    (hstep fs' offs' { st with ctx := ctx' } ipos' ibb' (dropVoids_noVoid cfg al fs offs _ hd) key.2 hinv')

theorem sim_plan (cfg : Cfg) (al : Bool) (salign start : Nat) (data : Bytes) :
    ∀ plan, SimFrom cfg al salign start data plan
  | [] => fun fs offs vst st ipos ibb hok hinv => by
    cases hd : dropVoids cfg al fs offs vst.spos with
    | none => rw [planOKAux_none (by simp) (by simp) hd] at hok; cases hok
    | some r => exact sim_norm [] (by simp) (fun _ _ _ _ _ hn hok hinv => sim_nil hinv hn hok) hd hok hinv
  | i :: is => fun fs offs vst st ipos ibb hok hinv => by
    have ih := sim_plan cfg al salign start data is
    by_cases hr : i = .bitsReset
    · subst hr; exact sim_bitsReset hinv ih hok
    cases hd : dropVoids cfg al fs offs vst.spos with
    | some r =>
      exact sim_norm (i :: is) (by simpa using hr) (fun _ _ _ _ _ hn hok hinv => sim_step hinv ih i hn hok) hd hok hinv
    | none =>
      cases i with
      | seek o => exact sim_seek_none hinv ih hd hok
      | bitsReset => exact absurd rfl hr
      | align _ | alignCls | sub _ | bits _ _ _ | block _ _ _ =>
        rw [planOKAux_none (by simp) (by simp) hd] at hok; cases hok

end Cstruct.Compiler
