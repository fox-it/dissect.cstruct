/-
  Null-terminated arrays: reading back what `_write_0` wrote, and what the round-trip corollaries need from fragment D
  (`Proofs/CoreDyn.lean`).
-/
import Proofs.Lemmas.C07Null
import Proofs.CoreDyn
namespace Cstruct.C07.Lemmas
open Cstruct Cstruct.C07 Cstruct.Core.Lemmas

theorem reads_of_writeN (cfg : Cfg) (e : Ty) (ctx : Ctx) :
    ∀ (vs : List Val) (pos : Nat) (body : Bytes), writeN cfg e (Vals.ofList vs) pos = .ok body →
      (∀ v ∈ vs, ∀ p b, write cfg e v p = .ok b → ∀ pre' post' : Bytes, pre'.length = p →
        read cfg e ctx (pre' ++ b ++ post') p = .ok (v, p + b.length)) →
      ∀ pre post : Bytes, pre.length = pos →
        Reads (read cfg e ctx (pre ++ body ++ post)) pos vs (pos + body.length)
  | [], pos, body, hw, _, pre, post, _ => by
    rw [Vals.ofList, writeN_nil] at hw
    cases hw
    exact .nil
  | v :: vs, pos, body, hw, hrt, pre, post, hpre => by
    rw [Vals.ofList, writeN_cons] at hw
    obtain ⟨a, h1, h2⟩ := bind_ok hw
    obtain ⟨b, h3, h4⟩ := bind_ok h2
    cases h4
    have hr := hrt v (List.mem_cons_self ..) pos a h1 pre (b ++ post) hpre
    have hrest := reads_of_writeN cfg e ctx vs (pos + a.length) b h3 (fun x hx => hrt x (List.mem_cons_of_mem _ hx))
      (pre ++ a) post (by rw [List.length_append, hpre])
    have e1 : pre ++ (a ++ b) ++ post = pre ++ a ++ (b ++ post) := by simp only [List.append_assoc]
    have e2 : pre ++ (a ++ b) ++ post = pre ++ a ++ b ++ post := by simp only [List.append_assoc]
    refine .cons (p' := pos + a.length) (by rw [e1]; exact hr) ?_
    rw [e2, List.length_append, ← Nat.add_assoc]
    exact hrest

/-- `z` is any terminator, not only the one `_write_0` appends, and `rest` is arbitrary: a list that contains a
    terminator is read back only up to it -/
theorem read_null_written (cfg : Cfg) (e : Ty) (ctx : Ctx) (xs : List Val) (z : Val) (pos : Nat) (bx bz : Bytes)
    (he : nullLoopElem e = true) (hc : ∀ a, e ≠ .sc .char a) (hwc : ∀ a, e ≠ .sc .wchar a)
    (hx : writeN cfg e (Vals.ofList xs) pos = .ok bx) (hz : write cfg e z (pos + bx.length) = .ok bz)
    (hrt : ∀ v, (v ∈ xs ∨ v = z) → ∀ p b, write cfg e v p = .ok b → ∀ pre' post' : Bytes, pre'.length = p →
      read cfg e ctx (pre' ++ b ++ post') p = .ok (v, p + b.length))
    (hnt : ∀ v ∈ xs, isTerminator e v = false) (hzt : isTerminator e z = true)
    (pre rest : Bytes) (hpre : pre.length = pos) (hlen : xs.length ≤ bx.length + bz.length + rest.length + 1) :
    read cfg (.arr e .nullTerm) ctx (pre ++ bx ++ bz ++ rest) pos =
      .ok (.list (Vals.ofList xs), pos + bx.length + bz.length) := by
  rw [read_null_ok_iff cfg e ctx _ pos he, elemRead_eq_read cfg hwc]
  refine ⟨xs, ⟨pos + bx.length, z, ?_, hnt, ?_, hzt⟩, ?_, packElems_list cfg hc hwc xs⟩
  · rw [List.append_assoc (pre ++ bx)]
    exact reads_of_writeN cfg e ctx xs pos bx hx (fun v hv => hrt v (.inl hv)) pre _ hpre
  · exact hrt z (.inr rfl) _ _ hz (pre ++ bx) rest (by rw [List.length_append, hpre])
  · simp only [List.length_append, hpre]
    omega

theorem writeN_length_ge (cfg : Cfg) (e : Ty) : ∀ (vs : List Val) (pos : Nat) (body : Bytes),
    writeN cfg e (Vals.ofList vs) pos = .ok body →
    (∀ v ∈ vs, ∀ p b, write cfg e v p = .ok b → 1 ≤ b.length) → vs.length ≤ body.length := by
  intro vs
  induction vs with
  | nil => intro pos body _ _; simp
  | cons v vs ih =>
    intro pos body hw h
    simp only [Vals.ofList] at hw
    rw [Core.Lemmas.writeN_cons] at hw
    obtain ⟨a, h1, h2⟩ := Core.Lemmas.bind_ok hw
    obtain ⟨b, h3, h4⟩ := Core.Lemmas.bind_ok h2
    cases h4
    have := h v (List.mem_cons_self ..) pos a h1
    have := ih _ _ h3 (fun x hx => h x (List.mem_cons_of_mem _ hx))
    simp only [List.length_cons, List.length_append]
    omega

theorem default_scalar (cfg : Cfg) (ctx : Ctx) (e : Ty) (he : scalarElem e = true)
    (hc : ∀ a, e ≠ .sc .char a) (hwc : ∀ a, e ≠ .sc .wchar a) :
    Core.HasTyD cfg ctx (e.default cfg) e ∧ isTerminator e (e.default cfg) = true := by
  cases e with
  | sc s a =>
    cases s with
    | pint n sg => exact ⟨by rw [Ty.default]; exact .int rfl (Core.Lemmas.fits_zero n sg), by simp [Ty.default, scalarDefault, isTerminator]⟩
    | aint n sg => exact ⟨by rw [Ty.default]; exact .int rfl (Core.Lemmas.fits_zero n sg), by simp [Ty.default, scalarDefault, isTerminator]⟩
    | leb sg => exact ⟨by rw [Ty.default]; exact .leb (fun _ => Int.le_refl 0), by simp [Ty.default, scalarDefault, isTerminator]⟩
    | pflt n => exact ⟨by rw [Ty.default]; exact .flt (Nat.pow_pos (by omega)), by simp [Ty.default, scalarDefault, isTerminator]⟩
    | char => exact absurd rfl (hc a)
    | wchar => exact absurd rfl (hwc a)
    | void => simp [scalarElem] at he
  | enum b a fl =>
    have hb : Scalar.isInt b = true := by simpa [scalarElem] using he
    exact ⟨by rw [Ty.default]; exact .enum (Core.Lemmas.intFits_zero b hb), by simp [Ty.default, isTerminator]⟩
  | _ => simp [scalarElem] at he

theorem fragD_scalar (cfg : Cfg) (e : Ty) (he : scalarElem e = true) :
    e.fragD cfg = true ∧ e.uniformAlign false = true := by
  cases e with
  | sc s a => exact ⟨by simp [Ty.fragD], by simp [Ty.uniformAlign]⟩
  | enum b a fl => exact ⟨by simpa [Ty.fragD, scalarElem] using he, by simp [Ty.uniformAlign]⟩
  | _ => simp [scalarElem] at he

end Cstruct.C07.Lemmas
