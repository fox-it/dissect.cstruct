/-
  C16 (pointers): reading a pointer-sized unsigned integer at an address (`read_uptr`), on which the dereference
  theorems of `Proofs/C16.lean` rest.
-/
import CstructModel.Pointer
import Proofs.Core
namespace Cstruct.C16.Lemmas
open Cstruct Cstruct.Pointer Cstruct.Core Cstruct.Core.Lemmas

theorem decodeInt_unsigned (e : Endian) (bs : Bytes) : decodeInt e false bs = (decodeNat e bs : Int) := by
  simp [decodeInt]

theorem readScalar_uptr (cfg : Cfg) (n : Nat) (hp : cfg.ptr = .pint n false ∨ cfg.ptr = .aint n false)
    (d : Bytes) (pos : Nat) :
    readScalar cfg cfg.ptr d pos =
      if (sread d pos n).length = n then .ok (.int (decodeNat cfg.endian (sread d pos n) : Int), pos + n)
      else .error .eof := by
  by_cases hl : (sread d pos n).length = n
  · rw [if_pos hl]
    rcases hp with hp | hp <;> rw [hp] <;> simp only [readScalar] <;> rw [readExact_of_len hl] <;>
      simp only [bind, Except.bind, pure, Except.pure, decodeInt_unsigned]
  · rw [if_neg hl]
    have : readExact d pos n = .error .eof := by unfold readExact; simp [hl]
    rcases hp with hp | hp <;> rw [hp] <;> simp only [readScalar] <;> rw [this] <;> rfl

theorem size_uptr (cfg : Cfg) (n : Nat) (hp : cfg.ptr = .pint n false ∨ cfg.ptr = .aint n false) (t : Ty) :
    (Ty.ptr t).size cfg = some n := by
  simp only [Ty.size]
  rcases hp with hp | hp <;> rw [hp] <;> rfl

theorem sread_eq (d : Bytes) (pos n : Nat) : sread d pos n = (d.drop pos).take n := rfl

theorem read_uptr (cfg : Cfg) (n : Nat) (hp : cfg.ptr = .pint n false ∨ cfg.ptr = .aint n false)
    (t : Ty) (ctx : Ctx) (d : Bytes) (pos : Nat) :
    read cfg (.ptr t) ctx d pos =
      if (sread d pos n).length = n then .ok (.ptr (decodeNat cfg.endian (sread d pos n) : Int), pos + n)
      else .error .eof := by
  rw [read_ptr, readScalar_uptr cfg n hp]
  by_cases hl : (sread d pos n).length = n
  · rw [if_pos hl, if_pos hl]; rfl
  · rw [if_neg hl, if_neg hl]; rfl

theorem readPtr_uptr (cfg : Cfg) (n : Nat) (hp : cfg.ptr = .pint n false ∨ cfg.ptr = .aint n false)
    (t : Ty) (d : Bytes) (pos : Nat) :
    readPtr cfg t d pos =
      if (sread d pos n).length = n then
        .ok ({ addr := (decodeNat cfg.endian (sread d pos n) : Int), stream := some d, target := t, cache := none }, pos + n)
      else .error .eof := by
  unfold readPtr
  rw [readScalar_uptr cfg n hp]
  by_cases hl : (sread d pos n).length = n
  · rw [if_pos hl, if_pos hl]
  · rw [if_neg hl, if_neg hl]

end Cstruct.C16.Lemmas
