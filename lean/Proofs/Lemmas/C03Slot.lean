/-
  The value a slot of a block assigns is the value the interpreted reader reads for that field from the
  block's window of the input (`slot_read`).
-/
import Proofs.Lemmas.C03Base
namespace Cstruct.Compiler
open Cstruct Cstruct.Core.Lemmas

def slotRes (r : Except Err Val) (p : Nat) : Except Err (Val × Nat) :=
  match r with
  | .ok v => .ok (v, p)
  | .error e => .error e

theorem chunks_eq_splitEvery (n : Nat) : ∀ (k : Nat) (bs : Bytes), chunks n k bs = splitEvery n k bs
  | 0, _ => rfl
  | k + 1, bs => by rw [chunks, splitEvery, chunks_eq_splitEvery n k]

theorem mapEnum_ofList_map {α} (g : α → Int) (l : List α) :
    (Vals.ofList (l.map fun x => Val.int (g x))).mapEnum = Vals.ofList (l.map fun x => Val.enum (g x)) := by
  induction l with
  | nil => rfl
  | cons a r ih => simp only [List.map_cons, Vals.ofList, Vals.mapEnum, ih]

theorem mapEnum_ofList_int (l : List Int) : (Vals.ofList (l.map Val.int)).mapEnum = Vals.ofList (l.map Val.enum) :=
  mapEnum_ofList_map (fun x => x) l

theorem mapM'_ok {α β} (f : α → Except Err β) (g : α → β) : ∀ (l : List α), (∀ x ∈ l, f x = .ok (g x)) →
    mapM' f l = .ok (l.map g) := by
  intro l
  induction l with
  | nil => intro _; rfl
  | cons a r ih =>
    intro h
    simp only [mapM', h a (List.mem_cons_self ..), ih (fun x hx => h x (List.mem_cons_of_mem _ hx)), List.map_cons]

theorem itemsAre_take (items : List Item) (s : Scalar) (sz : Nat) : ∀ (k i a : Nat), itemsAre items s sz i k a = true →
    (items.drop i).take k = replicateItems s sz k a := by
  intro k
  induction k with
  | zero => intro i a _; simp [replicateItems]
  | succ k ih =>
    intro i a h
    rw [itemsAre] at h
    cases hi : items[i]? with
    | none => rw [hi] at h; cases h
    | some it =>
      rw [hi] at h
      simp only [Bool.and_eq_true, beq_iff_eq] at h
      obtain ⟨⟨⟨h1, h2⟩, h3⟩, h4⟩ := h
      obtain ⟨hlt, rfl⟩ := List.getElem?_eq_some_iff.mp hi
      rw [List.drop_eq_getElem_cons hlt, List.take_succ_cons, ih (i + 1) (a + sz) h4, replicateItems, ← h1, ← h2, ← h3]

theorem splitEvery_slice_cons (buf : Bytes) (n k a : Nat) :
    splitEvery n (k + 1) (slice buf a (a + n * (k + 1))) =
      slice buf a (a + n) :: splitEvery n k (slice buf (a + n) (a + n + n * k)) := by
  rw [splitEvery, Nat.mul_succ, Nat.add_comm (n * k) n, slice_take buf a n (n + n * k) (Nat.le_add_right ..), slice_drop]

theorem mapM'_items (buf : Bytes) (f : Item → Except Err Val) (s : Scalar) (sz : Nat) (g : Bytes → Val)
    (hf : ∀ off, f ⟨s, off, sz⟩ = .ok (g (slice buf off (off + sz)))) : ∀ (k a : Nat),
    mapM' f (replicateItems s sz k a) = .ok ((splitEvery sz k (slice buf a (a + sz * k))).map g)
  | 0, _ => rfl
  | k + 1, a => by
    rw [splitEvery_slice_cons, replicateItems, mapM', hf, mapM'_items buf f s sz g hf k (a + sz)]
    rfl

theorem readN_win (cfg : Cfg) (e : Ty) (ctx : Ctx) (data buf : Bytes) (n : Nat) (g : Bytes → Val)
    (he : ∀ pos bs p, readExact data pos n = .ok (bs, p) → read cfg e ctx data pos = .ok (g bs, p)) :
    ∀ (k q a : Nat), Win data buf q a (n * k) →
      readN cfg e k ctx data q = .ok (Vals.ofList ((splitEvery n k (slice buf a (a + n * k))).map g), q + n * k)
  | 0, q, a, _ => by rw [readN_zero]; rfl
  | k + 1, q, a, hw => by
    have hle : n + n * k ≤ n * (k + 1) := by rw [Nat.mul_succ]; omega
    have h1 := hw 0 n (by omega)
    rw [Nat.add_zero, Nat.add_zero] at h1
    rw [readN_succ, splitEvery_slice_cons, he _ _ _ h1]
    simp only [Except.bind, readN_win cfg e ctx data buf n g he k (q + n) (a + n) (win_shift hw n (n * k) hle),
      List.map_cons, Vals.ofList]
    rw [show q + n * (k + 1) = q + n + n * k by rw [Nat.mul_succ]; omega]

/-- the three shapes of a validated slot -/
inductive SlotShape (items : List Item) (sl : Slot) (s : Scalar) (esz : Nat) (a0 b0 : Nat) : Option Nat → Prop
  | one (i : Nat) (it : Item) : isPacked s = true → sl.src = .data1 i → items[i]? = some it → it.sc = s → it.off = a0 →
      b0 = a0 + esz → SlotShape items sl s esz a0 b0 none
  | many (i k : Nat) : isPacked s = true → sl.src = .dataN i (i + k) → (items.drop i).take k = replicateItems s esz k a0 →
      b0 = a0 + esz * k → SlotShape items sl s esz a0 b0 (some k)
  | bytes (cnt : Option Nat) : isPacked s = false → sl.src = .buf a0 b0 → b0 = a0 + esz * cnt.getD 1 →
      SlotShape items sl s esz a0 b0 cnt

theorem slotRange_inv {cfg : Cfg} {ty : Ty} {items : List Item} {sl : Slot} {cur a0 b0 : Nat}
    (h : slotRange cfg ty items sl cur = some (a0, b0)) :
    ∃ s cnt d esz, readType cfg ty = some (s, cnt) ∧ expectDec cfg ty = some d ∧ sl.dec = d ∧ s.size = some esz ∧
      SlotShape items sl s esz a0 b0 cnt := by
  unfold slotRange at h
  cases hrt : readType cfg ty with
  | none => simp only [hrt] at h; cases h
  | some sc =>
    obtain ⟨s, cnt⟩ := sc
    cases hed : expectDec cfg ty with
    | none => simp only [hrt, hed] at h; cases h
    | some d =>
      simp only [hrt, hed] at h
      by_cases hdec : sl.dec = d
      case neg => rw [if_pos hdec] at h; cases h
      rw [if_neg (not_not_intro hdec)] at h
      cases hes : s.size with
      | none => simp only [hes] at h; cases h
      | some esz =>
        refine ⟨s, cnt, d, esz, rfl, rfl, hdec, hes, ?_⟩
        simp only [hes] at h
        cases hp : isPacked s with
        | false =>
          simp only [hp, Bool.false_eq_true, if_false] at h
          cases hsrc : sl.src with
          | buf a b =>
            simp only [hsrc] at h
            split at h
            · rename_i hb
              cases h
              exact .bytes cnt hp hsrc hb
            · cases h
          | data1 i => simp only [hsrc] at h; cases h
          | dataN i j => simp only [hsrc] at h; cases h
        | true =>
          simp only [hp, if_true] at h
          cases hsrc : sl.src with
          | buf a b => simp only [hsrc] at h; cases h
          | data1 i =>
            cases cnt with
            | some k => simp only [hsrc] at h; cases h
            | none =>
              simp only [hsrc] at h
              cases hit : items[i]? with
              | none => simp only [hit] at h; cases h
              | some it =>
                simp only [hit] at h
                split at h
                · rename_i hc
                  simp only [Bool.and_eq_true, beq_iff_eq] at hc
                  cases h
                  exact .one i it hp hsrc hit hc.1 rfl rfl
                · cases h
          | dataN i j =>
            cases cnt with
            | none => simp only [hsrc] at h; cases h
            | some k =>
              simp only [hsrc] at h
              split at h
              · cases h
              rename_i hj
              obtain rfl : j = i + k := by simpa using hj
              split at h
              · rename_i hk
                cases h
                subst hk
                exact .many i 0 hp hsrc (by simp [replicateItems]) (by simp)
              · cases hit : items[i]? with
                | none => simp only [hit] at h; cases h
                | some it =>
                  simp only [hit] at h
                  split at h
                  · rename_i hia
                    cases h
                    exact .many i k hp hsrc (itemsAre_take items s esz k i it.off hia) (by simp)
                  · cases h

theorem decodeWchar_nil (e : Endian) : decodeWchar e [] = .ok (.wstr []) := by
  simp [decodeWchar, unitsOf, utf16Ok]

theorem readArray_sc (cfg : Cfg) (s : Scalar) (a n : Nat) (ctx : Ctx) (data : Bytes) (q : Nat) :
    readArray cfg (.sc s a) n ctx data q =
      match readScalarArray cfg s n data q with
      | some r => r
      | none => (readN cfg (.sc s a) n ctx data q).map fun (vs, p) => (.list vs, p) := by
  rw [readArray]
  rfl

theorem readArray_enum_bulk (cfg : Cfg) (b : Scalar) (a : Nat) (fl : Bool) (n : Nat) (ctx : Ctx) {data : Bytes} {q : Nat}
    {vs : Vals} {p : Nat}
    (h : readScalarArray cfg b n data q = some (.ok (.list vs, p))) :
    readArray cfg (.enum b a fl) n ctx data q = .ok (.list vs.mapEnum, p) := by
  rw [readArray, h]

theorem readArray_enum_loop (cfg : Cfg) (b : Scalar) (a : Nat) (fl : Bool) (n : Nat) (ctx : Ctx) {data : Bytes} {q : Nat}
    (h : readScalarArray cfg b n data q = none) :
    readArray cfg (.enum b a fl) n ctx data q =
      match readN cfg (.sc b a) n ctx data q with
      | .ok (vs, p) => .ok (.list vs.mapEnum, p)
      | .error e => .error e := by
  rw [readArray, h]
  rfl

theorem readArray_ptr (cfg : Cfg) (t : Ty) (n : Nat) (ctx : Ctx) (data : Bytes) (q : Nat) :
    readArray cfg (.ptr t) n ctx data q = (readN cfg (.ptr t) n ctx data q).map fun (vs, p) => (.list vs, p) := by
  rw [readArray]
  · intros; contradiction
  · intros; contradiction

-- In each `slot_*` lemma `d` is the decoder the validator expects for the type (`hed`, decided by computation once the
-- scalar is known), `sl.dec = d`, and the slot has one of the three shapes of `slotRange_inv`.

section
variable (cfg : Cfg) (items : List Item) (sl : Slot) (buf data : Bytes) (ctx : Ctx) {d : Dec} {esz a0 b0 q : Nat}
  (hdec : sl.dec = d)
include hdec

theorem slot_sc (s : Scalar) (al : Nat) (hed : expectDec cfg (.sc s al) = some d) (hes : s.size = some esz)
    (hsh : SlotShape items sl s esz a0 b0 none) (hw : Win data buf q a0 esz) :
    read cfg (.sc s al) ctx data q = slotRes (slotVal cfg (.sc s al) buf items sl) (q + esz) := by
  have hrd := win_read hw
  rw [read_sc]
  cases s <;> cases hed <;> cases hes
  case pint | pflt =>
    cases hsh with
    | one i it hp hsrc hit hsc hoff hb0 =>
      subst hoff
      simp only [readScalar, hrd, bind, Except.bind, pure, Except.pure, slotVal, hdec, hsrc, hit, itemVal, hsc, wrapNum,
        slotRes]
    | bytes _ hp => cases hp
  case aint | char =>
    cases hsh with
    | one i it hp => cases hp
    | bytes _ hp hsrc hb0 =>
      subst hb0
      simp only [readScalar, hrd, bind, Except.bind, pure, Except.pure, slotVal, hdec, hsrc, slotRes, Option.getD_none,
        Nat.mul_one]
  case wchar =>
    cases hsh with
    | one i it hp => cases hp
    | bytes _ hp hsrc hb0 =>
      subst hb0
      simp only [readScalar, hrd, bind, Except.bind, pure, Except.pure, slotVal, hdec, hsrc, slotRes, Option.getD_none,
        Nat.mul_one]
      cases decodeWchar cfg.endian (slice buf a0 (a0 + 2)) <;> rfl

theorem slot_enum (b : Scalar) (al : Nat) (fl : Bool) (hed : expectDec cfg (.enum b al fl) = some d)
    (hes : b.size = some esz) (hsh : SlotShape items sl b esz a0 b0 none) (hw : Win data buf q a0 esz) :
    read cfg (.enum b al fl) ctx data q = slotRes (slotVal cfg (.enum b al fl) buf items sl) (q + esz) := by
  have hrd := win_read hw
  rw [read_enum]
  cases b <;> cases hed <;> cases hes
  case pint =>
    cases hsh with
    | one i it hp hsrc hit hsc hoff hb0 =>
      subst hoff
      simp only [readScalar, hrd, bind, Except.bind, pure, Except.pure, slotVal, hdec, hsrc, hit, itemVal, hsc, wrapNum,
        slotRes, wrapInt, isIntBase, if_true]
    | bytes _ hp => cases hp
  case aint =>
    cases hsh with
    | one i it hp => cases hp
    | bytes _ hp hsrc hb0 =>
      subst hb0
      simp only [readScalar, hrd, bind, Except.bind, pure, Except.pure, slotVal, hdec, hsrc, slotRes, wrapInt,
        Option.getD_none, Nat.mul_one]

theorem slot_ptr (t : Ty) (hed : expectDec cfg (.ptr t) = some d) (hes : cfg.ptr.size = some esz)
    (hsh : SlotShape items sl cfg.ptr esz a0 b0 none) (hw : Win data buf q a0 esz) :
    read cfg (.ptr t) ctx data q = slotRes (slotVal cfg (.ptr t) buf items sl) (q + esz) := by
  have hrd := win_read hw
  rw [read_ptr]
  unfold expectDec readType at hed
  cases hp : cfg.ptr <;> rw [hp] at hed hes hsh <;> cases hed <;> cases hes
  case pint =>
    cases hsh with
    | one i it hp hsrc hit hsc hoff hb0 =>
      subst hoff
      simp only [readScalar, hrd, bind, Except.bind, pure, Except.pure, slotVal, hdec, hsrc, hit, itemVal, hsc, slotRes,
        wrapInt]
    | bytes _ hp => cases hp

theorem slot_arr_sc (s : Scalar) (al k : Nat) (hed : expectDec cfg (.arr (.sc s al) (.fixed k)) = some d)
    (hes : s.size = some esz) (hsh : SlotShape items sl s esz a0 b0 (some k)) (hw : Win data buf q a0 (esz * k)) :
    read cfg (.arr (.sc s al) (.fixed k)) ctx data q =
      slotRes (slotVal cfg (.arr (.sc s al) (.fixed k)) buf items sl) (q + esz * k) := by
  have hrd := win_read hw
  rw [read_arr_fixed, readArray_sc]
  cases s <;> cases hed <;> cases hes
  case pint sg =>
    cases hsh with
    | many i k hp hsrc hit hb0 =>
      simp only [readScalarArray, hrd, bind, Except.bind, pure, Except.pure, slotVal, hdec, hsrc,
        Nat.add_sub_cancel_left, hit, slotRes]
      rw [mapM'_items buf _ _ _ (fun c => .int (decodeInt cfg.endian sg c)) (fun off => rfl)]
      simp only [Vals.ofInts, List.map_map]
      rfl
    | bytes _ hp => cases hp
  case pflt =>
    cases hsh with
    | many i k hp hsrc hit hb0 =>
      simp only [readScalarArray, hrd, bind, Except.bind, pure, Except.pure, slotVal, hdec, hsrc,
        Nat.add_sub_cancel_left, hit, slotRes]
      rw [mapM'_items buf _ _ _ (fun c => .flt (decodeNat cfg.endian c)) (fun off => rfl)]
    | bytes _ hp => cases hp
  case aint sg =>
    cases hsh with
    | many i k hp => cases hp
    | bytes _ hp hsrc hb0 =>
      subst hb0
      simp only [readScalarArray, slotVal, hdec, hsrc, slotRes, if_true, Option.getD_some]
      rw [readN_win cfg (.sc (.aint esz sg) al) ctx data buf esz (fun bs => .int (decodeInt cfg.endian sg bs)) ?_ k q a0 hw]
      · simp only [Except.map, chunks_eq_splitEvery]
      · intro pos bs p h
        rw [read_sc]
        simp only [readScalar, h, bind, Except.bind, pure, Except.pure]
  case char =>
    cases hsh with
    | many i k hp => cases hp
    | bytes _ hp hsrc hb0 =>
      subst hb0
      simp only [readScalarArray, slotVal, hdec, hsrc, slotRes, Option.getD_some]
      by_cases hk : k = 0
      · subst hk; simp [slice_self]
      · rw [Nat.one_mul] at hrd
        simp only [hk, if_false, bind, Except.bind, pure, Except.pure, hrd, Nat.one_mul]
  case wchar =>
    cases hsh with
    | many i k hp => cases hp
    | bytes _ hp hsrc hb0 =>
      subst hb0
      simp only [readScalarArray, slotVal, hdec, hsrc, slotRes, Option.getD_some]
      by_cases hk : k = 0
      · subst hk; simp [slice_self, decodeWchar_nil]
      · simp only [hk, if_false, bind, Except.bind, pure, Except.pure, hrd]
        cases decodeWchar cfg.endian (slice buf a0 (a0 + 2 * k)) <;> rfl

theorem slot_arr_enum (s : Scalar) (al : Nat) (fl : Bool) (k : Nat)
    (hed : expectDec cfg (.arr (.enum s al fl) (.fixed k)) = some d) (hes : s.size = some esz)
    (hsh : SlotShape items sl s esz a0 b0 (some k)) (hw : Win data buf q a0 (esz * k)) :
    read cfg (.arr (.enum s al fl) (.fixed k)) ctx data q =
      slotRes (slotVal cfg (.arr (.enum s al fl) (.fixed k)) buf items sl) (q + esz * k) := by
  have hrd := win_read hw
  rw [read_arr_fixed]
  cases s <;> cases hed <;> cases hes
  case pint sg =>
    cases hsh with
    | many i k hp hsrc hit hb0 =>
      rw [readArray_enum_bulk cfg _ al fl k ctx
        (vs := Vals.ofInts ((splitEvery esz k (slice buf a0 (a0 + esz * k))).map (decodeInt cfg.endian sg)))
        (p := q + esz * k)]
      · simp only [slotVal, hdec, hsrc, Nat.add_sub_cancel_left, hit, slotRes]
        rw [mapM'_items buf _ _ _ (fun c => .enum (decodeInt cfg.endian sg c)) (fun off => rfl)]
        simp only [Vals.ofInts, List.map_map]
        exact congrArg (fun x => Except.ok (Val.list x, q + esz * k)) (mapEnum_ofList_map (decodeInt cfg.endian sg) _)
      · simp only [readScalarArray, hrd, bind, Except.bind, pure, Except.pure]
    | bytes _ hp => cases hp
  case aint sg =>
    cases hsh with
    | many i k hp => cases hp
    | bytes _ hp hsrc hb0 =>
      subst hb0
      rw [readArray_enum_loop cfg _ al fl k ctx rfl,
        readN_win cfg (.sc (.aint esz sg) al) ctx data buf esz (fun bs => .int (decodeInt cfg.endian sg bs)) ?_ k q a0 hw]
      · simp only [slotVal, hdec, hsrc, slotRes, if_true, Option.getD_some, chunks_eq_splitEvery, mapEnum_ofList_map]
      · intro pos bs p h
        rw [read_sc]
        simp only [readScalar, h, bind, Except.bind, pure, Except.pure]

theorem slot_arr_ptr (t : Ty) (k : Nat) (hed : expectDec cfg (.arr (.ptr t) (.fixed k)) = some d)
    (hes : cfg.ptr.size = some esz) (hsh : SlotShape items sl cfg.ptr esz a0 b0 (some k))
    (hw : Win data buf q a0 (esz * k)) :
    read cfg (.arr (.ptr t) (.fixed k)) ctx data q =
      slotRes (slotVal cfg (.arr (.ptr t) (.fixed k)) buf items sl) (q + esz * k) := by
  rw [read_arr_fixed, readArray_ptr]
  unfold expectDec readType at hed
  cases hp : cfg.ptr <;> rw [hp] at hed hes hsh <;> cases hed <;> cases hes
  case pint sg =>
    cases hsh with
    | many i k hp' hsrc hit hb0 =>
      simp only [slotVal, hdec, hsrc, Nat.add_sub_cancel_left, hit, slotRes]
      rw [mapM'_items buf _ _ _ (fun c => .ptr (decodeInt cfg.endian sg c)) (fun off => rfl),
        readN_win cfg (.ptr t) ctx data buf esz (fun bs => .ptr (decodeInt cfg.endian sg bs)) ?_ k q a0 hw]
      · simp only [Except.map]
      · intro pos bs p h
        rw [read_ptr, hp]
        simp only [readScalar, h, bind, Except.bind, pure, Except.pure, wrapInt]
    | bytes _ hp => cases hp

end

/-- for a slot the validator accepts for a field of type `ty`, the interpreted reader, reading the field from the window
    of the input the slot covers, returns the slot's value (or raises the same exception) and ends at the end of the window -/
theorem slot_read (cfg : Cfg) (ty : Ty) (items : List Item) (sl : Slot) (cur a0 b0 fsize : Nat) (buf data : Bytes) (q : Nat)
    (ctx : Ctx) (hr : slotRange cfg ty items sl cur = some (a0, b0)) (hsz : ty.size cfg = some fsize)
    (hw : Win data buf q a0 fsize) :
    read cfg ty ctx data q = slotRes (slotVal cfg ty buf items sl) (q + fsize) := by
  obtain ⟨s, cnt, d, esz, hrt, hed, hdec, hes, hsh⟩ := slotRange_inv hr
  cases ty with
  | sc s al =>
    cases hrt
    obtain rfl : esz = fsize := Option.some.inj (hes.symm.trans hsz)
    exact slot_sc cfg items sl buf data ctx hdec _ al hed hes hsh hw
  | enum b al fl =>
    cases hrt
    obtain rfl : esz = fsize := Option.some.inj (hes.symm.trans hsz)
    exact slot_enum cfg items sl buf data ctx hdec _ al fl hed hes hsh hw
  | ptr t =>
    cases hrt
    obtain rfl : esz = fsize := Option.some.inj (hes.symm.trans hsz)
    exact slot_ptr cfg items sl buf data ctx hdec t hed hes hsh hw
  | struct al fs => cases hrt
  | union al fs => cases hrt
  | arr e len =>
    cases len with
    | fixed k =>
      cases e with
      | sc s al =>
        cases hrt
        obtain rfl : esz * k = fsize := by
          simp only [Ty.size, hes, Option.some.injEq] at hsz; rw [Nat.mul_comm]; exact hsz
        exact slot_arr_sc cfg items sl buf data ctx hdec _ al k hed hes hsh hw
      | enum b al fl =>
        cases hrt
        obtain rfl : esz * k = fsize := by
          simp only [Ty.size, hes, Option.some.injEq] at hsz; rw [Nat.mul_comm]; exact hsz
        exact slot_arr_enum cfg items sl buf data ctx hdec _ al fl k hed hes hsh hw
      | ptr t =>
        cases hrt
        obtain rfl : esz * k = fsize := by
          simp only [Ty.size, hes, Option.some.injEq] at hsz; rw [Nat.mul_comm]; exact hsz
        exact slot_arr_ptr cfg items sl buf data ctx hdec t k hed hes hsh hw
      | arr _ _ => cases hrt
      | struct _ _ => cases hrt
      | union _ _ => cases hrt
    | expr _ => cases e <;> cases hrt
    | nullTerm => cases e <;> cases hrt
    | eof => cases e <;> cases hrt

end Cstruct.Compiler
