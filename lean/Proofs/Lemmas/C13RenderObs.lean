/-
  C13, round trip — the observed tokens of the rendered lexemes are the token lists the handler lemmas are about (`obsDecls`).
-/
import Proofs.Lemmas.C13RenderHandlers

namespace Cstruct.DefParser.C13
open Cstruct.DefParser

theorem obs_declrLex (ab : Bool) (d : Declarator) (h : declrWF ab d = true) :
    Tok.obs (tokOf (declrLex d) []) = .name (declrLex d).text (.ok d) := by
  have hwf := declrLex_wf ab d h
  have h1 := parseDeclarator_declrLex ab d h
  simp only [declrLex] at hwf h1 ⊢
  have h2 := strip_name _ _ _ _ hwf [] rfl
  simp only [List.append_nil] at h2
  simp only [tokOf, List.append_nil, Tok.obs, h1, h2]

theorem obs_nameLex (n : List Char) (h : isIdent n = true) :
    Tok.obs (tokOf (.name [] n none none) []) = .name n (parseDeclarator n) := by
  have hwf := nameLex_wf n h
  have h2 := strip_name _ _ _ _ hwf [] rfl
  have e : (Lexeme.name [] n none none).text = n := by simp [Lexeme.text, bitsText, countText]
  rw [e, List.append_nil] at h2
  simp only [tokOf, e, List.append_nil, Tok.obs, h2]

theorem obs_struct (u : Bool) (s : List Char) : Tok.obs (tokOf (.struct u) s) = .struct u := by
  cases u <;> rfl

theorem split_moreText : ∀ (r : List (List Char)) (w : List Char), isWordStr w = true → (∀ m ∈ r, isWordStr m = true) →
    (splitOn1 ',' (w ++ moreText (r.map fun m => (([] : List Char), [' '], m)))).map strip = w :: r
  | [], w, hw, _ => by
    have hnc : ∀ c ∈ w, c ≠ ',' := by
      simp only [isWordStr, Bool.and_eq_true, List.all_eq_true] at hw
      exact fun c hc => ne_of_class (hw.2 c hc) _ (by decide)
    simp [moreText, splitOn1_single ',' w hnc, strip_word w hw]
  | m :: r, w, hw, hr => by
    have hnc : ∀ c ∈ w, c ≠ ',' := by
      simp only [isWordStr, Bool.and_eq_true, List.all_eq_true] at hw
      exact fun c hc => ne_of_class (hw.2 c hc) _ (by decide)
    have ih := split_moreText r m (hr m (by simp)) (fun x hx => hr x (by simp [hx]))
    have e : w ++ moreText ((m :: r).map fun m => (([] : List Char), [' '], m)) = w ++ ',' :: (' ' :: (m ++ moreText (r.map fun m => (([] : List Char), [' '], m)))) := by
      simp [moreText]
    rw [e, splitOn1_cons ',' w _ hnc]
    -- the next piece starts with the blank behind the comma
    have hsp : ∀ (x : List Char), splitOn1 ',' (' ' :: x) = (match splitOn1 ',' x with | [] => [[]] | h :: t => (' ' :: h) :: t) := by
      intro x; simp only [splitOn1]; cases splitOn1 ',' x <;> simp
    rw [hsp]
    cases hs : splitOn1 ',' (m ++ moreText (r.map fun m => (([] : List Char), [' '], m))) with
    | nil => exact absurd hs (splitOn1_ne_nil _ _)
    | cons h t =>
      rw [hs] at ih
      simp only [List.map_cons, List.cons.injEq] at ih ⊢
      refine ⟨strip_word w hw, ?_, ih.2⟩
      have := strip_pad [' '] h [] (by decide) rfl
      simp only [List.append_nil, List.cons_append, List.nil_append] at this
      rw [this, ih.1]

theorem obs_defsLex (n : List Char) (r : List (List Char)) (hn : isIdent n = true) (hr : ∀ m ∈ r, isIdent m = true) (hne : r ≠ []) :
    Tok.obs (tokOf (.defs [' '] n (r.map fun m => (([] : List Char), [' '], m))) []) = .defs (n :: r) := by
  have hwf := defsLex_wf n r hn hr hne
  have h1 := obs_defs [' '] n _ hwf [] rfl
  simp only [tokOf]
  rw [h1]
  have hsw : strip (n ++ moreText (r.map fun m => (([] : List Char), [' '], m))) = n ++ moreText (r.map fun m => (([] : List Char), [' '], m)) := by
    have hw := (ident_word n hn).1
    have hw' := hw
    simp only [isWordStr, Bool.and_eq_true, Bool.not_eq_true', List.isEmpty_eq_false_iff] at hw'
    obtain ⟨c, t, rfl⟩ := List.exists_cons_of_ne_nil hw'.1
    have hc : isWs c = false := by
      have := hw'.2; simp only [List.all_cons, Bool.and_eq_true] at this; exact isWs_of_word c this.1
    have hm : moreOK (r.map fun m => (([] : List Char), [' '], m)) = true := moreOK_map r hr
    have := strip_core [] [] c (t ++ moreText (r.map fun m => (([] : List Char), [' '], m))) rfl rfl hc
      (fun d hd => more_last (c :: t) _ hw hm d (by simpa using hd))
    simpa using this
  simp only [Tok.obs, hsw]
  rw [split_moreText r n (ident_word n hn).1 (fun m hm => (ident_word m (hr m hm)).1)]

theorem obsOf_identLex : ∀ (ws : List (List Char)), obsOf (identLex ws) = ws.map .ident
  | [] => rfl
  | w :: ws => by
    have := obsOf_identLex ws
    simp only [identLex, List.map_cons] at this ⊢
    rw [obsOf_cons, this]; rfl

theorem obsOf_tag (tag : Option (List Char)) :
    obsOf (match tag with | some t => [(Lexeme.ident t, [' '])] | none => []) = tagTok tag := by
  cases tag <;> rfl

theorem obs_lbrace (s : List Char) : (tokOf Lexeme.lbrace s).obs = .block false := rfl

theorem obs_rbrace (s : List Char) : (tokOf Lexeme.rbrace s).obs = .block true := rfl

theorem obs_semi (s : List Char) : (tokOf Lexeme.semi s).obs = .eol := rfl

theorem obs_typedefKw (s : List Char) : (tokOf Lexeme.typedef s).obs = .typedef := rfl

theorem obs_identKw (w s : List Char) : (tokOf (Lexeme.ident w) s).obs = .ident w := rfl


theorem obs_render :
    (∀ t, wfT t = true → obsOf (lexT t) = oT t) ∧ (∀ a, wfA false a = true → obsOf (lexA a) = oA a) ∧
    (∀ f, wfF f = true → obsOf (lexF f) = oF f) ∧ (∀ fs, wfFs fs = true → obsOf (lexFs fs) = oFs fs) := by
  refine wf_induct (fun n _ => ?_) (fun t _ => ?_) (fun a _ ih => ih) (fun u tag fs _ _ ih => ?_) (fun a _ ih => ?_)
    (fun t d _ hd ih => ?_) rfl (fun f fs _ _ i1 i2 => ?_)
  · rw [lexT, oT, obsOf_identLex]
  · rfl
  · cases tag <;>
      simp [lexA, oA, tagTok, obsOf_cons, obsOf_append, obs_struct, ih, obs_lbrace, obs_rbrace, obs_identKw, obsOf_nil]
  · rw [lexF, lexT, oF, oT, obsOf_append, ih]
    rfl
  · rw [lexF, oF, obsOf_append, ih, obsOf_cons, obs_declrLex true d hd]
    rfl
  · rw [lexFs, oFs, obsOf_append, i1, i2]

theorem obsT : ∀ (t : TypeRef), wfT t = true → obsOf (lexT t) = oT t := obs_render.1

theorem obsA : ∀ (a : Aggr), wfA false a = true → obsOf (lexA a) = oA a := obs_render.2.1

theorem obsF : ∀ (f : FieldDecl), wfF f = true → obsOf (lexF f) = oF f := obs_render.2.2.1

theorem obsFs : ∀ (fs : List FieldDecl), wfFs fs = true → obsOf (lexFs fs) = oFs fs := obs_render.2.2.2

theorem obsOf_namesLex (ns : List (List Char)) (h : ∀ m ∈ ns, isIdent m = true) : obsOf (namesLex ns) = oNames ns := by
  match ns, h with
  | [], _ => rfl
  | [m], hm => simp [namesLex, oNames, obsOf_cons, obs_nameLex m (hm m (by simp)), obsOf_nil]
  | m :: m2 :: r, hm =>
    have := obs_defsLex m (m2 :: r) (hm m (by simp)) (fun x hx => hm x (by simp [hx])) (by simp)
    simp only [namesLex, oNames, obsOf_cons, obsOf_nil, this]

theorem normType_base (b : List Char) (h : baseWF b = true) : normType b = b := by
  simp only [baseWF, Bool.and_eq_true, beq_iff_eq] at h; exact h.2

theorem obsDecl (d : Decl) (h : wfDecl d = true) : obsOf (lexDecl d) = oD d := by
  cases d with
  | lookup a b => simp [wfDecl] at h
  | config vs =>
    have hw := configLex_wf vs h
    have := matchConfig_lexeme (joinComma vs) [] hw
    simp only [List.append_nil] at this
    simp only [lexDecl, oD, obsOf_cons, tokOf, Tok.obs, this, obsOf_nil]; rfl
  | const n v =>
    have hw := defineLex_wf n v h
    have h1 := obs_define [' '] n [' '] v hw ['\n'] rfl rfl
    have := matchDefine_lexeme spOK_U [' '] n [' '] v hw [] [] rfl rfl rfl
    simp only [List.append_nil] at this
    simp only [lexDecl, oD, obsOf_cons, tokOf, obsOf_nil]
    rw [h1]
    simp only [Tok.obs, this]; rfl
  | enum fl n b ms =>
    have hw := enumLex_wf fl n b ms h
    have := obs_enum fl [' '] n _ _ _ hw [] rfl
    simp only [wfDecl, Bool.and_eq_true] at h
    have hb := normType_base b h.1.2
    simp only [lexDecl, oD, obsOf_cons, tokOf, obsOf_nil]
    rw [this]
    simp only [Option.map, hb]
    rfl
  | typedef t ds =>
    simp only [wfDecl, Bool.and_eq_true] at h
    obtain ⟨ht, hds⟩ := h
    match ds, hds with
    | [d], hd =>
      simp [lexDecl, oD, obsOf_cons, obsOf_append, obsT t ht, obs_declrLex false d hd, obs_typedefKw, obs_semi, obsOf_nil]
  | aggr a =>
    obtain ⟨u, tag, fs, ns⟩ := a
    simp only [wfDecl, wfA, Bool.and_eq_true, if_true, List.all_eq_true] at h
    obtain ⟨⟨htag, hfs⟩, hns, -⟩ := h
    cases tag <;>
    simp [lexDecl, lexTop, oD, tagTok, obsOf_cons, obsOf_append, obs_struct, obsFs fs hfs, obsOf_namesLex ns hns, obs_lbrace, obs_rbrace,
      obs_semi, obs_identKw, obsOf_nil]

theorem obsDecls : ∀ (ds : List Decl), wfDecls ds = true → obsOf (lexDecls ds) = ds.flatMap oD
  | [], _ => rfl
  | d :: r, h => by
    simp only [wfDecls, List.all_cons, Bool.and_eq_true] at h
    have ih := obsDecls r (by simpa [wfDecls] using h.2)
    simp only [lexDecls, List.flatMap_cons] at ih ⊢
    rw [obsOf_append, obsDecl d h.1, ih]

end Cstruct.DefParser.C13
