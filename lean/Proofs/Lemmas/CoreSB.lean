/-
  Fragment SB (structures with bit-fields at static offsets) as an instance of fragment D: a value of fragment SB is a
  value of fragment D in every context, and an accepted definition has a static size (`size_some_ty`), so the layout
  always knows where the written bytes end. The type-level instance (`dynWr_SB`), the packed round trip of the
  member loop (`rt_idle`, `rt_pend`), the member loop at static offsets in both modes (`a_idle`, `a_pend`) and packed write
  totality (`wt_idle`, `wt_pend`) are read off `dyn_ty`, `dyn_idle`, `dyn_pend`. The reader's context is arbitrary
  here; what is written does not depend on it.
-/
import Proofs.Lemmas.CoreDynModes
import Proofs.Lemmas.CoreFragments
namespace Cstruct.Core.Lemmas
open Cstruct Cstruct.Core Cstruct.C06 Cstruct.C06.Lemmas
open Cstruct.C05.Lemmas (encBytes encBytes_length)

/-- as `DynIdle`, packed, for fragment SB: any reader context, bytes between any `pre` and `post` -/
def IdleStmt (cfg : Cfg) (fs : Fields) : Prop :=
  Fields.fragSB cfg fs = true → Fields.uniformAlign false fs = true → ∀ vs, HasTysB cfg vs fs →
  ∀ st sz sa offs, Fields.layout cfg false fs st = .ok (sz, sa, offs) → LIdle st fs →
  ∀ start pos out bbF, writeFields cfg false fs offs vs start BitBuf.empty pos = .ok (out, bbF) →
    (∀ o, st.offset = some o → pos = start + o) →
    ∃ fl, flushBits cfg bbF = .ok fl ∧ (∀ o, sz = some o → pos + (out ++ fl).length = start + o) ∧
      ∀ (pre post : Bytes) (ctx : Ctx) (bbR : BitBuf), pre.length = pos → RIdle bbR fs →
        ∃ szs, readFields cfg false fs offs start bbR ctx (pre ++ (out ++ fl) ++ post) pos =
          .ok (vs, szs, pos + (out ++ fl).length)

/-- as `DynPend`, packed, for fragment SB -/
def PendStmt (cfg : Cfg) (fs : Fields) : Prop :=
  Fields.fragSB cfg fs = true → Fields.uniformAlign false fs = true → ∀ vs, HasTysB cfg vs fs →
  ∀ st sz sa offs, Fields.layout cfg false fs st = .ok (sz, sa, offs) →
  ∀ ft fsz k n bbW, Pend cfg st ft fsz k n bbW →
  ∀ start pos out bbF, writeFields cfg false fs offs vs start bbW pos = .ok (out, bbF) →
    (∀ o, st.offset = some o → pos + fsz = start + o) →
    ∃ fl F tail, flushBits cfg bbF = .ok fl ∧ out ++ fl = encBytes cfg.endian fsz F ++ tail ∧ F < 2 ^ (8 * fsz) ∧
      URel cfg.endian (8 * fsz) k n F ∧ (∀ o, sz = some o → pos + (out ++ fl).length = start + o) ∧
      ∀ (pre post : Bytes) (ctx : Ctx) (bbR : BitBuf) (U : Int), pre.length = pos → bbR.ty = some ft →
        ReadInv cfg.endian (8 * fsz) U k bbR → U % ((2 ^ (8 * fsz) : Nat) : Int) = (F : Int) →
        ∃ szs, readFields cfg false fs offs start bbR ctx (pre ++ (out ++ fl) ++ post) (pos + fsz) =
          .ok (vs, szs, pos + (out ++ fl).length)

theorem encBytes_prefix_inj {e : Endian} {n F F' : Nat} {t t' : Bytes} (h : encBytes e n F ++ t = encBytes e n F' ++ t')
    (hF : F < 2 ^ (8 * n)) (hF' : F' < 2 ^ (8 * n)) : F = F' := by
  have h1 := congrArg (decodeNat e) (List.append_inj_left h (by rw [encBytes_length, encBytes_length]))
  rwa [C05.Lemmas.decodeNat_encBytes e n F hF, C05.Lemmas.decodeNat_encBytes e n F' hF'] at h1

theorem rt_idle (cfg : Cfg) : ∀ fs : Fields, IdleStmt cfg fs :=
  fun fs hS hU vs hvs st sz sa offs hlay hli start pos out bbF hw hpos => by
    have h := fun ctx => (dyn_idle cfg false fs (.packed (fragD_of_fragSB_fields cfg fs hS) hU) ctx vs
      (hasTysD_of_hasTysB cfg fs hS ctx vs hvs) st sz sa offs hlay hli start pos nofun hpos).2 out bbF hw
    obtain ⟨fl, hfl, hsz, _⟩ := h []
    refine ⟨fl, hfl, packed_size hsz, fun pre post ctx bbR hp hri => ?_⟩
    obtain ⟨fl', hfl', _, hrd⟩ := h ctx
    rw [hfl] at hfl'
    cases hfl'
    exact hrd _ bbR (.mid hp) hri

theorem rt_pend (cfg : Cfg) : ∀ fs : Fields, PendStmt cfg fs :=
  fun fs hS hU vs hvs st sz sa offs hlay ft fsz k n bbW hP start pos out bbF hw hpos => by
    have h := fun ctx => (dyn_pend cfg false fs (.packed (fragD_of_fragSB_fields cfg fs hS) hU) ctx vs
      (hasTysD_of_hasTysB cfg fs hS ctx vs hvs) st sz sa offs hlay ft fsz k n bbW hP start pos nofun nofun hpos).2 out bbF hw
    obtain ⟨fl, F, tail, hfl, hdata, hF, hrel, hsz, _⟩ := h []
    refine ⟨fl, F, tail, hfl, hdata, hF, hrel, packed_size hsz, fun pre post ctx bbR U hp hty hR hUF => ?_⟩
    obtain ⟨fl', F', tail', hfl', hdata', hF', _, _, hrd⟩ := h ctx
    rw [hfl] at hfl'
    cases hfl'
    cases encBytes_prefix_inj (hdata'.symm.trans hdata) hF' hF
    exact hrd _ bbR U (.mid hp) hty hR hUF

theorem hasTyNB_length (cfg : Cfg) (e : Ty) : ∀ (n : Nat) (vs : Vals), HasTyNB cfg vs e n → vs.length = n := by
  intro n
  induction n with
  | zero => intro vs h; cases h; rfl
  | succ n ih => intro vs h; cases h with | cons h1 h2 => simp only [Vals.length, ih _ h2]

theorem readArray_of_readN_B (cfg : Cfg) (e : Ty) (hS : e.fragSB cfg = true) (hne : ∀ a, e ≠ .sc .char a)
    (ctx : Ctx) (data : Bytes) (n pos : Nat) (vs : Vals) (p : Nat)
    (h : readN cfg e n ctx data pos = .ok (vs, p)) : readArray cfg e n ctx data pos = .ok (.list vs, p) :=
  readArray_of_readN_D cfg e (fragD_of_fragSB cfg e hS) hne (fun a he => by subst he; exact nomatch hS) ctx data n pos vs p h

mutual
theorem size_some_ty (cfg : Cfg) : ∀ ty : Ty, ty.fragSB cfg = true → ty.defErr cfg = none → ∃ k, ty.size cfg = some k
  | .sc s _, h, _ => by
    cases s <;> simp [Ty.fragSB] at h <;> simp [Ty.size, Scalar.size]
  | .enum b _ _, h, _ => by
    simp only [Ty.fragSB] at h
    exact isInt_size b h
  | .ptr _, h, _ => by
    simp only [Ty.fragSB] at h
    exact isInt_size _ h
  | .arr e len, h, hd => by
    simp only [Ty.fragSB, Bool.and_eq_true] at h
    simp only [Ty.defErr] at hd
    cases len with
    | fixed n =>
      obtain ⟨k, hk⟩ := size_some_ty cfg e h.2 hd
      exact ⟨n * k, by simp only [Ty.size, hk]⟩
    | expr _ | nullTerm | eof => simp at h
  | .struct al fs, h, hd => by
    simp only [Ty.fragSB] at h
    simp only [Ty.defErr] at hd
    split at hd
    · cases hd
    rename_i hfd
    split at hd
    · cases hd
    rename_i r hl
    obtain ⟨sz, sa, offs⟩ := r
    obtain ⟨k, hk⟩ := Option.isSome_iff_exists.mp (size_some_fs cfg fs h hfd al _ sz sa offs hl rfl)
    exact ⟨k, by simp only [Ty.size, hl, hk]⟩
  | .union _ _, h, _ => by simp [Ty.fragSB] at h
theorem size_some_fs (cfg : Cfg) : ∀ fs : Fields, Fields.fragSB cfg fs = true → Fields.defErr cfg fs = none →
    ∀ (al : Bool) (st : LState) sz sa offs, Fields.layout cfg al fs st = .ok (sz, sa, offs) → st.offset.isSome = true →
    sz.isSome = true
  | .nil, _, _, al, st, sz, sa, offs, hl, ho => by
    obtain ⟨o, ho⟩ := Option.isSome_iff_exists.mp ho
    rw [Fields.layout] at hl
    simp only [ho, Except.ok.injEq, Prod.mk.injEq] at hl
    rw [← hl.1]
    cases al <;> rfl
  | .cons name an ty bits rest, hS, hd, al, st, sz, sa, offs, hl, ho => by
    simp only [Fields.fragSB, Bool.and_eq_true] at hS
    simp only [Fields.defErr] at hd
    split at hd
    · cases hd
    rename_i htd
    have hk : isBitW bits = false → (ty.size cfg).isSome = true := by
      intro hb
      rcases bits with _ | _ | b
      · exact Option.isSome_iff_exists.mpr (size_some_ty cfg ty hS.1 htd)
      · simp at hS
      · simp [isBitW] at hb
    obtain ⟨st', offs', hl', _, ho'⟩ := layout_step cfg al name an ty bits rest st sz sa offs hl
    exact size_some_fs cfg rest hS.2 hd al st' sz sa offs' hl' (ho' hk ho)
end

/-- the standing hypotheses on a member list of fragment SB whose definition is accepted (`FieldsOk` with powers of two
    in both modes) -/
structure FHyps (cfg : Cfg) (al : Bool) (fs : Fields) : Prop where
  frag : Fields.fragSB cfg fs = true
  unif : Fields.uniformAlign al fs = true
  p2 : fs.pow2Aligned cfg
  nat : al = true → Fields.bitsNatural cfg fs = true
  def_ : Fields.defErr cfg fs = none

theorem FHyps.tail {cfg al name an ty bits rest} (h : FHyps cfg al (.cons name an ty bits rest)) : FHyps cfg al rest := by
  obtain ⟨h1, h2, h3, h4, h5⟩ := h
  simp only [Fields.fragSB, Bool.and_eq_true] at h1
  simp only [Fields.uniformAlign, Bool.and_eq_true] at h2
  simp only [Fields.pow2Aligned] at h3
  refine ⟨h1.2, h2.2, h3.2, ?_, (defErr_cons h5).2⟩
  intro ha
  have := h4 ha
  simp only [Fields.bitsNatural, Bool.and_eq_true] at this
  exact this.2

def AIdle (cfg : Cfg) (al : Bool) (fs : Fields) : Prop :=
  FHyps cfg al fs → ∀ vs, HasTysB cfg vs fs →
  ∀ st sz sa offs, Fields.layout cfg al fs st = .ok (sz, sa, offs) → LIdle st fs → ∀ o, st.offset = some o →
  ∀ start, (al = true → allAlignDvd cfg start fs) →
    ∃ out bbF fl, writeFields cfg al fs offs vs start BitBuf.empty (start + o) = .ok (out, bbF) ∧
      flushBits cfg bbF = .ok fl ∧ sz = some (alignTo al (o + (out ++ fl).length) sa) ∧
      ∀ (pre post : Bytes) (ctx : Ctx) (bbR : BitBuf), pre.length = start + o → RIdle bbR fs →
        ∃ szs, readFields cfg al fs offs start bbR ctx (pre ++ (out ++ fl) ++ post) (start + o) =
          .ok (vs, szs, start + o + (out ++ fl).length)

/-- pending unit at the static offset `uo` -/
structure PendA (cfg : Cfg) (al : Bool) (st : LState) (ft : Scalar) (fsz k n : Nat) (bbW : BitBuf) (uo : Nat) : Prop where
  isInt : Scalar.isInt ft = true
  size : ft.size = some fsz
  lty : st.bitsType = some ft
  lrem : st.bitsRemaining = ((8 * fsz - k : Nat) : Int)
  lt : k < 8 * fsz
  loff : st.offset = some (uo + fsz)
  lbfo : st.bitsFieldOffset = some uo
  wty : bbW.ty = some ft
  winv : WriteInv cfg.endian (8 * fsz) k n bbW
  nlt : n < 2 ^ k
  ual : al = true → fsz ∣ uo

def APend (cfg : Cfg) (al : Bool) (fs : Fields) : Prop :=
  FHyps cfg al fs → ∀ vs, HasTysB cfg vs fs →
  ∀ st sz sa offs, Fields.layout cfg al fs st = .ok (sz, sa, offs) →
  ∀ ft fsz k n bbW uo, PendA cfg al st ft fsz k n bbW uo →
  ∀ start, (al = true → allAlignDvd cfg start fs) → (al = true → fsz ∣ start) →
    ∃ out bbF fl F tail, writeFields cfg al fs offs vs start bbW (start + uo) = .ok (out, bbF) ∧
      flushBits cfg bbF = .ok fl ∧ out ++ fl = encBytes cfg.endian fsz F ++ tail ∧ F < 2 ^ (8 * fsz) ∧
      URel cfg.endian (8 * fsz) k n F ∧ sz = some (alignTo al (uo + (out ++ fl).length) sa) ∧
      ∀ (pre post : Bytes) (ctx : Ctx) (bbR : BitBuf) (U : Int), pre.length = start + uo → bbR.ty = some ft →
        ReadInv cfg.endian (8 * fsz) U k bbR → U % ((2 ^ (8 * fsz) : Nat) : Int) = (F : Int) →
        ∃ szs, readFields cfg al fs offs start bbR ctx (pre ++ (out ++ fl) ++ post) (start + uo + fsz) =
          .ok (vs, szs, start + uo + (out ++ fl).length)

theorem size_sAlign_dvd_B (cfg : Cfg) : ∀ (ty : Ty), ty.fragSB cfg = true → ty.uniformAlign true = true →
    ty.pow2Aligned cfg → ∀ k, ty.size cfg = some k → sAlign cfg ty ∣ k
  | .sc _ _, _, _, _, _, _ => Nat.one_dvd _
  | .enum _ _ _, _, _, _, _, _ => Nat.one_dvd _
  | .ptr _, _, _, _, _, _ => Nat.one_dvd _
  | .union _ _, _, _, _, _, _ => Nat.one_dvd _
  | .arr e len, hS, hU, hP, k, hk => by
    simp only [Ty.fragSB, Bool.and_eq_true] at hS
    simp only [Ty.uniformAlign] at hU
    simp only [Ty.pow2Aligned] at hP
    cases len with
    | fixed n =>
      simp only [Ty.size] at hk
      cases he : e.size cfg with
      | none => rw [he] at hk; cases hk
      | some k' =>
        rw [he] at hk; cases hk
        simp only [sAlign]
        exact Nat.dvd_trans (size_sAlign_dvd_B cfg e hS.2 hU hP k' he) (Nat.dvd_mul_left _ _)
    | expr _ | nullTerm | eof => simp at hS
  | .struct al fs, hS, hU, hP, k, hk => by
    simp only [Ty.uniformAlign, Bool.and_eq_true, beq_iff_eq] at hU
    simp only [Ty.pow2Aligned] at hP
    obtain ⟨rfl, hU⟩ := hU
    simp only [Ty.size] at hk
    split at hk
    · rename_i sz sa offs hl
      obtain ⟨h1, h2⟩ := layout_final cfg true fs _ sz sa offs hl
      simp only at h1
      simp only [sAlign, Ty.alignment]
      split
      · exact Nat.one_dvd _
      · rename_i h0
        rcases maxAlign_p2 cfg fs hP 0 (Or.inl rfl) with h3 | h3
        · exact absurd h3 h0
        · rw [← h1] at h3 ⊢
          exact h2 rfl h3 k hk
    · cases hk

/-- a value of fragment SB is a value of fragment D in every context -/
theorem dynWr_SB {cfg : Cfg} {al : Bool} {ty : Ty} (hS : ty.fragSB cfg = true) (hU : ty.uniformAlign al = true)
    (hP : al = true → ty.pow2Aligned cfg) (hN : al = true → ty.bitsNatural cfg = true) {v : Val} (hv : HasTyB cfg v ty)
    {pos : Nat} (hpos : al = true → sAlign cfg ty ∣ pos) (ctx : Ctx) : DynWr cfg al ty ctx v pos :=
  dyn_ty cfg al ty ⟨fragD_of_fragSB cfg ty hS, hU, hP, hN⟩ ctx v (hasTyD_of_hasTyB cfg ty hS ctx v hv) pos hpos

/-- totality with the size, from `DynWr`: an accepted definition of fragment SB is laid out and has a static size -/
theorem write_size_SB {cfg : Cfg} {al : Bool} {ty : Ty} {ctx : Ctx} {v : Val} {pos : Nat} (h : DynWr cfg al ty ctx v pos)
    (hS : ty.fragSB cfg = true) (hD : ty.defErr cfg = none) : ∃ bs, write cfg ty v pos = .ok bs ∧ ty.size cfg = some bs.length := by
  obtain ⟨k, hk⟩ := size_some_ty cfg ty hS hD
  obtain ⟨bs, hw⟩ := h.1 (laidOut_of_defErr cfg ty hD)
  exact ⟨bs, hw, by rw [(h.2 bs hw).1 k hk]; exact hk⟩

theorem FHyps.ok {cfg : Cfg} {al : Bool} {fs : Fields} (h : FHyps cfg al fs) : FieldsOk cfg al fs :=
  ⟨fragD_of_fragSB_fields cfg fs h.frag, h.unif, fun _ => h.p2, h.nat⟩

theorem static_end {al : Bool} {start o len : Nat} {sz : Option Nat} {sa : Nat} (hs : sz.isSome = true)
    (h : ∀ s, sz = some s → ∃ e, start + o + len = start + e ∧ s = alignTo al e sa) :
    sz = some (alignTo al (o + len) sa) := by
  obtain ⟨s, rfl⟩ := Option.isSome_iff_exists.mp hs
  obtain ⟨e, h1, h2⟩ := h s rfl
  rw [Nat.add_assoc] at h1
  rw [h2, ← Nat.add_left_cancel h1]

theorem a_idle (cfg : Cfg) (al : Bool) : ∀ fs : Fields, AIdle cfg al fs :=
  fun fs hH vs hvs st sz sa offs hlay hli o ho start hdv => by
    have h := fun ctx => dyn_idle cfg al fs hH.ok ctx vs (hasTysD_of_hasTysB cfg fs hH.frag ctx vs hvs) st sz sa offs hlay
      hli start (start + o) hdv (fun o' h => by rw [ho] at h; cases h; rfl)
    obtain ⟨⟨out, bbF⟩, hw⟩ := (h []).1 (laidOutF_of_defErr cfg fs hH.def_)
    obtain ⟨fl, hfl, hsz, _⟩ := (h []).2 out bbF hw
    refine ⟨out, bbF, fl, hw, hfl, static_end (size_some_fs cfg fs hH.frag hH.def_ al st sz sa offs hlay
      (by rw [ho]; rfl)) hsz, fun pre post ctx bbR hp hri => ?_⟩
    -- the same statement in the reader's context `ctx`: the written bytes and their flush are the same
    obtain ⟨fl', hfl', _, hrd⟩ := (h ctx).2 out bbF hw
    rw [hfl] at hfl'
    cases hfl'
    exact hrd _ bbR (.mid hp) hri

theorem a_pend (cfg : Cfg) (al : Bool) : ∀ fs : Fields, APend cfg al fs :=
  fun fs hH vs hvs st sz sa offs hlay ft fsz k n bbW uo hP start hdv hds => by
    have hPd : Pend cfg st ft fsz k n bbW :=
      ⟨hP.isInt, hP.size, hP.lty, hP.lrem, hP.lt, by rw [hP.loff, hP.lbfo]; rfl, hP.wty, hP.winv, hP.nlt⟩
    have h := fun ctx => dyn_pend cfg al fs hH.ok ctx vs (hasTysD_of_hasTysB cfg fs hH.frag ctx vs hvs) st sz sa offs hlay
      ft fsz k n bbW hPd start (start + uo) hdv (fun ha => Nat.dvd_add (hds ha) (hP.ual ha))
      (fun o' h => by rw [hP.loff] at h; cases h; rw [Nat.add_assoc])
    obtain ⟨⟨out, bbF⟩, hw⟩ := (h []).1 (laidOutF_of_defErr cfg fs hH.def_)
    obtain ⟨fl, F, tail, hfl, hdata, hF, hrel, hsz, _⟩ := (h []).2 out bbF hw
    refine ⟨out, bbF, fl, F, tail, hw, hfl, hdata, hF, hrel, static_end (size_some_fs cfg fs hH.frag hH.def_ al st sz sa
      offs hlay (by rw [hP.loff]; rfl)) hsz, fun pre post ctx bbR U hp hty hR hUF => ?_⟩
    obtain ⟨fl', F', tail', hfl', hdata', hF', _, _, hrd⟩ := (h ctx).2 out bbF hw
    rw [hfl] at hfl'
    cases hfl'
    cases encBytes_prefix_inj (hdata'.symm.trans hdata) hF' hF
    exact hrd _ bbR U (.mid hp) hty hR hUF

def WtIdle (cfg : Cfg) (fs : Fields) : Prop :=
  Fields.fragSB cfg fs = true → Fields.uniformAlign false fs = true → Fields.defErr cfg fs = none →
  ∀ vs, HasTysB cfg vs fs → ∀ st sz sa offs, Fields.layout cfg false fs st = .ok (sz, sa, offs) → LIdle st fs →
  ∀ o, st.offset = some o → ∀ start,
    ∃ out bbF fl, writeFields cfg false fs offs vs start BitBuf.empty (start + o) = .ok (out, bbF) ∧
      flushBits cfg bbF = .ok fl ∧ sz = some (o + (out ++ fl).length)

def WtPend (cfg : Cfg) (fs : Fields) : Prop :=
  Fields.fragSB cfg fs = true → Fields.uniformAlign false fs = true → Fields.defErr cfg fs = none →
  ∀ vs, HasTysB cfg vs fs → ∀ st sz sa offs, Fields.layout cfg false fs st = .ok (sz, sa, offs) →
  ∀ ft fsz k n bbW, Pend cfg st ft fsz k n bbW → ∀ uo, st.offset = some (uo + fsz) → ∀ start,
    ∃ out bbF fl, writeFields cfg false fs offs vs start bbW (start + uo) = .ok (out, bbF) ∧
      flushBits cfg bbF = .ok fl ∧ sz = some (uo + (out ++ fl).length)

theorem wt_idle (cfg : Cfg) : ∀ fs : Fields, WtIdle cfg fs := by
  intro fs hS hU hD vs hvs st sz sa offs hlay hli o ho start
  have h := dyn_idle cfg false fs (.packed (fragD_of_fragSB_fields cfg fs hS) hU) [] vs
    (hasTysD_of_hasTysB cfg fs hS [] vs hvs) st sz sa offs hlay hli start (start + o) nofun
    (fun o' h => by rw [ho] at h; cases h; rfl)
  obtain ⟨⟨out, bbF⟩, hw⟩ := h.1 (laidOutF_of_defErr cfg fs hD)
  obtain ⟨fl, hfl, hsz, _⟩ := h.2 out bbF hw
  exact ⟨out, bbF, fl, hw, hfl, static_end (al := false) (size_some_fs cfg fs hS hD false st sz sa offs hlay
    (by rw [ho]; rfl)) hsz⟩

theorem wt_pend (cfg : Cfg) : ∀ fs : Fields, WtPend cfg fs := by
  intro fs hS hU hD vs hvs st sz sa offs hlay ft fsz k n bbW hP uo ho start
  have h := dyn_pend cfg false fs (.packed (fragD_of_fragSB_fields cfg fs hS) hU) [] vs
    (hasTysD_of_hasTysB cfg fs hS [] vs hvs) st sz sa offs hlay ft fsz k n bbW hP start (start + uo) nofun nofun
    (fun o' h => by rw [ho] at h; cases h; rw [Nat.add_assoc])
  obtain ⟨⟨out, bbF⟩, hw⟩ := h.1 (laidOutF_of_defErr cfg fs hD)
  obtain ⟨fl, _, _, hfl, _, _, _, hsz, _⟩ := h.2 out bbF hw
  exact ⟨out, bbF, fl, hw, hfl, static_end (al := false) (size_some_fs cfg fs hS hD false st sz sa offs hlay
    (by rw [ho]; rfl)) hsz⟩

end Cstruct.Core.Lemmas
