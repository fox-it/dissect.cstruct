/-
  C13 — registration order: typedefs of pairwise distinct fresh names whose targets are known beforehand can be registered in any
  order (`reg_perm`, `regAll_total`).
-/
import Proofs.Spec.C13Parse
import Proofs.Lemmas.C13Alias

namespace Cstruct.DefParser.C13
open Cstruct Cstruct.Parser Cstruct.DefParser

theorem lookupEq_setB (t1 t2 : List (String × Bind)) (h : LookupEq t1 t2) (name : String) (v : Bind) :
    LookupEq (setB name v t1) (setB name v t2) := by
  intro n; rw [lookupB_setB, lookupB_setB, h n]

theorem regTypedef_fresh (tbl : List (String × Bind)) (a t : String) (id : Nat) (hf : lookupB a tbl = none)
    (ht : resolveB tbl 10 t = some id) : regTypedef tbl (a, t) = some (setB a (.type id) tbl) := by
  simp [regTypedef, ht, addType_fresh tbl a _ hf]

theorem regOK_step (tbl : List (String × Bind)) (a t : String) (rest : List (String × String)) (id : Nat)
    (h : RegOK tbl ((a, t) :: rest)) : RegOK (setB a (.type id) tbl) rest := by
  obtain ⟨hn, hf, hr⟩ := h
  have ha : lookupB a tbl = none := hf (a, t) (by simp)
  simp only [List.map_cons, List.nodup_cons] at hn
  refine ⟨hn.2, ?_, ?_⟩
  · intro p hp
    have hne : p.1 ≠ a := fun e => hn.1 (by rw [← e]; exact List.mem_map_of_mem hp)
    rw [lookupB_setB, if_neg hne]
    exact hf p (by simp [hp])
  · intro p hp
    obtain ⟨i, hi⟩ := hr p (by simp [hp])
    exact ⟨i, resolveB_setB_fresh tbl a _ ha 10 p.2 i hi⟩

theorem regTypedef_congr (t1 t2 t1' : List (String × Bind)) (h : LookupEq t1 t2) (r : String × String)
    (h1 : regTypedef t1 r = some t1') : ∃ t2', regTypedef t2 r = some t2' ∧ LookupEq t1' t2' := by
  unfold regTypedef at h1 ⊢
  rw [← resolveB_congr t1 t2 h 10 r.2]
  cases hr : resolveB t1 10 r.2 with
  | none => simp [hr] at h1
  | some id =>
    simp only [hr] at h1 ⊢
    unfold addType at h1 ⊢
    simp only [← h r.1, ← resolveB_congr t1 t2 h 10 r.1]
    cases hl : lookupB r.1 t1 with
    | none => simp only [hl] at h1 ⊢; cases h1; exact ⟨_, rfl, lookupEq_setB t1 t2 h _ _⟩
    | some b =>
      simp only [hl] at h1 ⊢
      split at h1
      · simp at h1
      · rename_i hc; simp only [hc, if_false]; cases h1; exact ⟨_, rfl, lookupEq_setB t1 t2 h _ _⟩

theorem regAll_congr : ∀ (regs : List (String × String)) (t1 t2 t1' : List (String × Bind)), LookupEq t1 t2 →
    regAll t1 regs = some t1' → ∃ t2', regAll t2 regs = some t2' ∧ LookupEq t1' t2'
  | [], t1, t2, t1', h, h1 => by simp [regAll] at h1; subst h1; exact ⟨t2, rfl, h⟩
  | r :: rest, t1, t2, t1', h, h1 => by
    simp only [regAll] at h1 ⊢
    cases hr : regTypedef t1 r with
    | none => simp [hr] at h1
    | some m1 =>
      simp only [hr] at h1
      obtain ⟨m2, hm2, hm⟩ := regTypedef_congr t1 t2 m1 h r hr
      simp only [hm2]
      exact regAll_congr rest m1 m2 t1' hm h1

theorem regOK_perm (tbl : List (String × Bind)) (l1 l2 : List (String × String)) (hp : l1.Perm l2) (h : RegOK tbl l1) :
    RegOK tbl l2 :=
  ⟨(hp.map _).nodup_iff.mp h.1, fun p hp' => h.2.1 p (hp.mem_iff.mpr hp'), fun p hp' => h.2.2 p (hp.mem_iff.mpr hp')⟩

theorem reg_perm (l1 l2 : List (String × String)) (hp : l1.Perm l2) : ∀ (tbl T : List (String × Bind)), RegOK tbl l1 →
    regAll tbl l1 = some T → ∃ T', regAll tbl l2 = some T' ∧ LookupEq T T' := by
  induction hp with
  | nil => intro tbl T _ h; exact ⟨T, h, fun _ => rfl⟩
  | cons x _ ih =>
    intro tbl T hok h
    obtain ⟨a, t⟩ := x
    obtain ⟨id, hid⟩ := hok.2.2 (a, t) (by simp)
    have hf := hok.2.1 (a, t) (by simp)
    have hr := regTypedef_fresh tbl a t id hf hid
    simp only [regAll, hr] at h ⊢
    exact ih _ T (regOK_step tbl a t _ id hok) h
  | swap x y l =>
    intro tbl T hok h
    obtain ⟨a, ta⟩ := x
    obtain ⟨b, tb⟩ := y
    -- the hypothesis is about  y :: x :: l,  the claim about  x :: y :: l
    obtain ⟨ida, hida⟩ := hok.2.2 (a, ta) (by simp)
    obtain ⟨idb, hidb⟩ := hok.2.2 (b, tb) (by simp)
    have hfa := hok.2.1 (a, ta) (by simp)
    have hfb := hok.2.1 (b, tb) (by simp)
    have hab : a ≠ b := by
      have := hok.1; simp only [List.map_cons, List.nodup_cons, List.mem_cons] at this
      exact fun e => this.1 (.inl e.symm)
    have hb1 := regTypedef_fresh tbl b tb idb hfb hidb
    have hfa' : lookupB a (setB b (.type idb) tbl) = none := by rw [lookupB_setB, if_neg hab]; exact hfa
    have ha2 := regTypedef_fresh (setB b (.type idb) tbl) a ta ida hfa' (resolveB_setB_fresh tbl b _ hfb 10 ta ida hida)
    have ha1 := regTypedef_fresh tbl a ta ida hfa hida
    have hfb' : lookupB b (setB a (.type ida) tbl) = none := by rw [lookupB_setB, if_neg (Ne.symm hab)]; exact hfb
    have hb2 := regTypedef_fresh (setB a (.type ida) tbl) b tb idb hfb' (resolveB_setB_fresh tbl a _ hfa 10 tb idb hidb)
    have hc := commute tbl _ _ _ _ b a (.type idb) (.type ida) (Ne.symm hab) hfb hfa
      (addType_fresh tbl b _ hfb) (addType_fresh _ a _ hfa') (addType_fresh tbl a _ hfa) (addType_fresh _ b _ hfb')
    simp only [regAll, hb1, ha2] at h
    simp only [regAll, ha1, hb2]
    exact regAll_congr l _ _ T hc.1 h
  | trans p1 _ ih1 ih2 =>
    intro tbl T hok h
    obtain ⟨T1, h1, e1⟩ := ih1 tbl T hok h
    obtain ⟨T2, h2, e2⟩ := ih2 tbl T1 (regOK_perm tbl _ _ p1 hok) h1
    exact ⟨T2, h2, fun n => (e1 n).trans (e2 n)⟩

theorem regAll_total : ∀ (regs : List (String × String)) (tbl : List (String × Bind)), RegOK tbl regs → ∃ T, regAll tbl regs = some T
  | [], tbl, _ => ⟨tbl, rfl⟩
  | (a, t) :: rest, tbl, hok => by
    obtain ⟨id, hid⟩ := hok.2.2 (a, t) (by simp)
    have hr := regTypedef_fresh tbl a t id (hok.2.1 (a, t) (by simp)) hid
    simp only [regAll, hr]
    exact regAll_total rest _ (regOK_step tbl a t rest id hok)

end Cstruct.DefParser.C13
