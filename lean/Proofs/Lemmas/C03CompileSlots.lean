/-
  One member of `current_block`: the info entry of `_generate_struct_info`, the slot of `_generate_packed`, and the step of
  the block validator `slotsOK` that accepts it.
-/
import Proofs.Lemmas.C03CompileDefs

namespace Cstruct.Compiler
open Cstruct Cstruct.Core.Lemmas

theorem packedSlots_pad (cfg : Cfg) (d : Nat) (l : List Info) (size si : Nat) :
    packedSlots cfg (padInfo d ++ l) size si = packedSlots cfg l (size + d) si := by
  unfold padInfo
  by_cases h : d > 0
  · rw [if_pos h, List.cons_append, List.nil_append, packedSlots]
  · have : d = 0 := by omega
    subst this
    rw [if_neg h, List.nil_append, Nat.add_zero]

theorem fmtItems_pad (d : Nat) (l : List Info) (off : Nat) :
    fmtItems (infoPairs (padInfo d ++ l)) off = fmtItems (infoPairs l) (off + d) := by
  unfold padInfo
  by_cases h : d > 0
  · rw [if_pos h]
    simp only [infoPairs, List.cons_append, List.nil_append, List.map_cons, fmtItems, if_true]
  · have : d = 0 := by omega
    subst this
    rw [if_neg h, List.nil_append, Nat.add_zero]

theorem replicateItems_length (s : Scalar) (sz : Nat) : ∀ (n off : Nat), (replicateItems s sz n off).length = n
  | 0, _ => rfl
  | n + 1, off => by rw [replicateItems, List.length_cons, replicateItems_length s sz n]

theorem getElem?_mid {α} (pre : List α) (x : α) (post : List α) : (pre ++ x :: post)[pre.length]? = some x := by
  rw [List.getElem?_append_right (Nat.le_refl _), Nat.sub_self]
  rfl

theorem itemsAre_replicate (s : Scalar) (sz : Nat) : ∀ (n : Nat) (pre post : List Item) (off : Nat),
    itemsAre (pre ++ (replicateItems s sz n off ++ post)) s sz pre.length n off = true
  | 0, _, _, _ => by rw [itemsAre]
  | n + 1, pre, post, off => by
    rw [itemsAre, replicateItems, List.cons_append, getElem?_mid]
    have ih := itemsAre_replicate s sz n (pre ++ [⟨s, off, sz⟩]) post (off + sz)
    rw [List.length_append, List.length_singleton, List.append_assoc, List.singleton_append] at ih
    simp only [beq_self_eq_true, Bool.true_and, ih]

theorem structInfo_void {cfg : Cfg} {al : Bool} {f : CField} {rest : List CField} {cur : Option Nat} {imag d1 : Nat}
    (hd1 : drift1 f.off cur = .ok d1) (hrt : readType cfg f.ty = some (.void, none)) :
    structInfo cfg al (f :: rest) cur imag =
      (structInfo cfg al rest (cur.map (· + d1)) (imag + drift2 cfg al f imag)).map
        fun is => padInfo d1 ++ padInfo (drift2 cfg al f imag) ++ is := by
  rw [structInfo, hd1]
  dsimp only
  rw [hrt]
  dsimp only
  rw [if_pos ⟨rfl, rfl⟩]
  cases structInfo cfg al rest (cur.map (· + d1)) (imag + drift2 cfg al f imag) <;> rfl

theorem structInfo_member {cfg : Cfg} {al : Bool} {f : CField} {rest : List CField} {cur : Option Nat} {imag d1 : Nat}
    {s : Scalar} {cnt : Option Nat} {esz : Nat} (hd1 : drift1 f.off cur = .ok d1)
    (hrt : readType cfg f.ty = some (s, cnt)) (hnv : ¬ (s = .void ∧ cnt.isNone = true)) (hsz : s.size = some esz) :
    structInfo cfg al (f :: rest) cur imag =
      (entryInfo f s (cnt.getD 1) esz).bind fun entry =>
        (structInfo cfg al rest ((cur.map (· + d1)).map (· + cnt.getD 1 * esz))
          (imag + drift2 cfg al f imag + cnt.getD 1 * esz)).map
          fun is => padInfo d1 ++ padInfo (drift2 cfg al f imag) ++ entry ++ is := by
  rw [structInfo, hd1]
  dsimp only
  rw [hrt]
  dsimp only
  rw [if_neg hnv, hsz]
  dsimp only
  cases entryInfo f s (cnt.getD 1) esz with
  | error e => rfl
  | ok entry =>
    cases structInfo cfg al rest ((cur.map (· + d1)).map (· + cnt.getD 1 * esz))
      (imag + drift2 cfg al f imag + cnt.getD 1 * esz) <;> rfl

theorem padInfo_char (d : Nat) : ∀ i ∈ padInfo d, FmtChar i.char := by
  intro i hi
  unfold padInfo at hi
  split at hi
  · cases List.mem_singleton.mp hi
    exact Or.inl rfl
  · cases hi

theorem isPacked_not_byteBased {s : Scalar} (h : isPacked s = true) : isByteBased s = false := by
  cases s <;> simp [isPacked] at h <;> rfl

theorem slotSrc_snd (s : Scalar) (cnt : Option Nat) (esz A si : Nat) :
    (slotSrc s cnt esz A si).2 = si + (if isByteBased s = true then 0 else cnt.getD 1) := by
  unfold slotSrc
  cases cnt <;> by_cases h : isByteBased s = true <;> simp [h]

theorem slotRange_packed (cfg : Cfg) (ty : Ty) (s : Scalar) (cnt : Option Nat) (esz : Nat)
    (hrt : readType cfg ty = some (s, cnt)) (hsz : s.size = some esz) (d : Dec) (hdec : expectDec cfg ty = some d)
    (hp : isPacked s = true) (name : String) (fsz A cur : Nat) (pre post : List Item) :
    slotRange cfg ty (pre ++ (replicateItems s esz (cnt.getD 1) A ++ post))
        ⟨name, (slotSrc s cnt esz A pre.length).1, d, fsz⟩ cur =
      some (if cnt = some 0 then (cur, cur) else (A, A + esz * cnt.getD 1)) := by
  rw [slotRange, hrt, hdec]
  dsimp only
  rw [if_neg (fun h => h rfl), hsz]
  dsimp only
  rw [if_pos hp]
  cases cnt with
  | none =>
    rw [slotSrc, if_neg (by rw [isPacked_not_byteBased hp]; exact Bool.false_ne_true)]
    dsimp only [Option.getD_none]
    rw [replicateItems, List.cons_append, getElem?_mid]
    simp only [beq_self_eq_true, Bool.and_self, if_true, Nat.mul_one, reduceCtorEq, if_false]
  | some n =>
    rw [slotSrc, if_neg (by rw [isPacked_not_byteBased hp]; exact Bool.false_ne_true)]
    dsimp only [Option.getD_some]
    rw [if_neg (fun h => h rfl)]
    cases n with
    | zero => simp only [if_true]
    | succ m =>
      rw [if_neg (Nat.succ_ne_zero m), if_neg (by simp)]
      have hi := itemsAre_replicate s esz (m + 1) pre post A
      rw [show (pre ++ (replicateItems s esz (m + 1) A ++ post))[pre.length]? = some ⟨s, A, esz⟩ from getElem?_mid pre _ _]
      exact if_pos hi

theorem slotRange_bytes (cfg : Cfg) (ty : Ty) (s : Scalar) (cnt : Option Nat) (esz : Nat)
    (hrt : readType cfg ty = some (s, cnt)) (hsz : s.size = some esz) (d : Dec) (hdec : expectDec cfg ty = some d)
    (hp : isPacked s = false) (hb : isByteBased s = true) (name : String) (fsz A cur : Nat) (its : List Item) {si : Nat} :
    slotRange cfg ty its ⟨name, (slotSrc s cnt esz A si).1, d, fsz⟩ cur = some (A, A + cnt.getD 1 * esz) := by
  rw [slotRange, hrt, hdec]
  dsimp only
  rw [if_neg (fun h => h rfl), hsz]
  dsimp only
  rw [if_neg (by rw [hp]; exact Bool.false_ne_true)]
  cases cnt with
  | none =>
    rw [slotSrc, if_pos hb]
    dsimp only [Option.getD_none]
    rw [if_pos (by rw [Nat.mul_one]), Nat.one_mul]
  | some n =>
    rw [slotSrc, if_pos hb]
    dsimp only [Option.getD_some]
    rw [if_pos (by rw [Nat.mul_comm])]

theorem slotRange_member (cfg : Cfg) (ty : Ty) (s : Scalar) (cnt : Option Nat) (esz : Nat)
    (hrt : readType cfg ty = some (s, cnt)) (hsz : s.size = some esz)
    (hdec : expectDec cfg ty = some (slotDec ty s esz))
    (hk : isPacked s = true ∨ (isPacked s = false ∧ isByteBased s = true))
    (name : String) (fsz A cur : Nat) (pre post : List Item) :
    ∃ a0 b0, slotRange cfg ty (pre ++ (if isPacked s = true then replicateItems s esz (cnt.getD 1) A else []) ++ post)
        ⟨name, (slotSrc s cnt esz A pre.length).1, slotDec ty s esz, fsz⟩ cur = some (a0, b0) ∧
      b0 - a0 = cnt.getD 1 * esz ∧ (cnt.getD 1 * esz ≠ 0 → a0 = A ∧ b0 = A + cnt.getD 1 * esz) := by
  rcases hk with hp | ⟨hp, hb⟩
  · rw [if_pos hp, List.append_assoc, slotRange_packed cfg ty s cnt esz hrt hsz _ hdec hp]
    by_cases h0 : cnt = some 0
    · subst h0
      exact ⟨cur, cur, by rw [if_pos rfl], by simp, fun h => absurd (Nat.zero_mul _) h⟩
    · exact ⟨A, A + esz * cnt.getD 1, by rw [if_neg h0], by rw [Nat.mul_comm]; omega, fun _ => ⟨rfl, by rw [Nat.mul_comm]⟩⟩
  · rw [slotRange_bytes cfg ty s cnt esz hrt hsz _ hdec hp hb]
    exact ⟨A, A + cnt.getD 1 * esz, rfl, by omega, fun _ => ⟨rfl, rfl⟩⟩

theorem slot_fits {ssz fsize d A bsize cur : Nat} (h1 : ssz = fsize) (h2 : d = fsize) (h3 : A + fsize ≤ bsize)
    (h4 : cur ≤ A) : ¬ (ssz ≠ fsize ∨ d ≠ fsize ∨ A + fsize > bsize ∨ A < cur) := by
  omega

/-- where the validator expects a member of the block: `A` bytes into the block -/
def PosCond (al : Bool) (bstart la : Option Nat) (fo : Option Nat) (A cur : Nat) (first : Bool) (fa : Nat) : Prop :=
  fo = bstart.map (· + A) ∧
  (bstart = none → A = cur ∧ (al = true → first = true ∧ (la = some fa ∨ (la = none ∧ fa = 1))) ∧ (al = false → la = none))

theorem slotsOK_member (cfg : Cfg) (al : Bool) (its : List Item) (bsize : Nat) (bstart la : Option Nat)
    (sl : Slot) (rest : List Slot) (name : String) (an : Bool) (ty : Ty) (fs' : Fields) (fo : Option Nat)
    (offs' : List (Option Nat)) (first : Bool) (cur A fsize a0 b0 : Nat)
    (hnv : isVoid ty = false) (hname : sl.name = name)
    (hsr : slotRange cfg ty its sl cur = some (a0, b0)) (hts : ty.size cfg = some fsize) (hss : sl.size = fsize)
    (hd : b0 - a0 = fsize) (hab : fsize ≠ 0 → a0 = A ∧ b0 = A + fsize) (hcur : cur ≤ A) (hfit : A + fsize ≤ bsize)
    (hpos : PosCond al bstart la fo A cur first (ty.alignment cfg)) :
    slotsOK cfg al its bsize bstart la (sl :: rest) (.cons name an ty none fs') (fo :: offs') first cur =
      slotsOK cfg al its bsize bstart la rest fs' offs' false (A + fsize) := by
  obtain ⟨rfl, hdyn⟩ := hpos
  rw [slotsOK_slot cfg al its bsize bstart la sl rest name an ty fs' _ first cur (fun h => by rw [hnv] at h; cases h.1)
    hname.symm hsr hts]
  -- where the validator places the member: at its bytes, or (zero bytes) where the interpreted reader positions the stream
  have hA : ∀ x : Nat × Nat, x = (A, A) → (if fsize = 0 then x else (a0, b0)) = (A, A + fsize) := by
    intro x hx
    by_cases h0 : fsize = 0
    · rw [if_pos h0, hx, h0]; rfl
    · obtain ⟨rfl, rfl⟩ := hab h0
      rw [if_neg h0]
  cases bstart with
  | some k =>
    simp only [hdOff, Option.map_some, List.drop_one, List.tail_cons]
    rw [hA _ (by simp)]
    simp only [slotAtOK, beq_self_eq_true, if_true]
    rw [if_neg (slot_fits hss hd hfit hcur)]
  | none =>
    obtain ⟨rfl, hal, hnal⟩ := hdyn rfl
    simp only [hdOff, Option.map_none, List.drop_one, List.tail_cons]
    rw [hA _ rfl]
    have hat : slotAtOK al none la none A A first (ty.alignment cfg) = true := by
      cases al with
      | false => simp [slotAtOK, hnal rfl]
      | true =>
        obtain ⟨rfl, hla⟩ := hal rfl
        rcases hla with h | ⟨h1, h2⟩
        · simp [slotAtOK, h]
        · simp [slotAtOK, h1, h2]
    simp only [hat, if_true]
    rw [if_neg (slot_fits hss hd hfit (Nat.le_refl _))]

theorem slotsOK_void_member (cfg : Cfg) (al : Bool) (its : List Item) (bsize : Nat) (bstart la : Option Nat)
    (sl : Slot) (rest : List Slot) (name : String) (an : Bool) (ty : Ty) (fs' : Fields) (fo : Option Nat)
    (offs' : List (Option Nat)) (first : Bool) (cur : Nat)
    (hv : isVoid ty = true) (hname : name ≠ sl.name)
    (hfo : fo = bstart.map (· + cur)) (hdyn : bstart = none → al = true → ty.alignment cfg = 1) :
    slotsOK cfg al its bsize bstart la (sl :: rest) (.cons name an ty none fs') (fo :: offs') first cur =
      slotsOK cfg al its bsize bstart la (sl :: rest) fs' offs' first cur := by
  rw [slotsOK_void cfg al its bsize bstart la sl rest name an fs' _ first cur hv hname, if_pos]
  · rfl
  · rw [hfo]
    cases bstart with
    | some k => simp [hdOff, voidOK]
    | none =>
      cases al with
      | false => rfl
      | true => simp [hdOff, voidOK, hdyn rfl rfl]

end Cstruct.Compiler
