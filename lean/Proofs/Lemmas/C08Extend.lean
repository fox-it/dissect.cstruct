/-
  The extension theorem (`Core.Lemmas.ext_read`) with the union case.
  A covered union either gets its complete buffer or fails, so its private buffer, hence its value, does not change
  when the input is extended; everything else is the induction of `Proofs/Lemmas/CoreUnfold.lean` again.
-/
import Proofs.Lemmas.C08Rigid
import Proofs.Lemmas.CoreWinElem
import Proofs.Lemmas.CoreWinLayout
namespace Cstruct.C08.Lemmas
open Cstruct Cstruct.Core Cstruct.Core.Lemmas

theorem sread_prefix (d t : Bytes) (pos n : Nat) : sread d pos n <+: sread (d ++ t) pos n := by
  unfold sread
  rw [List.drop_append, List.take_append]
  exact List.prefix_append _ _

theorem readLe_union (cfg : Cfg) (al : Bool) (fs : Fields) (ht : Fields.tightUnion cfg al fs = true) (d t : Bytes) :
    ReadLe cfg (.union al fs) d (d ++ t) := by
  intro ctx pos r h
  rw [read_union] at h ⊢
  cases hsz : (Ty.union al fs).size cfg with
  | none => rw [hsz] at h; cases h
  | some sz =>
    rw [hsz] at h
    simp only [] at h ⊢
    obtain ⟨vs, h1, _⟩ := bind_ok h
    have hl := tight_full cfg al fs ht sz hsz [] _ vs h1
    have hl2 := sread_length d pos sz
    rw [sread_append d t pos sz (by omega)]
    exact h

mutual
theorem extU_read (cfg : Cfg) (d t : Bytes) : ∀ (ty : Ty), ty.plainU cfg = true → ReadLe cfg ty d (d ++ t)
  | .sc s a, _ => readLe_sc cfg s a d t
  | .enum b a f, _ => readLe_enum cfg b a f d t
  | .ptr ty, _ => readLe_ptr cfg ty d t
  | .arr e len, hp => by
    have hpe : e.plainU cfg = true := by
      simp only [Ty.plainU, Bool.and_eq_true] at hp; exact hp.2
    have ih := extU_read cfg d t e hpe
    intro ctx pos r h
    cases len with
    | fixed n =>
      rw [read_arr_fixed] at h ⊢
      exact readArray_le cfg e d t ih n ctx pos r h
    | expr toks =>
      rw [read_arr_expr] at h ⊢
      obtain ⟨n, h1, h2⟩ := bind_ok h
      rw [h1]; simp only [Except.bind]
      exact readArray_le cfg e d t ih n ctx pos r h2
    | nullTerm =>
      rw [read_arr_null] at h ⊢
      exact read0_le cfg e d t (plainU_nullTerm cfg e hp) ctx pos r h
    | eof => simp [Ty.plainU] at hp
  | .struct al fs, hp => by
    intro ctx pos r h
    rw [read_struct] at h ⊢
    obtain ⟨⟨sz, salign, offs⟩, h1, h2⟩ := bind_ok h
    obtain ⟨⟨vs, szs, p⟩, h3, h4⟩ := bind_ok h2
    rw [h1]; simp only [Except.bind]
    have hpf : Fields.plainU cfg fs = true := by simpa [Ty.plainU] using hp
    rw [extU_fields cfg d t fs hpf al offs pos BitBuf.empty [] pos _ h3]
    exact h4
  | .union al fs, hp => by
    simp only [Ty.plainU] at hp
    exact readLe_union cfg al fs hp d t
theorem extU_fields (cfg : Cfg) (d t : Bytes) : ∀ (fs : Fields), Fields.plainU cfg fs = true →
    ∀ al offs start bb ctx pos r, readFields cfg al fs offs start bb ctx d pos = .ok r →
      readFields cfg al fs offs start bb ctx (d ++ t) pos = .ok r
  | .nil, _ => by
    intro al offs start bb ctx pos r h
    rw [readFields_nil] at h ⊢; exact h
  | .cons name an ty bits rest, hp => by
    intro al offs start bb ctx pos r h
    simp only [Fields.plainU, Bool.and_eq_true] at hp
    have ih1 := extU_read cfg d t ty hp.1
    have ih2 := extU_fields cfg d t rest hp.2
    cases hb : isBitW bits with
    | false =>
      rw [readFields_cons_nobits _ _ _ _ _ _ _ _ _ _ _ _ _ hb] at h ⊢
      obtain ⟨⟨v, p1⟩, h1, h2⟩ := bind_ok h
      obtain ⟨⟨vs, szs, p'⟩, h3, h4⟩ := bind_ok h2
      rw [ih1 _ _ _ h1]; simp only [Except.bind]
      rw [ih2 _ _ _ _ _ _ _ h3]; exact h4
    | true =>
      obtain ⟨b, rfl⟩ := isBitW_true hb
      rw [readFields_cons_bits] at h ⊢
      cases hbb : ty.bitBase with
      | none => rw [hbb] at h; cases h
      | some ft =>
        rw [hbb] at h; simp only [] at h ⊢
        obtain ⟨⟨bb1, p1⟩, h1, h2⟩ := bind_ok h
        rw [loadUnit_append cfg ft bb d t _ _ h1]; simp only [Except.bind]
        cases htk : bb1.take cfg.endian (b + 1) with
        | none => simp only [htk] at h2; cases h2
        | some vb =>
          obtain ⟨v, bb2⟩ := vb
          simp only [htk] at h2 ⊢
          obtain ⟨⟨vs, szs, p'⟩, h3, h4⟩ := bind_ok h2
          rw [ih2 _ _ _ _ _ _ _ h3]; exact h4
end

theorem extU_members (cfg : Cfg) (b t : Bytes) : ∀ (fs : Fields), Fields.plainU cfg fs = true →
    ∀ ctx vs, readMembers cfg fs ctx b = .ok vs → readMembers cfg fs ctx (b ++ t) = .ok vs
  | .nil, _ => by
    intro ctx vs h
    rw [readMembers_nil] at h ⊢; exact h
  | .cons name an ty bits rest, hp => by
    intro ctx vs h
    simp only [Fields.plainU, Bool.and_eq_true] at hp
    rw [readMembers_cons] at h ⊢
    obtain ⟨⟨v, p⟩, h1, h2⟩ := bind_ok h
    obtain ⟨vs', h3, h4⟩ := bind_ok h2
    rw [extU_read cfg b t ty hp.1 _ _ _ h1]
    simp only [Except.bind]
    rw [extU_members cfg b t rest hp.2 _ _ h3]
    exact h4

end Cstruct.C08.Lemmas
