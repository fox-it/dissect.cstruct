/-
  The block instruction that `_generate_packed` emits for the pending members is accepted by the block validator: one
  induction along the members (`slots_ok`) over the info entries, the format, the slots and `slotsOK` at the same time.
-/
import Proofs.Lemmas.C03CompileSlots

namespace Cstruct.Compiler
open Cstruct Cstruct.Core.Lemmas

theorem map_add_zero (c : Option Nat) : c.map (· + 0) = c := by cases c <;> rfl

theorem map_map_add (c : Option Nat) (a b : Nat) : (c.map (· + a)).map (· + b) = c.map (· + (a + b)) := by
  cases c with
  | none => rfl
  | some k => simp [Nat.add_assoc]

/-- the alignment padding in front of a member of the block, `size` bytes into a block that starts at `bstart` -/
def padOf (al : Bool) (bstart : Option Nat) (size fa : Nat) : Nat :=
  match bstart with
  | some k => if al then padNat (k + size) fa else 0
  | none => 0

theorem alignOpt_eq (al : Bool) (bstart : Option Nat) (size fa : Nat) :
    alignOpt al (bstart.map (· + size)) fa = bstart.map (· + (size + padOf al bstart size fa)) := by
  cases bstart with
  | none => rfl
  | some k => cases al <;> simp [alignOpt, padOf, Nat.add_assoc]

theorem drift1_eq (al : Bool) (bstart : Option Nat) (size fa : Nat) :
    drift1 (bstart.map (· + (size + padOf al bstart size fa))) (bstart.map (· + size)) = .ok (padOf al bstart size fa) := by
  cases bstart with
  | none => rfl
  | some k =>
    simp only [Option.map_some, drift1]
    congr 1
    omega

theorem padNat_zero_left {a : Nat} (ha : IsP2 a) : padNat 0 a = 0 := by
  rw [padNat_p2_eq ha]; simp

/-- dynamically placed blocks: a packed structure has no alignment statement pending; an aligned structure has one
    member per block, aligned by the statement in front of the block -/
def DynOK (cfg : Cfg) (al : Bool) (bstart la : Option Nat) (B : List CField) (first : Bool) (imag : Nat) : Prop :=
  bstart = none → (al = false → la = none) ∧
    (al = true → B = [] ∨ ∃ f, B = [f] ∧ first = true ∧ imag = 0 ∧
      (la = some (f.ty.alignment cfg) ∨ (la = none ∧ f.ty.alignment cfg = 1)))

theorem DynOK.tail {cfg : Cfg} {al : Bool} {bstart la : Option Nat} {f : CField} {B : List CField} {first : Bool}
    {imag : Nat} (h : DynOK cfg al bstart la (f :: B) first imag) (first' : Bool) (imag' : Nat) :
    DynOK cfg al bstart la B first' imag' := by
  intro hb
  obtain ⟨h1, h2⟩ := h hb
  refine ⟨h1, fun hal => ?_⟩
  rcases h2 hal with h | ⟨g, hg, _⟩
  · cases h
  · left
    simp only [List.cons.injEq] at hg
    exact hg.2

theorem drift2_zero (cfg : Cfg) (al : Bool) (bstart la : Option Nat) (f : CField) (B : List CField) (first : Bool)
    (imag size A : Nat) (hoff : f.off = bstart.map (· + A)) (hm : Member cfg al f)
    (hdyn : DynOK cfg al bstart la (f :: B) first imag) : drift2 cfg al f imag = 0 := by
  unfold drift2
  cases bstart with
  | some k => simp [hoff]
  | none =>
    cases hal : al with
    | false => simp
    | true =>
      obtain ⟨_, h2⟩ := hdyn rfl
      rcases h2 hal with h | ⟨g, hg, _, him, _⟩
      · cases h
      · subst him
        simp only [hoff, Option.map_none, Option.isNone_none, and_self, if_true]
        exact padNat_zero_left (hm.p2 hal)

theorem entry_spec (f : CField) (s : Scalar) (count esz : Nat) (entry : List Info)
    (h : entryInfo f s count esz = .ok entry) (hsz : s.size = some esz)
    (hk : isPacked s = true ∨ (isPacked s = false ∧ isByteBased s = true)) :
    ∃ n c, entry = [⟨some f, n, c⟩] ∧ FmtChar c ∧
      ∀ (l : List (Nat × Char)) (off : Nat) (its' : List Item) (t : Nat),
        fmtItems l (off + count * esz) = some (its', t) →
        fmtItems ((n, c) :: l) off = some ((if isPacked s = true then replicateItems s esz count off else []) ++ its', t) := by
  unfold entryInfo at h
  rcases hk with hp | ⟨hp, hb⟩
  · rw [if_pos hp] at h
    split at h
    · rename_i c hc
      cases h
      obtain ⟨h1, h2, h3, h4⟩ := packChar_spec hc
      refine ⟨count, c, rfl, h3, ?_⟩
      intro l off its' t hl
      rw [hsz] at h2
      simp only [fmtItems, if_neg h4, h1, h2, hl, hp, if_true]
    · cases h
  · rw [if_neg (by simp [hp]), if_pos hb] at h
    cases h
    refine ⟨count * esz, 'x', rfl, Or.inl rfl, ?_⟩
    intro l off its' t hl
    simp only [fmtItems, if_true, hl, hp, Bool.false_eq_true, if_false, List.nil_append]

theorem packedSlots_entry (cfg : Cfg) (f : CField) (n : Nat) (c : Char) (l : List Info) (A si : Nat)
    (s : Scalar) (cnt : Option Nat) (esz fsz : Nat) (hrt : readType cfg f.ty = some (s, cnt)) (hsz : s.size = some esz)
    (hts : f.ty.size cfg = some fsz) :
    packedSlots cfg (⟨some f, n, c⟩ :: l) A si =
      match packedSlots cfg l (A + fsz) (slotSrc s cnt esz A si).2 with
      | .error e => .error e
      | .ok (sls, tot) => .ok (⟨f.name, (slotSrc s cnt esz A si).1, slotDec f.ty s esz, fsz⟩ :: sls, tot) := by
  rw [packedSlots]
  simp only [hrt, hts, hsz]
  cases packedSlots cfg l (A + fsz) (slotSrc s cnt esz A si).2 with
  | error e => rfl
  | ok r => rfl

theorem slots_ok (cfg : Cfg) (al : Bool) (bsize : Nat) (bstart la : Option Nat) :
    ∀ {B : List CField} {fsV : Fields} {offsV : List (Option Nat)} {fs : Fields} {offs : List (Option Nat)},
    Pending B fsV offsV fs offs → (∀ f ∈ B, Member cfg al f) → compileWF cfg al fsV = true →
    ∀ (size si imag : Nat) (e : Option Nat) (info : List Info) (slots : List Slot) (tot : Nat) (first : Bool),
      Chain cfg al B (bstart.map (· + size)) e →
      structInfo cfg al B (bstart.map (· + size)) imag = .ok info →
      packedSlots cfg info size si = .ok (slots, tot) →
      tot ≤ bsize →
      DynOK cfg al bstart la B first imag →
      e = bstart.map (· + tot) ∧ size ≤ tot ∧ (slots = [] → ∀ f ∈ B, isVoid f.ty = true) ∧
        (∀ sl ∈ slots, ∃ g ∈ B, g.name = sl.name) ∧ (∀ i ∈ info, FmtChar i.char) ∧
        ∃ its, fmtItems (infoPairs info) size = some (its, tot) ∧
        ∀ pre : List Item, pre.length = si → ∃ fsE offsE,
          slotsOK cfg al (pre ++ its) bsize bstart la slots fsV offsV first size = some (fsE, offsE, tot) ∧
          dv cfg al fsE offsE (bstart.map (· + tot)) = dv cfg al fs offs (bstart.map (· + tot)) := by
  intro B fsV offsV fs offs hp
  induction hp with
  | nil fs offs =>
    intro _ _ size si imag e info slots tot first hc hsi hps _ _
    rw [structInfo] at hsi
    cases hsi
    rw [packedSlots] at hps
    cases hps
    simp only [Chain] at hc
    exact ⟨hc.symm, Nat.le_refl _, (fun _ f hf => by cases hf), (fun sl hsl => by cases hsl), (fun i hi => by cases hi),
      [], rfl, fun pre _ => ⟨fs, offs, slotsOK_nil .., rfl⟩⟩
  | @cons name an ty o B' fsV' offsV' fs offs hp' ih =>
    intro hm hwfV size si imag e info slots tot first hc hsi hps htot hdyn
    obtain ⟨_, hfr, hwfV'⟩ := compileWF_cons hwfV
    have hmf : Member cfg al ⟨name, ty, o⟩ := hm _ List.mem_cons_self
    have hmB : ∀ f ∈ B', Member cfg al f := fun f hf => hm f (List.mem_cons_of_mem _ hf)
    obtain ⟨hc1, hc2⟩ := hc
    simp only at hc1 hc2
    by_cases hv : isVoid ty = true
    · -- a void member: no entry, no slot
      obtain ⟨a, rfl⟩ := isVoid_eq hv
      have hp0 : padOf al bstart size ((Ty.sc .void a).alignment cfg) = 0 := by
        unfold padOf
        cases bstart with
        | none => rfl
        | some k =>
          cases hal : al with
          | false => rfl
          | true => simp only [if_true]; rw [hmf.voidAlign hv hal, padNat_one]
      rw [alignOpt_eq, hp0, Nat.add_zero] at hc1
      subst hc1
      have hd1 := drift1_eq al bstart size ((Ty.sc .void a).alignment cfg)
      rw [hp0, Nat.add_zero] at hd1
      have hd2 := drift2_zero cfg al bstart la ⟨name, .sc .void a, bstart.map (· + size)⟩ B' first imag size size rfl hmf hdyn
      have hts : (Ty.sc .void a).size cfg = some 0 := rfl
      rw [hts] at hc2
      have hc2' : Chain cfg al B' (bstart.map (· + size)) e := by
        cases bstart <;> simpa [addOpt] using hc2
      rw [structInfo_void hd1 rfl, hd2] at hsi
      obtain ⟨info', hsi', rfl⟩ := map_ok hsi
      · rw [map_add_zero, Nat.add_zero] at hsi'
        simp only [padInfo, Nat.lt_irrefl, if_false, List.nil_append, List.append_nil] at hps ⊢
        obtain ⟨he, hle, hvd, hnm, hfc, its, hfi, hall⟩ :=
          ih hmB hwfV' size si imag e info' slots tot first hc2' hsi' hps htot (hdyn.tail _ _)
        refine ⟨he, hle, ?_, fun sl hsl => ?_, hfc, its, hfi, fun pre hpre => ?_⟩
        · intro hs f hf
          rcases List.mem_cons.mp hf with rfl | hf
          · exact hv
          · exact hvd hs f hf
        · obtain ⟨g, hg, hgn⟩ := hnm sl hsl
          exact ⟨g, List.mem_cons_of_mem _ hg, hgn⟩
        obtain ⟨fsE, offsE, hso, hdv⟩ := hall pre hpre
        cases slots with
        | nil =>
          rw [slotsOK_nil] at hso
          cases hso
          refine ⟨_, _, slotsOK_nil .., ?_⟩
          rw [dv_void _ _ _ _ _ _ _ _ hv, List.drop_one, List.tail_cons, hdv]
          simp only [voidOK, hdOff]
          cases bstart with
          | some k => simp
          | none =>
            cases hal : al with
            | false => simp
            | true => simp [hmf.voidAlign hv hal]
        | cons sl rest =>
          have hne : name ≠ sl.name := by
            obtain ⟨g, hg, hgn⟩ := hnm sl List.mem_cons_self
            intro he
            exact hfr hv rfl (by rw [he, ← hgn]; exact hp'.mem_names g hg)
          rw [slotsOK_void_member cfg al _ bsize bstart la sl rest name an _ fsV' _ offsV' first size hv hne rfl
            (fun hb hal => hmf.voidAlign hv hal)]
          exact ⟨fsE, offsE, hso, hdv⟩
    · -- a member with an entry and a slot
      have hv' : isVoid ty = false := by simpa using hv
      obtain ⟨s, cnt, esz, hrt, hnvd, hsz, hts, hdec, hk⟩ := hmf.nonvoid hv'
      simp only at hrt hts hdec
      rw [alignOpt_eq] at hc1
      have hd1 := drift1_eq al bstart size (ty.alignment cfg)
      generalize hpd : padOf al bstart size (ty.alignment cfg) = p at hc1 hd1
      subst hc1
      have hd2 := drift2_zero cfg al bstart la ⟨name, ty, bstart.map (· + (size + p))⟩ B' first imag size _ rfl hmf hdyn
      rw [structInfo_member hd1 hrt hnvd hsz, hd2] at hsi
      obtain ⟨entry, hen, hsi⟩ := bind_ok hsi
      obtain ⟨info', hsi', rfl⟩ := map_ok hsi
      · rw [Nat.add_zero, map_map_add bstart size p, map_map_add] at hsi'
        · obtain ⟨n, c, rfl, hfc, hfm⟩ := entry_spec _ s (cnt.getD 1) esz entry hen hsz hk
          have hpi0 : padInfo 0 = [] := rfl
          rw [hpi0, List.append_nil, List.append_assoc, packedSlots_pad, List.cons_append, List.nil_append,
            packedSlots_entry cfg ⟨name, ty, bstart.map (· + (size + p))⟩ n c info' (size + p) si s cnt esz _ hrt hsz hts] at hps
          split at hps
          · cases hps
          · rename_i slots' tot' hps'
            simp only [Except.ok.injEq, Prod.mk.injEq] at hps
            obtain ⟨rfl, rfl⟩ := hps
            rw [hts] at hc2
            have hc2' : Chain cfg al B' (bstart.map (· + (size + p + cnt.getD 1 * esz))) e := by
              cases bstart <;> simpa [addOpt, Nat.add_assoc] using hc2
            obtain ⟨he, hle, _, hnm, hfc', its', hfi', hall⟩ := ih hmB hwfV' (size + p + cnt.getD 1 * esz) _ _ e info' slots' tot'
              false hc2' hsi' hps' htot (hdyn.tail _ _)
            refine ⟨he, Nat.le_trans (Nat.le_trans (Nat.le_add_right _ _) (Nat.le_add_right _ _)) hle, (fun h => by cases h),
              fun sl hsl => ?_, fun i hi => ?_,
              (if isPacked s = true then replicateItems s esz (cnt.getD 1) (size + p) else []) ++ its', ?_, ?_⟩
            · rcases List.mem_cons.mp hsl with rfl | hsl
              · exact ⟨_, List.mem_cons_self, rfl⟩
              · obtain ⟨g, hg, hgn⟩ := hnm sl hsl
                exact ⟨g, List.mem_cons_of_mem _ hg, hgn⟩
            · simp only [hpi0, List.append_nil, List.mem_append, List.mem_singleton] at hi
              rcases hi with (hi | rfl) | hi
              · exact padInfo_char p i hi
              · exact hfc
              · exact hfc' i hi
            · rw [hpi0, List.append_nil, List.append_assoc, fmtItems_pad]
              exact hfm _ _ _ _ hfi'
            · intro pre hpre
              have hlen : (pre ++ (if isPacked s = true then replicateItems s esz (cnt.getD 1) (size + p) else [])).length =
                  (slotSrc s cnt esz (size + p) si).2 := by
                rw [slotSrc_snd, List.length_append, hpre]
                rcases hk with hp | ⟨hp, hb⟩
                · rw [if_pos hp, isPacked_not_byteBased hp, replicateItems_length]; simp
                · rw [if_neg (by simp [hp]), if_pos hb]; rfl
              obtain ⟨fsE, offsE, hso, hdv⟩ := hall _ hlen
              refine ⟨fsE, offsE, ?_, hdv⟩
              obtain ⟨a0, b0, hsr, hd, hab⟩ := slotRange_member cfg ty s cnt esz hrt hsz hdec hk name
                (cnt.getD 1 * esz) (size + p) size pre its'
              rw [hpre] at hsr
              rw [← List.append_assoc, slotsOK_member cfg al _ bsize bstart la _ slots' name an ty fsV' _ offsV' first size
                (size + p) (cnt.getD 1 * esz) a0 b0 hv' rfl hsr hts rfl hd hab (Nat.le_add_right _ _)
                (Nat.le_trans hle htot) ?_]
              · exact hso
              · refine ⟨rfl, fun hb => ?_⟩
                subst hb
                have hp0 : p = 0 := by rw [← hpd]; rfl
                obtain ⟨h1, h2⟩ := hdyn rfl
                refine ⟨by rw [hp0]; rfl, fun hal => ?_, h1⟩
                rcases h2 hal with h | ⟨g, hg, hf, _, hla⟩
                · cases h
                · simp only [List.cons.injEq] at hg
                  obtain ⟨rfl, _⟩ := hg
                  exact ⟨hf, hla⟩

theorem genPacked_block (cfg : Cfg) (al : Bool) (B : List CField) (blk : Instr) (h : genPacked cfg al B = .ok blk) :
    ∃ size fmt slots, blk = .block size fmt slots := by
  unfold genPacked at h
  split at h
  · cases h
  · split at h
    · cases h
    · split at h
      · cases h
      · cases h
        exact ⟨_, _, _, rfl⟩

theorem block_ok (cfg : Cfg) (al : Bool) (bstart la : Option Nat) {B : List CField} {fsV : Fields}
    {offsV : List (Option Nat)} {fs : Fields} {offs : List (Option Nat)} (hp : Pending B fsV offsV fs offs)
    (hm : ∀ f ∈ B, Member cfg al f) (hwfV : compileWF cfg al fsV = true) (e : Option Nat) (hc : Chain cfg al B bstart e)
    (f0 : CField) (B0 : List CField) (hB : B = f0 :: B0) (hoff : f0.off = bstart)
    (blk : Instr) (hg : genPacked cfg al B = .ok blk) (hdyn : DynOK cfg al bstart la B true 0) :
    ∃ size fmt slots its, blk = .block size fmt slots ∧ fmtItemsOf fmt size = some its ∧ e = bstart.map (· + size) ∧
      (slots = [] → ∀ f ∈ B, isVoid f.ty = true) ∧
      ∃ fsE offsE, slotsOK cfg al its size bstart la slots fsV offsV true 0 = some (fsE, offsE, size) ∧
        dv cfg al fsE offsE (bstart.map (· + size)) = dv cfg al fs offs (bstart.map (· + size)) := by
  subst hB
  unfold genPacked at hg
  simp only at hg
  split at hg
  · cases hg
  · rename_i info hsi
    split at hg
    · cases hg
    · rename_i slots size hps
      cases hg
      rw [hoff, ← map_add_zero bstart] at hsi
      rw [← map_add_zero bstart] at hc
      obtain ⟨he, _, hvd, _, hfc, its, hfi, hall⟩ := slots_ok cfg al size bstart la hp hm hwfV 0 0 0 e info slots size true hc hsi hps
        (Nat.le_refl _) hdyn
      obtain ⟨fsE, offsE, hso, hdv⟩ := hall [] rfl
      rw [List.nil_append] at hso
      exact ⟨size, _, slots, its, rfl,
        fmtItemsOf_block info hfc its size hfi, he, hvd, fsE, offsE, hso, hdv⟩

end Cstruct.Compiler
