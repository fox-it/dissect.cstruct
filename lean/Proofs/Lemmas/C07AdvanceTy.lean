/-
  Element types that make progress: layout offsets, the field loop, structures and unions, and the induction
  over the type (`adv_ty`).
-/
import Proofs.Lemmas.C07Advance
namespace Cstruct.C07.Lemmas
open Cstruct Cstruct.C07 Cstruct.Core.Lemmas

-- every known layout offset is positive: reading a member there does not seek back to the start of the structure
def PosOffs (offs : List (Option Nat)) : Prop := ∀ o, some o ∈ offs → 0 < o

/-- behind a member that is not a bit-field and whose declared size is not 0 every layout offset is positive -/
def OffsOK (cfg : Cfg) : Fields → List (Option Nat) → Prop
  | .nil, _ => True
  | .cons _ _ t bits r, offs =>
    (isBitW bits = false → t.size cfg ≠ some 0 → PosOffs (offs.drop 1)) ∧ OffsOK cfg r (offs.drop 1)

theorem isBitW_cases (bits : Option Nat) : isBitW bits = false ∨ ∃ b, bits = some (b + 1) := by
  rcases bits with _ | _ | b
  · exact .inl rfl
  · exact .inl rfl
  · exact .inr ⟨b, rfl⟩

theorem layout_cons_inv (cfg : Cfg) (al : Bool) (name an ty bits rest) (st : LState) (sz a offs)
    (h : Fields.layout cfg al (.cons name an ty bits rest) st = .ok (sz, a, offs)) :
    ∃ foff offs' st', offs = foff :: offs' ∧ Fields.layout cfg al rest st' = .ok (sz, a, offs') ∧
      (∀ o, foff = some o → ∃ o0, st.offset = some o0 ∧ o0 ≤ o) ∧
      (∀ o, st'.offset = some o → ∃ o0, st.offset = some o0 ∧ o0 ≤ o ∧
        (isBitW bits = false → ty.size cfg ≠ some 0 → o0 < o)) := by
  obtain ⟨st', foff, offs', hs, hr, rfl⟩ := Layout.layout_cons_ok h
  refine ⟨foff, offs', st', rfl, hr, ?_⟩
  rcases (Layout.stepL_ok hs).2 with ⟨_, hf, ho⟩ | ⟨⟨b, rfl⟩, ⟨hf, fsz, ho⟩ | ⟨hf, ho⟩⟩
  · -- no bit width: placed at the aligned offset, the offset moves on by the size
    refine ⟨fun o h => Layout.offOf_some (hf ▸ h), fun o h => ?_⟩
    rw [ho] at h
    obtain ⟨o1, h1, h⟩ := Option.bind_eq_some_iff.1 h
    obtain ⟨k, hk, rfl⟩ := Option.map_eq_some_iff.1 h
    obtain ⟨o0, h0, hle⟩ := Layout.offOf_some h1
    exact ⟨o0, h0, by omega, fun _ hsz => by have : k ≠ 0 := fun hk0 => hsz (hk0 ▸ hk); omega⟩
  · -- a bit-field that opens a unit: its offset is that of the unit
    refine ⟨fun o h => Layout.offOf_some (hf ▸ h), fun o h => ?_⟩
    rw [ho] at h
    obtain ⟨o1, h1, rfl⟩ := Option.map_eq_some_iff.1 h
    obtain ⟨o0, h0, hle⟩ := Layout.offOf_some h1
    exact ⟨o0, h0, by omega, nofun⟩
  · -- a bit-field that continues a unit records no offset
    refine ⟨fun o h => (by rw [hf] at h; cases h), fun o h => ?_⟩
    obtain ⟨o0, h0, hle⟩ := Layout.offOf_some (ho ▸ h)
    exact ⟨o0, h0, hle, nofun⟩

theorem layout_posOffs (cfg : Cfg) (al : Bool) : ∀ (fs : Fields) (st : LState),
    (∀ o, st.offset = some o → 0 < o) → ∀ sz a offs, Fields.layout cfg al fs st = .ok (sz, a, offs) → PosOffs offs
  | .nil, st, _, sz, a, offs, h => by
    rw [Fields.layout] at h
    cases h
    nofun
  | .cons name an ty bits rest, st, hst, sz, a, offs, h => by
    obtain ⟨foff, offs', st', rfl, h1, h2, h3⟩ := layout_cons_inv cfg al name an ty bits rest st sz a offs h
    have ih := layout_posOffs cfg al rest st' (fun o ho => by
      obtain ⟨o0, h4, h5, _⟩ := h3 o ho
      have := hst o0 h4
      omega) _ _ _ h1
    intro o ho
    rcases List.mem_cons.1 ho with ho | ho
    · obtain ⟨o0, h4, h5⟩ := h2 o ho.symm
      have := hst o0 h4
      omega
    · exact ih o ho

theorem layout_offsOK (cfg : Cfg) (al : Bool) : ∀ (fs : Fields) (st : LState),
    ∀ sz a offs, Fields.layout cfg al fs st = .ok (sz, a, offs) → OffsOK cfg fs offs
  | .nil, _, _, _, _, _ => trivial
  | .cons name an ty bits rest, st, sz, a, offs, h => by
    obtain ⟨foff, offs', st', rfl, h1, _, h3⟩ := layout_cons_inv cfg al name an ty bits rest st sz a offs h
    refine ⟨fun hb hsz => layout_posOffs cfg al rest st' (fun o ho => ?_) _ _ _ h1, layout_offsOK cfg al rest st' _ _ _ h1⟩
    obtain ⟨o0, _, _, h6⟩ := h3 o ho
    have := h6 hb hsz
    omega

theorem fieldPos_ge (cfg : Cfg) (al : Bool) (ty : Ty) (foff : Option Nat) (start pos : Nat) (h : start ≤ pos) :
    start ≤ fieldPos cfg al ty foff start pos ∧
      (start < pos → (∀ o, foff = some o → 0 < o) → start < fieldPos cfg al ty foff start pos) := by
  unfold fieldPos
  cases foff with
  | none =>
    simp only []
    split <;> exact ⟨by omega, fun _ _ => by omega⟩
  | some fo =>
    simp only [Option.isNone_some, Bool.false_eq_true, and_false, if_false]
    exact ⟨by omega, fun _ hfo => by have := hfo fo rfl; omega⟩

def StrF (cfg : Cfg) (fs : Fields) : Prop :=
  ∀ al offs start bb ctx d pos vs szs q, readFields cfg al fs offs start bb ctx d pos = .ok (vs, szs, q) → start ≤ pos →
    OffsOK cfg fs offs → start < q ∧ start < d.length

/-- the field loop does not end before the start of the structure, and is `StrF` under `fieldsConsume`: one statement,
    so that one induction over the fields gives both -/
def AdvF (cfg : Cfg) (fs : Fields) : Prop :=
  ∀ al offs start bb ctx d pos vs szs q, readFields cfg al fs offs start bb ctx d pos = .ok (vs, szs, q) → start ≤ pos →
    start ≤ q ∧ (start < pos → PosOffs offs → start < q) ∧
      (fieldsConsume cfg fs = true → OffsOK cfg fs offs → start < q ∧ start < d.length)

theorem head_mem_of_join {offs : List (Option Nat)} {o : Nat} (h : offs.head?.join = some o) : some o ∈ offs := by
  cases offs with
  | nil => simp at h
  | cons x t =>
    simp only [List.head?_cons, Option.join_some] at h
    rw [h]; exact List.mem_cons_self ..

theorem posOffs_drop {offs : List (Option Nat)} (h : PosOffs offs) : PosOffs (offs.drop 1) :=
  fun o ho => h o (List.mem_of_mem_drop ho)

theorem readFields_bits_inv (cfg : Cfg) (al name an ty b rest offs start bb ctx d pos vs szs q)
    (h : readFields cfg al (.cons name an ty (some (b + 1)) rest) offs start bb ctx d pos = .ok (vs, szs, q)) :
    ∃ p1 bb2 ctx' vs' szs', fieldPos cfg al ty offs.head?.join start pos ≤ p1 ∧
      readFields cfg al rest (offs.drop 1) start bb2 ctx' d p1 = .ok (vs', szs', q) := by
  rw [readFields_cons_bits] at h
  split at h
  · cases h
  · obtain ⟨⟨bb1, p1⟩, h1, h2⟩ := bind_ok h
    simp only [] at h2
    split at h2
    · cases h2
    · obtain ⟨⟨vs', szs', q'⟩, h3, h4⟩ := bind_ok h2
      cases h4
      exact ⟨p1, _, _, vs', szs', WinBits.loadUnit_pos cfg _ _ _ _ _ _ h1, h3⟩

theorem advF_nil (cfg : Cfg) : AdvF cfg .nil := by
  intro al offs start bb ctx d pos vs szs q h hs
  rw [readFields_nil] at h
  cases h
  exact ⟨hs, fun h _ => h, nofun⟩

theorem advF_cons (cfg : Cfg) (name an ty bits rest) (hT : Adv cfg ty) (hR : AdvF cfg rest) :
    AdvF cfg (.cons name an ty bits rest) := by
  intro al offs start bb ctx d pos vs szs q h hs
  obtain ⟨g1, g2⟩ := fieldPos_ge cfg al ty offs.head?.join start pos hs
  have later : ∀ {p1 bb2 ctx' vs' szs'}, fieldPos cfg al ty offs.head?.join start pos ≤ p1 →
      readFields cfg al rest (offs.drop 1) start bb2 ctx' d p1 = .ok (vs', szs', q) →
      start ≤ q ∧ (start < pos → PosOffs offs → start < q) ∧
        (fieldsConsume cfg rest = true → OffsOK cfg rest (offs.drop 1) → start < q ∧ start < d.length) := by
    intro p1 bb2 ctx' vs' szs' hp1 h3
    obtain ⟨r1, r2, r3⟩ := hR _ _ _ _ _ _ _ _ _ _ h3 (by omega)
    refine ⟨r1, fun hlt hpo => ?_, r3⟩
    have := g2 hlt (fun o ho => hpo o (head_mem_of_join ho))
    exact r2 (by omega) (posOffs_drop hpo)
  rcases isBitW_cases bits with hb | ⟨b, rfl⟩
  · rw [readFields_cons_nobits cfg al name an ty bits rest offs start bb ctx d pos hb] at h
    obtain ⟨⟨v, p1⟩, h1, h2⟩ := bind_ok h
    obtain ⟨⟨vs', szs', q'⟩, h3, h4⟩ := bind_ok h2
    cases h4
    obtain ⟨t1, t2⟩ := hT _ _ _ _ _ h1
    obtain ⟨r1, r2, r3⟩ := later t1 h3
    refine ⟨r1, r2, fun hc hok => ?_⟩
    simp only [fieldsConsume, Bool.and_eq_true, Bool.or_eq_true] at hc
    rcases hc with hc | hc
    · -- this member takes a byte, and the members behind it do not seek back to the start
      obtain ⟨s1, s2⟩ := t2 hc.1.2
      have := (hR _ _ _ _ _ _ _ _ _ _ h3 (by omega)).2.1 (by omega) (hok.1 hb (by simpa using hc.2))
      exact ⟨this, by omega⟩
    · exact r3 hc hok.2
  · obtain ⟨p1, bb2, ctx', vs', szs', hp1, h3⟩ := readFields_bits_inv cfg al name an ty b rest offs start bb ctx d pos vs szs q h
    obtain ⟨r1, r2, r3⟩ := later hp1 h3
    exact ⟨r1, r2, fun hc hok => r3 (by simpa [fieldsConsume] using hc) hok.2⟩

theorem adv_struct (cfg : Cfg) (al : Bool) (fs : Fields) (hR : AdvF cfg fs) : Adv cfg (.struct al fs) := by
  intro ctx d p v q h
  rw [read_struct] at h
  obtain ⟨⟨sz, salign, offs⟩, h1, h2⟩ := bind_ok h
  obtain ⟨⟨vs, szs, q'⟩, h3, h4⟩ := bind_ok h2
  simp only [Except.ok.injEq, Prod.mk.injEq] at h4
  obtain ⟨r1, _, r3⟩ := hR _ _ _ _ _ _ _ _ _ _ h3 (Nat.le_refl _)
  obtain ⟨_, rfl⟩ := h4
  refine ⟨by split <;> omega, fun hc => ?_⟩
  obtain ⟨s1, s2⟩ := r3 hc (layout_offsOK cfg al fs _ _ _ _ h1)
  exact ⟨by split <;> omega, s2⟩

theorem read_union_inv (cfg : Cfg) (al : Bool) (fs : Fields) (ctx : Ctx) (d : Bytes) (p : Nat) (v : Val) (q : Nat)
    (h : read cfg (.union al fs) ctx d p = .ok (v, q)) :
    ∃ sz vs, q = p + sz ∧ readMembers cfg fs [] (sread d p sz) = .ok vs := by
  rw [read] at h
  split at h
  · cases h
  · rename_i sz _
    simp only [] at h
    split at h
    · cases h
    · rename_i vs hm
      cases h
      exact ⟨sz, vs, rfl, hm⟩

theorem adv_union (cfg : Cfg) (al : Bool) (fs : Fields) (hS : firstConsumes cfg fs = true → Str cfg (.union al fs)) :
    Adv cfg (.union al fs) := by
  intro ctx d p v q h
  obtain ⟨sz, vs, rfl, _⟩ := read_union_inv cfg al fs ctx d p v q h
  exact ⟨Nat.le_add_right _ _, fun hc => hS hc ctx d p v _ h⟩

theorem str_union (cfg : Cfg) (al : Bool) (name an ty bits rest) (hS : Str cfg ty) :
    Str cfg (.union al (.cons name an ty bits rest)) := by
  intro ctx d p v q h
  obtain ⟨sz, vs, rfl, hm⟩ := read_union_inv cfg al _ ctx d p v q h
  rw [readMembers] at hm
  split at hm
  · cases hm
  · rename_i v' q' hr
    have := (hS _ _ _ _ _ hr).2
    have hl := sread_length d p sz
    exact ⟨by omega, by omega⟩

mutual
theorem adv_ty (cfg : Cfg) : ∀ t : Ty, Adv cfg t
  | .sc s a => adv_sc cfg s a
  | .enum b a f => adv_enum cfg b a f
  | .ptr t => adv_ptr cfg t
  | .arr e len => by
    have hA := adv_ty cfg e
    intro ctx d p v q hr
    cases len with
    | fixed n =>
      rw [read_arr_fixed] at hr
      obtain ⟨h1, h2⟩ := readArray_adv hA hr
      exact ⟨h1, fun hc => by
        simp only [consumes, Bool.and_eq_true, bne_iff_ne, ne_eq] at hc
        exact h2 hc.2 hc.1⟩
    | expr toks =>
      rw [read_arr_expr] at hr
      obtain ⟨n, _, h2⟩ := bind_ok hr
      exact ⟨(readArray_adv hA h2).1, nofun⟩
    | nullTerm =>
      rw [read_arr_null] at hr
      obtain ⟨h1, h2⟩ := read0_adv hA hr
      exact ⟨h1, fun hc => h2 (by simpa [consumes] using hc)⟩
    | eof =>
      rw [read_arr_eof] at hr
      exact ⟨readEOF_fwd hA hr, nofun⟩
  | .struct al fs => adv_struct cfg al fs (adv_fields cfg fs)
  | .union al fs => adv_union cfg al fs fun h => str_first cfg fs h al
theorem adv_fields (cfg : Cfg) : ∀ fs : Fields, AdvF cfg fs
  | .nil => advF_nil cfg
  | .cons name an ty bits rest => advF_cons cfg name an ty bits rest (adv_ty cfg ty) (adv_fields cfg rest)
theorem str_first (cfg : Cfg) : ∀ fs : Fields, firstConsumes cfg fs = true → ∀ al, Str cfg (.union al fs)
  | .nil, h => by cases h
  | .cons name an ty bits rest, h => fun al =>
    str_union cfg al name an ty bits rest fun ctx d p v q hr => (adv_ty cfg ty ctx d p v q hr).2 h
end

theorem str_ty (cfg : Cfg) (t : Ty) (h : consumes cfg t = true) : Str cfg t :=
  fun ctx d p v q hr => (adv_ty cfg t ctx d p v q hr).2 h

theorem str_fields (cfg : Cfg) : ∀ fs : Fields, fieldsConsume cfg fs = true → StrF cfg fs :=
  fun fs h al offs start bb ctx d pos vs szs q hr hs hok => (adv_fields cfg fs al offs start bb ctx d pos vs szs q hr hs).2.2 h hok

theorem progress_consumes (cfg : Cfg) (e : Ty) (ctx : Ctx) (d : Bytes) (hs : isStructLike e = true)
    (hc : consumes cfg e = true) : Progress cfg e ctx d := by
  intro p v q h _
  rw [elemRead_eq_read cfg (by rintro a rfl; cases hs)] at h
  exact str_ty cfg e hc ctx d p v q h

end Cstruct.C07.Lemmas
