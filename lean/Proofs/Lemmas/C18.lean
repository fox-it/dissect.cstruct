/-
  Helper lemmas for `Proofs/C18.lean` and `Proofs/C18Update.lean`: the one-shot layout and the incremental one as the same
  step per field (`stepL`); `Restep`, the condition under which a recorded offset leads the next commit to the same
  place; extending, re-committing and committing in batches under it, for either `align` flag.
-/
import CstructModel.Commit
import Proofs.C04
namespace Cstruct.C18.Lemmas
open Cstruct Cstruct.Commit Cstruct.Layout

abbrev Res := Except Err (Option Nat × Nat × List (Option Nat))

/-- `if field.offset is not None: offset = field.offset` -/
def leadOf (pre : List (Option Nat)) (st : LState) : Option Nat :=
  match pre.headD none with | some o => some o | none => st.offset

def cont (r : Except Err (LState × Option Nat)) (k : LState → Res) : Res :=
  match r with
  | .error e => .error e
  | .ok (st', foff) =>
    match k st' with
    | .error e => .error e
    | .ok (sz, al, offs) => .ok (sz, al, foff :: offs)

theorem cont_eq (r : Except Err (LState × Option Nat)) (k : LState → Res) : cont r k = andRest r k := by
  unfold cont andRest
  cases r with
  | error e => rfl
  | ok p => dsimp only; cases k p.1 <;> rfl

theorem layout_cons (cfg : Cfg) (al : Bool) (n : String) (an : Bool) (ty : Ty) (bits : Option Nat) (rest : Fields)
    (st : LState) :
    Fields.layout cfg al (.cons n an ty bits rest) st =
      cont (stepL cfg al ty bits st.offset none st) (Fields.layout cfg al rest) := by
  rw [cont_eq, layout_cons_eq]

theorem layoutP_cons (cfg : Cfg) (al : Bool) (n : String) (an : Bool) (ty : Ty) (bits : Option Nat) (rest : Fields)
    (pre : List (Option Nat)) (st : LState) :
    layoutP cfg al (.cons n an ty bits rest) pre st =
      cont (stepL cfg al ty bits (leadOf pre st) (pre.headD none) st) (layoutP cfg al rest (pre.drop 1)) := by
  cases bits with
  | none =>
    rw [layoutP]
    · rfl
    · intro b h; cases h
  | some b =>
    cases b with
    | zero =>
      rw [layoutP]
      · rfl
      · intro b h; cases h
    | succ b =>
      rw [layoutP]
      unfold stepL
      cases ty.bitBase with
      | none => rfl
      | some ft =>
        dsimp only
        cases ft.size with
        | none => rfl
        | some fsz =>
          dsimp only
          show (match third st ft (offOf al (ty.alignment cfg) (leadOf pre st)) with
            | .error e => _
            | .ok nu => _) = _
          cases third st ft (offOf al (ty.alignment cfg) (leadOf pre st)) with
          | error e => rfl
          | ok nu =>
            cases nu with
            | false =>
              simp only [Bool.false_eq_true, ↓reduceIte]
              split <;> rfl
            | true =>
              simp only [↓reduceIte]
              split <;> rfl

theorem cont_congr {r : Except Err (LState × Option Nat)} {k k' : LState → Res} (h : ∀ s, k s = k' s) :
    cont r k = cont r k' := by
  have : k = k' := funext h
  rw [this]

theorem cont_ok_inv {r : Except Err (LState × Option Nat)} {k : LState → Res} {sz : Option Nat} {a : Nat}
    {offs : List (Option Nat)} (h : cont r k = .ok (sz, a, offs)) :
    ∃ st' foff offs', r = .ok (st', foff) ∧ k st' = .ok (sz, a, offs') ∧ offs = foff :: offs' := by
  unfold cont at h
  cases r with
  | error e => cases h
  | ok p =>
    obtain ⟨st', foff⟩ := p
    dsimp only at h
    cases hk : k st' with
    | error e => rw [hk] at h; cases h
    | ok q =>
      obtain ⟨s, a', o'⟩ := q
      rw [hk] at h
      simp only [Except.ok.injEq, Prod.mk.injEq] at h
      obtain ⟨rfl, rfl, rfl⟩ := h
      exact ⟨st', foff, o', rfl, hk, rfl⟩

theorem cont_ok {st' : LState} {foff : Option Nat} {k : LState → Res} {sz : Option Nat} {a : Nat}
    {offs' : List (Option Nat)} (hk : k st' = .ok (sz, a, offs')) :
    cont (.ok (st', foff)) k = .ok (sz, a, foff :: offs') := by
  unfold cont
  simp only [hk]

theorem append_nil : ∀ fs : Fields, Fields.append fs .nil = fs
  | .nil => rfl
  | .cons n a t b r => by rw [Fields.append, append_nil r]

theorem fresh (cfg : Cfg) (al : Bool) : ∀ (fs : Fields) (st : LState) (n : Nat),
    layoutP cfg al fs (List.replicate n none) st = Fields.layout cfg al fs st
  | .nil, st, n => by rw [layoutP, Fields.layout]; rfl
  | .cons nm an ty bits rest, st, n => by
    rw [layoutP_cons, layout_cons]
    have h1 : (List.replicate n (none : Option Nat)).headD none = none := by cases n <;> rfl
    have h2 : (List.replicate n (none : Option Nat)).drop 1 = List.replicate (n - 1) none := by
      cases n <;> simp [List.replicate]
    have h3 : leadOf (List.replicate n none) st = st.offset := by unfold leadOf; rw [h1]
    rw [h1, h2, h3]
    exact cont_congr (fun s => fresh cfg al rest s (n - 1))

theorem step_inv (cfg : Cfg) (al : Bool) (ty : Ty) (bits : Option Nat) (lead : Option Nat) (st st' : LState)
    (foff : Option Nat) (h : stepL cfg al ty bits lead none st = .ok (st', foff)) :
    (foff = none ∨ foff = offOf al (ty.alignment cfg) lead) ∧ stepL cfg al ty bits lead foff st = .ok (st', foff) := by
  cases bits with
  | none =>
    refine ⟨Or.inr ?_, h⟩
    simp only [stepL, Except.ok.injEq, Prod.mk.injEq] at h
    exact h.2.symm
  | some b =>
    cases b with
    | zero =>
      refine ⟨Or.inr ?_, h⟩
      simp only [stepL, Except.ok.injEq, Prod.mk.injEq] at h
      exact h.2.symm
    | succ b =>
      unfold stepL at h ⊢
      cases hb : ty.bitBase with
      | none => rw [hb] at h; cases h
      | some ft =>
        rw [hb] at h
        dsimp only at h ⊢
        cases hs : ft.size with
        | none => rw [hs] at h; cases h
        | some fsz =>
          rw [hs] at h
          dsimp only at h ⊢
          cases ht : third st ft (offOf al (ty.alignment cfg) lead) with
          | error e => rw [ht] at h; cases h
          | ok nu =>
            rw [ht] at h
            cases nu with
            | false =>
              simp only [Bool.false_eq_true, ↓reduceIte] at h ⊢
              split at h
              · cases h
              · rename_i hr
                simp only [Except.ok.injEq, Prod.mk.injEq] at h
                obtain ⟨h1, h2⟩ := h
                subst h2
                refine ⟨Or.inl rfl, ?_⟩
                simp only [hr, ↓reduceIte, h1]
            | true =>
              simp only [↓reduceIte] at h ⊢
              split at h
              · cases h
              · rename_i hr
                simp only [Except.ok.injEq, Prod.mk.injEq] at h
                obtain ⟨h1, h2⟩ := h
                subst h2
                refine ⟨Or.inr rfl, ?_⟩
                simp only [hr, ↓reduceIte, h1]

theorem offOf_packed (fa : Nat) (l : Option Nat) : offOf false fa l = l := by
  cases l <;> rfl

/-- packed mode: the recorded offset is `none` or the running offset, so it leads nowhere else -/
theorem step_packed (cfg : Cfg) (ty : Ty) (bits : Option Nat) (st st' : LState) (foff : Option Nat)
    (offs' : List (Option Nat)) (h : stepL cfg false ty bits st.offset none st = .ok (st', foff)) :
    stepL cfg false ty bits (leadOf (foff :: offs') st) foff st = .ok (st', foff) := by
  obtain ⟨h1, h2⟩ := step_inv cfg false ty bits st.offset st st' foff h
  have hl : leadOf (foff :: offs') st = st.offset := by
    unfold leadOf
    rw [offOf_packed] at h1
    rcases h1 with h1 | h1
    · subst h1; rfl
    · subst h1; cases st.offset <;> rfl
  rw [hl]
  exact h2

theorem padNat_aligned (c fa : Nat) (hp : C04.isPow2 fa) : padNat (c + padNat c fa) fa = 0 := by
  obtain ⟨k, rfl⟩ := hp
  obtain ⟨_, _, h3, _⟩ := C04.c04_pad c k
  rw [(C04.c04_pad (c + padNat c (2 ^ k)) k).1]
  unfold pad
  rw [h3, Nat.sub_zero, Nat.mod_self]

theorem offOf_idem (fa : Nat) (hp : C04.isPow2 fa) (l : Option Nat) (offs' : List (Option Nat)) (st : LState)
    (hl : st.offset = l) : offOf true fa (leadOf (offOf true fa l :: offs') st) = offOf true fa l := by
  cases l with
  | none => unfold leadOf; rw [hl]; rfl
  | some c =>
    show (some (c + padNat c fa + padNat (c + padNat c fa) fa) : Option Nat) = some (c + padNat c fa)
    rw [padNat_aligned c fa hp, Nat.add_zero]

/-- aligned mode, no bit-field, power-of-two alignment: the recorded offset is already aligned -/
theorem step_aligned (cfg : Cfg) (ty : Ty) (st st' : LState) (foff : Option Nat) (offs' : List (Option Nat))
    (hp : C04.isPow2 (ty.alignment cfg))
    (h : stepL cfg true ty none st.offset none st = .ok (st', foff)) :
    stepL cfg true ty none (leadOf (foff :: offs') st) foff st = .ok (st', foff) := by
  have hf : foff = offOf true (ty.alignment cfg) st.offset := by
    simp only [stepL, Except.ok.injEq, Prod.mk.injEq] at h
    exact h.2.symm
  rw [← h]
  subst hf
  simp only [stepL, offOf_idem _ hp st.offset offs' st rfl]

/-- every field's recorded offset, taken as the lead at the next commit, reproduces the step that recorded it -/
def Restep (cfg : Cfg) (al : Bool) : Fields → Prop
  | .nil => True
  | .cons _ _ ty bits rest =>
    (∀ (st st' : LState) (foff : Option Nat) (offs' : List (Option Nat)),
      stepL cfg al ty bits st.offset none st = .ok (st', foff) →
      stepL cfg al ty bits (leadOf (foff :: offs') st) foff st = .ok (st', foff)) ∧ Restep cfg al rest

theorem restep_packed (cfg : Cfg) : ∀ fs : Fields, Restep cfg false fs
  | .nil => trivial
  | .cons _ _ ty bits rest => ⟨fun st st' foff offs' h => step_packed cfg ty bits st st' foff offs' h, restep_packed cfg rest⟩

theorem restep_aligned (cfg : Cfg) : ∀ (fs : Fields) (ms : List (Nat × Nat)), C04.members cfg fs = some ms →
    (∀ m ∈ ms, C04.isPow2 m.2) → Restep cfg true fs
  | .nil, _, _, _ => trivial
  | .cons _ _ ty bits rest, ms, hm, hp => by
    obtain ⟨k, ms', rfl, _, hm', rfl⟩ := C04.Lemmas.members_cons hm
    exact ⟨fun st st' foff offs' h => step_aligned cfg ty st st' foff offs' (hp _ List.mem_cons_self) h,
      restep_aligned cfg rest ms' hm' (fun x hx => hp x (List.mem_cons_of_mem _ hx))⟩

theorem restep_append_left (cfg : Cfg) (al : Bool) : ∀ (fs gs : Fields), Restep cfg al (Fields.append fs gs) → Restep cfg al fs
  | .nil, _, _ => trivial
  | .cons _ _ _ _ rest, gs, h => ⟨h.1, restep_append_left cfg al rest gs h.2⟩

theorem restep_foldl_left (cfg : Cfg) (al : Bool) : ∀ (batches : List Fields) (fs : Fields),
    Restep cfg al (batches.foldl Fields.append fs) → Restep cfg al fs
  | [], _, h => h
  | b :: more, fs, h => restep_append_left cfg al fs b (restep_foldl_left cfg al more (Fields.append fs b) h)

theorem layout_nil_offs {cfg : Cfg} {al : Bool} {st : LState} {sz : Option Nat} {a : Nat} {offs : List (Option Nat)}
    (h : Fields.layout cfg al .nil st = .ok (sz, a, offs)) : offs = [] := by
  rw [Fields.layout] at h
  simp only [Except.ok.injEq, Prod.mk.injEq] at h
  exact h.2.2.symm

theorem layoutP_extend (cfg : Cfg) (al : Bool) : ∀ (fs gs : Fields) (st : LState) (sz : Option Nat) (a : Nat) (offs : List (Option Nat)),
    Restep cfg al fs → Fields.layout cfg al fs st = .ok (sz, a, offs) →
    layoutP cfg al (Fields.append fs gs) offs st = Fields.layout cfg al (Fields.append fs gs) st
  | .nil, gs, st, sz, a, offs, _, h => by
    rw [layout_nil_offs h, Fields.append]
    exact fresh cfg al gs st 0
  | .cons n an ty bits rest, gs, st, sz, a, offs, hr, h => by
    rw [layout_cons] at h
    obtain ⟨st', foff, offs', hs, hk, rfl⟩ := cont_ok_inv h
    rw [Fields.append, layoutP_cons, layout_cons]
    show cont (stepL cfg al ty bits (leadOf (foff :: offs') st) foff st)
      (layoutP cfg al (Fields.append rest gs) offs') = _
    rw [hr.1 st st' foff offs' hs, hs]
    unfold cont
    dsimp only
    rw [layoutP_extend cfg al rest gs st' sz a offs' hr.2 hk]

theorem layoutP_idem (cfg : Cfg) (al : Bool) (fs : Fields) (st : LState) (sz : Option Nat) (a : Nat) (offs : List (Option Nat))
    (hr : Restep cfg al fs) (h : Fields.layout cfg al fs st = .ok (sz, a, offs)) :
    layoutP cfg al fs offs st = .ok (sz, a, offs) := by
  have := layoutP_extend cfg al fs .nil st sz a offs hr h
  rw [append_nil] at this
  rw [this, h]

theorem commitAll_confluent (cfg : Cfg) (al : Bool) : ∀ (batches : List Fields) (fs : Fields) (offs : List (Option Nat))
    (sz : Option Nat) (a : Nat) (r : Fields × Option Nat × Nat × List (Option Nat)),
    Restep cfg al (batches.foldl Fields.append fs) → Fields.layout cfg al fs LState.init = .ok (sz, a, offs) →
    commitAll cfg al fs offs batches = .ok r →
    Fields.layout cfg al r.1 LState.init = .ok r.2 ∧ r.1 = batches.foldl Fields.append fs
  | [], fs, offs, sz, a, r, hr, hl, h => by
    rw [commitAll, commit, layoutP_idem cfg al fs LState.init sz a offs hr hl] at h
    cases h
    exact ⟨hl, rfl⟩
  | b :: more, fs, offs, sz, a, r, hr, hl, h => by
    rw [commitAll, commit, layoutP_extend cfg al fs b LState.init sz a offs
      (restep_append_left cfg al fs b (restep_foldl_left cfg al more _ hr)) hl] at h
    cases hl' : Fields.layout cfg al (Fields.append fs b) LState.init with
    | error e => rw [hl'] at h; cases h
    | ok q =>
      obtain ⟨sz', a', offs'⟩ := q
      rw [hl'] at h
      exact commitAll_confluent cfg al more (Fields.append fs b) offs' sz' a' r hr hl' h

end Cstruct.C18.Lemmas
