/-
  Null-terminated arrays over every element kind: the abstract read-until-terminator loop, its characterisation by the
  specification `StopsAt / FailsAt / RunsOn` (`Proofs/Spec/C07Null.lean`), what one scalar read does, and the proof that
  the model's loops (`readScalar0`, `readUntilFalsy`) are this loop.
-/
import Proofs.Spec.C07Null
import Proofs.Lemmas.C07
namespace Cstruct.C07.Lemmas
open Cstruct Cstruct.C07 Cstruct.Core.Lemmas

/-- read elements with `rd` until `term` holds of one; `f` bounds the number of element reads -/
def loop (rd : Nat → Except Err (Val × Nat)) (term : Val → Bool) : Nat → Nat → Except Err (List Val × Nat)
  | 0, _ => .error .eof
  | f + 1, p =>
    match rd p with
    | .error e => .error e
    | .ok (v, q) =>
      if term v then .ok ([], q) else
      match loop rd term f q with
      | .error e => .error e
      | .ok (vs, q') => .ok (v :: vs, q')

def prepend (ws : List Val) : Except Err (List Val × Nat) → Except Err (List Val × Nat)
  | .error e => .error e
  | .ok (vs, q) => .ok (ws ++ vs, q)

theorem prepend_prepend (a b : List Val) (x : Except Err (List Val × Nat)) :
    prepend a (prepend b x) = prepend (a ++ b) x := by
  cases x with
  | error e => rfl
  | ok r => simp only [prepend, List.append_assoc]

variable {rd : Nat → Except Err (Val × Nat)} {term : Val → Bool}

theorem loop_err {f p e} (h : rd p = .error e) : loop rd term (f + 1) p = .error e := by
  simp only [loop, h]

theorem loop_term {f p v q} (h : rd p = .ok (v, q)) (ht : term v = true) : loop rd term (f + 1) p = .ok ([], q) := by
  simp only [loop, h, ht, if_true]

theorem loop_step {f p v q} (h : rd p = .ok (v, q)) (ht : term v = false) :
    loop rd term (f + 1) p = prepend [v] (loop rd term f q) := by
  simp only [loop, h, ht, Bool.false_eq_true, if_false]
  cases loop rd term f q <;> rfl

theorem loop_run {p vs p'} (hr : Reads rd p vs p') (hn : ∀ v ∈ vs, term v = false) (f : Nat) :
    loop rd term (vs.length + f) p = prepend vs (loop rd term f p') := by
  induction hr with
  | nil => rw [List.length_nil, Nat.zero_add]; cases loop rd term f _ <;> rfl
  | cons h1 _ ih =>
    obtain ⟨hv, hn'⟩ := List.forall_mem_cons.1 hn
    rw [List.length_cons, Nat.add_right_comm, loop_step h1 hv, ih hn', prepend_prepend]
    rfl

theorem loop_of_stops {p vs q} (h : StopsAt rd term p vs q) (f : Nat) : loop rd term (vs.length + (f + 1)) p = .ok (vs, q) := by
  obtain ⟨p', t, hr, hn, hrd, ht⟩ := h
  rw [loop_run hr hn, loop_term hrd ht, prepend, List.append_nil]

theorem loop_of_fails {p vs er} (h : FailsAt rd term p vs er) (f : Nat) : loop rd term (vs.length + (f + 1)) p = .error er := by
  obtain ⟨p', hr, hn, hrd⟩ := h
  rw [loop_run hr hn, loop_err hrd, prepend]

theorem loop_of_runs {p n} (h : RunsOn rd term p n) : loop rd term n p = .error .eof := by
  obtain ⟨vs, p', hr, hn, rfl⟩ := h
  exact loop_run hr hn 0

theorem loop_cases (rd : Nat → Except Err (Val × Nat)) (term : Val → Bool) : ∀ f p,
    (∃ vs q, StopsAt rd term p vs q ∧ vs.length < f ∧ loop rd term f p = .ok (vs, q)) ∨
    (∃ vs er, FailsAt rd term p vs er ∧ vs.length < f ∧ loop rd term f p = .error er) ∨
    (RunsOn rd term p f ∧ loop rd term f p = .error .eof)
  | 0, p => .inr (.inr ⟨⟨[], p, .nil, nofun, rfl⟩, rfl⟩)
  | f + 1, p => by
    cases h : rd p with
    | error e => exact .inr (.inl ⟨[], e, ⟨p, .nil, nofun, h⟩, Nat.succ_pos f, loop_err h⟩)
    | ok r =>
      obtain ⟨v, p1⟩ := r
      cases ht : term v with
      | true => exact .inl ⟨[], p1, ⟨p, v, .nil, nofun, h, ht⟩, Nat.succ_pos f, loop_term h ht⟩
      | false =>
        have hc : ∀ vs : List Val, (∀ x ∈ vs, term x = false) → ∀ x ∈ v :: vs, term x = false :=
          fun vs hn => List.forall_mem_cons.2 ⟨ht, hn⟩
        rw [loop_step h ht]
        rcases loop_cases rd term f p1 with ⟨vs, q, ⟨p', t, hr, hn, hrd, htt⟩, hl, e⟩ | ⟨vs, er, ⟨p', hr, hn, hrd⟩, hl, e⟩ |
          ⟨⟨vs, p', hr, hn, hl⟩, e⟩
        · exact .inl ⟨v :: vs, q, ⟨p', t, .cons h hr, hc vs hn, hrd, htt⟩, Nat.succ_lt_succ hl, by rw [e]; rfl⟩
        · exact .inr (.inl ⟨v :: vs, er, ⟨p', .cons h hr, hc vs hn, hrd⟩, Nat.succ_lt_succ hl, by rw [e]; rfl⟩)
        · exact .inr (.inr ⟨⟨v :: vs, p', .cons h hr, hc vs hn, congrArg (· + 1) hl⟩, by rw [e]; rfl⟩)

theorem loop_ok_iff (f p : Nat) (vs : List Val) (q : Nat) :
    loop rd term (f + 1) p = .ok (vs, q) ↔ StopsAt rd term p vs q ∧ vs.length ≤ f := by
  constructor
  · intro h
    rcases loop_cases rd term (f + 1) p with ⟨vs', q', hs, hl, e⟩ | ⟨_, _, _, _, e⟩ | ⟨_, e⟩ <;> rw [e] at h <;> cases h
    exact ⟨hs, Nat.le_of_lt_succ hl⟩
  · rintro ⟨hs, hl⟩
    obtain ⟨g, rfl⟩ := Nat.exists_eq_add_of_le hl
    exact loop_of_stops hs g

theorem loop_err_iff (f p : Nat) (er : Err) :
    loop rd term (f + 1) p = .error er ↔
      (∃ vs, FailsAt rd term p vs er ∧ vs.length ≤ f) ∨ (er = .eof ∧ RunsOn rd term p (f + 1)) := by
  constructor
  · intro h
    rcases loop_cases rd term (f + 1) p with ⟨_, _, _, _, e⟩ | ⟨vs, er', hf, hl, e⟩ | ⟨hr, e⟩ <;> rw [e] at h <;> cases h
    · exact .inl ⟨vs, hf, Nat.le_of_lt_succ hl⟩
    · exact .inr ⟨rfl, hr⟩
  · rintro (⟨vs, hf, hl⟩ | ⟨rfl, hr⟩)
    · obtain ⟨g, rfl⟩ := Nat.exists_eq_add_of_le hl
      exact loop_of_fails hf g
    · exact loop_of_runs hr

section progress
variable {L : Nat} (hp : ∀ p v q, rd p = .ok (v, q) → term v = false → p < q ∧ p < L)
include hp

theorem reads_length {p vs p'} (hr : Reads rd p vs p') (hn : ∀ v ∈ vs, term v = false) : vs.length ≤ L - p := by
  induction hr with
  | nil => exact Nat.zero_le _
  | cons h1 _ ih =>
    obtain ⟨hv, hn'⟩ := List.forall_mem_cons.1 hn
    have := hp _ _ _ h1 hv
    have := ih hn'
    rw [List.length_cons]
    omega

theorem stopsAt_length {p vs q} (h : StopsAt rd term p vs q) : vs.length ≤ L - p :=
  let ⟨_, _, hr, hn, _⟩ := h
  reads_length hp hr hn

theorem failsAt_length {p vs er} (h : FailsAt rd term p vs er) : vs.length ≤ L - p :=
  let ⟨_, hr, hn, _⟩ := h
  reads_length hp hr hn

theorem runsOn_le {p n} (h : RunsOn rd term p n) : n ≤ L - p :=
  let ⟨_, _, hr, hn, hl⟩ := h
  hl ▸ reads_length hp hr hn

end progress

theorem readScalar_fixed (cfg : Cfg) (s : Scalar) (d : Bytes) (p : Nat) {k : Nat} (hk : s.size = some k) :
    readScalar cfg s d p = (readExact d p k).bind fun r => (decodeScalar cfg s r.1).bind fun v => .ok (v, r.2) := by
  rw [readScalar_sized cfg hk]
  rfl

theorem readScalar_leb (cfg : Cfg) (sg : Bool) (d : Bytes) (p : Nat) :
    readScalar cfg (.leb sg) d p =
      match lebRead sg (d.drop p) with
      | .ok (v, rest) => .ok (.int v, d.length - rest.length)
      | .error e => .error e := rfl

theorem readScalar_ok {cfg : Cfg} {s : Scalar} {d : Bytes} {p : Nat} {v : Val} {q : Nat}
    (h : readScalar cfg s d p = .ok (v, q)) :
    (∃ k bs, s.size = some k ∧ readExact d p k = .ok (bs, q) ∧ decodeScalar cfg s bs = .ok v) ∨
    (∃ sg i, s = .leb sg ∧ v = .int i) := by
  cases hk : s.size with
  | some k =>
    rw [readScalar_sized cfg hk] at h
    obtain ⟨h1, h3⟩ := readBlock_ok h
    exact .inl ⟨k, _, rfl, h1, h3⟩
  | none =>
    cases s <;> cases hk
    rw [readScalar_leb] at h
    cases hl : lebRead _ (d.drop p) with
    | error e => rw [hl] at h; cases h
    | ok r =>
      rw [hl] at h
      cases h
      exact .inr ⟨_, _, rfl, rfl⟩

def Advances {α : Type} (c : Prop) (L : Nat) (rd : Nat → Except Err (α × Nat)) : Prop :=
  ∀ p v q, rd p = .ok (v, q) → p ≤ q ∧ (c → p < q ∧ p < L)

theorem readScalar_advances (cfg : Cfg) (s : Scalar) (d : Bytes) :
    Advances (s.size ≠ some 0) d.length (readScalar cfg s d) := by
  intro p v q h
  refine ⟨(readScalar_pos cfg s d p v q h).1, fun hs => ?_⟩
  have := readScalar_adv cfg s d p v q h hs
  omega

theorem Advances.wrapInt {c : Prop} {L : Nat} {rd : Nat → Except Err (Val × Nat)} (f : Int → Val)
    (h : Advances c L rd) : Advances c L fun p => wrapInt f (rd p) := by
  intro p v q hr
  obtain ⟨i, q', h1, h2⟩ := wrapInt_ok hr
  cases h2
  exact h _ _ _ h1

theorem decodeNat_nil (e : Endian) : decodeNat e [] = 0 := by cases e <;> rfl

theorem decodeInt_nil (e : Endian) (sg : Bool) : decodeInt e sg [] = 0 := by
  simp [decodeInt, decodeNat_nil]

theorem readScalar_width0 {cfg : Cfg} {s : Scalar} {d : Bytes} {p : Nat} {v : Val} {q : Nat} (hk : s.size = some 0)
    (h : readScalar cfg s d p = .ok (v, q)) :
    v.truthy = false ∧ (s = .void ∨ ∀ a, isTerminator (.sc s a) v = true) := by
  rw [readScalar_fixed cfg s d p hk] at h
  obtain ⟨⟨bs, q'⟩, h1, h2⟩ := bind_ok h
  obtain ⟨v', hv, h4⟩ := bind_ok h2
  cases h4
  cases List.eq_nil_of_length_eq_zero (readExact_span h1).2.1
  cases s with
  | pint n sg | aint n sg => cases hk; cases hv; rw [decodeInt_nil]; exact ⟨rfl, .inr fun _ => rfl⟩
  | pflt n => cases hk; cases hv; rw [decodeNat_nil]; exact ⟨rfl, .inr fun _ => rfl⟩
  | void => cases hv; exact ⟨rfl, .inl rfl⟩
  | char | wchar | leb sg => cases hk

theorem readScalar_int {cfg : Cfg} {s : Scalar} {d : Bytes} {p : Nat} {v : Val} {q : Nat} (hs : s.isInt = true)
    (h : readScalar cfg s d p = .ok (v, q)) : ∃ i, v = .int i := by
  rcases readScalar_ok h with ⟨k, bs, _, _, hv⟩ | ⟨_, i, _, rfl⟩
  · cases s <;> cases hs <;> cases hv <;> exact ⟨_, rfl⟩
  · exact ⟨i, rfl⟩

theorem readScalar_err {cfg : Cfg} {s : Scalar} {d : Bytes} {p : Nat} {er : Err} (hw : s ≠ .wchar)
    (h : readScalar cfg s d p = .error er) : er = .eof := by
  cases hk : s.size with
  | some k =>
    rw [readScalar_fixed cfg s d p hk] at h
    cases h1 : readExact d p k with
    | error e => rw [h1] at h; cases h; exact (readExact_err h1).1
    | ok r => rw [h1] at h; cases s <;> cases hk <;> first | exact absurd rfl hw | cases h
  | none =>
    cases s <;> cases hk
    rw [readScalar_leb] at h
    cases hl : lebRead _ (d.drop p) with
    | ok r => rw [hl] at h; cases h
    | error e =>
      rw [hl] at h
      cases h
      unfold lebRead at hl
      split at hl
      · cases hl; rfl
      · split at hl <;> cases hl

theorem readUntilFalsy_eq (cfg : Cfg) (t : Ty) (ctx : Ctx) (d : Bytes) : ∀ (f p : Nat),
    readUntilFalsy cfg t ctx d f p =
      (loop (read cfg t ctx d) (fun v => !v.truthy) f p).map (fun r => (Vals.ofList r.1, r.2))
  | 0, p => by rw [readUntilFalsy]; rfl
  | f + 1, p => by
    rw [readUntilFalsy]
    cases h1 : read cfg t ctx d p with
    | error e => rw [loop_err h1]; rfl
    | ok r =>
      obtain ⟨v, q⟩ := r
      cases ht : v.truthy with
      | false => simp only [ht, Bool.not_false, if_true]; rw [loop_term h1 (by rw [ht]; rfl)]; rfl
      | true =>
        simp only [ht, Bool.not_true, Bool.false_eq_true, if_false]
        rw [loop_step h1 (by rw [ht]; rfl), readUntilFalsy_eq cfg t ctx d f q]
        cases loop (read cfg t ctx d) (fun v => !v.truthy) f q <;> rfl

theorem elemRead_sc (cfg : Cfg) (s : Scalar) (a : Nat) (ctx : Ctx) (d : Bytes) (p : Nat) (hs : s ≠ .wchar) :
    elemRead cfg (.sc s a) ctx d p = readScalar cfg s d p := by
  cases s <;> first | (exact absurd rfl hs) | (simp only [elemRead, read_sc])

theorem elemRead_wchar (cfg : Cfg) (a : Nat) (ctx : Ctx) (d : Bytes) (p : Nat) :
    elemRead cfg (.sc .wchar a) ctx d p =
      match readExact d p 2 with
      | .ok (bs, q) => .ok (.bytes bs, q)
      | .error er => .error er := rfl

theorem elemRead_enum (cfg : Cfg) (b : Scalar) (a : Nat) (fl : Bool) (ctx : Ctx) (d : Bytes) (p : Nat) :
    elemRead cfg (.enum b a fl) ctx d p = wrapInt .enum (readScalar cfg b d p) := by
  simp only [elemRead, read_enum]

theorem elemRead_eq_read (cfg : Cfg) {e : Ty} (hw : ∀ a, e ≠ .sc .wchar a) (ctx : Ctx) (d : Bytes) :
    elemRead cfg e ctx d = read cfg e ctx d := by
  funext p
  unfold elemRead
  split
  · exact absurd rfl (hw _)
  · rfl

/-- the test for zero of each scalar class is `isTerminator` on the values that class reads -/
theorem readScalar0_succ (cfg : Cfg) (s : Scalar) (a : Nat) (ctx : Ctx) (d : Bytes) (f p : Nat) (acc : List Val)
    (hs : s ≠ .void) :
    readScalar0 cfg s d (f + 1) p acc =
      match elemRead cfg (.sc s a) ctx d p with
      | .error e => .error e
      | .ok (v, q) =>
        if isTerminator (.sc s a) v = true then .ok (acc.reverse, q) else readScalar0 cfg s d f q (v :: acc) := by
  cases s with
  | void => exact absurd rfl hs
  | wchar =>
    rw [readScalar0, elemRead_wchar]
    cases readExact d p 2 <;> simp only [isTerminator, beq_iff_eq]
  | char =>
    rw [readScalar0, elemRead_sc cfg .char a ctx d p nofun, readScalar_fixed cfg .char d p rfl]
    cases readExact d p 1 <;> simp only [Except.bind, decodeScalar, isTerminator, beq_iff_eq]
  | leb sg =>
    rw [readScalar0, elemRead_sc cfg (.leb sg) a ctx d p nofun, readScalar_leb]
    · cases lebRead sg (d.drop p) <;> rfl
    all_goals nofun
  | pint n sg =>
    rw [readScalar0, elemRead_sc cfg (.pint n sg) a ctx d p nofun, readScalar_fixed cfg (.pint n sg) d p rfl]
    · cases readExact d p n <;> rfl
    all_goals nofun
  | aint n sg =>
    rw [readScalar0, elemRead_sc cfg (.aint n sg) a ctx d p nofun, readScalar_fixed cfg (.aint n sg) d p rfl]
    · cases readExact d p n <;> rfl
    all_goals nofun
  | pflt n =>
    rw [readScalar0, elemRead_sc cfg (.pflt n) a ctx d p nofun, readScalar_fixed cfg (.pflt n) d p rfl]
    · cases readExact d p n with
      | error e => rfl
      | ok r => simp only [Except.bind, decodeScalar, isTerminator, isFloatZero, Bool.or_eq_true, beq_iff_eq, decide_eq_true_eq]
    all_goals nofun

theorem readScalar0_eq (cfg : Cfg) (s : Scalar) (a : Nat) (ctx : Ctx) (d : Bytes) (hs : s ≠ .void) :
    ∀ (f p : Nat) (acc : List Val),
      readScalar0 cfg s d f p acc = prepend acc.reverse (loop (elemRead cfg (.sc s a) ctx d) (isTerminator (.sc s a)) f p)
  | 0, p, acc => by rw [readScalar0]; rfl
  | f + 1, p, acc => by
    rw [readScalar0_succ cfg s a ctx d f p acc hs]
    cases hr : elemRead cfg (.sc s a) ctx d p with
    | error e => rw [loop_err hr]; rfl
    | ok r =>
      obtain ⟨v, q⟩ := r
      cases ht : isTerminator (.sc s a) v with
      | true => simp only [ht, if_true]; rw [loop_term hr ht, prepend, List.append_nil]
      | false =>
        simp only [ht, Bool.false_eq_true, if_false]
        rw [loop_step hr ht, prepend_prepend, ← List.reverse_cons, ← readScalar0_eq cfg s a ctx d hs f q (v :: acc)]

theorem joinBytes_eq_rawBytes : ∀ vs : List Val, joinBytes vs = rawBytes vs := by
  intro vs
  induction vs with
  | nil => rfl
  | cons v r ih => cases v <;> simp only [joinBytes, rawBytes, ih]

def packRes (cfg : Cfg) (e : Ty) : Except Err (List Val × Nat) → Except Err (Val × Nat)
  | .error er => .error er
  | .ok (vs, q) =>
    match packElems cfg e vs with
    | .ok v => .ok (v, q)
    | .error er => .error er

theorem packRes_ok_iff {cfg : Cfg} {e : Ty} {x : Except Err (List Val × Nat)} {v : Val} {q : Nat} :
    packRes cfg e x = .ok (v, q) ↔ ∃ vs, x = .ok (vs, q) ∧ packElems cfg e vs = .ok v := by
  constructor
  · intro h
    cases x with
    | error er => cases h
    | ok r =>
      rw [packRes] at h
      cases hp : packElems cfg e r.1 with
      | error er => rw [hp] at h; cases h
      | ok v' => rw [hp] at h; cases h; exact ⟨_, rfl, hp⟩
  · rintro ⟨vs, rfl, h⟩
    rw [packRes, h]

theorem packRes_err_iff {cfg : Cfg} {e : Ty} {x : Except Err (List Val × Nat)} {er : Err} :
    packRes cfg e x = .error er ↔ x = .error er ∨ ∃ vs q, x = .ok (vs, q) ∧ packElems cfg e vs = .error er := by
  constructor
  · intro h
    cases x with
    | error er' => cases h; exact .inl rfl
    | ok r =>
      rw [packRes] at h
      cases hp : packElems cfg e r.1 with
      | error er' => rw [hp] at h; cases h; exact .inr ⟨_, _, rfl, hp⟩
      | ok v' => rw [hp] at h; cases h
  · rintro (rfl | ⟨vs, q, rfl, h⟩)
    · rfl
    · rw [packRes, h]

theorem packElems_list (cfg : Cfg) {e : Ty} (hc : ∀ a, e ≠ .sc .char a) (hw : ∀ a, e ≠ .sc .wchar a) (vs : List Val) :
    packElems cfg e vs = .ok (.list (Vals.ofList vs)) := by
  unfold packElems
  split
  · exact absurd rfl (hc _)
  · exact absurd rfl (hw _)
  · rfl

theorem readScalarNullTerm_eq (cfg : Cfg) (s : Scalar) (a : Nat) (ctx : Ctx) (d : Bytes) (pos : Nat) (hs : s ≠ .void) :
    readScalarNullTerm cfg s d pos =
      packRes cfg (.sc s a) (loop (elemRead cfg (.sc s a) ctx d) (isTerminator (.sc s a)) (d.length - pos + 2) pos) := by
  rw [readScalarNullTerm, readScalar0_eq cfg s a ctx d hs]
  cases loop (elemRead cfg (.sc s a) ctx d) (isTerminator (.sc s a)) (d.length - pos + 2) pos with
  | error e => rfl
  | ok r =>
    simp only [prepend, List.reverse_nil, List.nil_append, packRes, packElems, joinBytes_eq_rawBytes]
    cases s with
    | void => exact absurd rfl hs
    | wchar => cases decodeWchar cfg.endian (rawBytes r.1) <;> rfl
    | _ => rfl

theorem loop_map {rd rd' : Nat → Except Err (Val × Nat)} {term term' : Val → Bool} (g : Val → Val)
    (h1 : ∀ p, rd' p = match rd p with | .error e => .error e | .ok (v, q) => .ok (g v, q))
    (h2 : ∀ p v q, rd p = .ok (v, q) → term' (g v) = term v) :
    ∀ f p, loop rd' term' f p = (loop rd term f p).map (fun r => (r.1.map g, r.2))
  | 0, p => rfl
  | f + 1, p => by
    cases hr : rd p with
    | error e => rw [loop_err hr, loop_err (by rw [h1, hr])]; rfl
    | ok r =>
      obtain ⟨v, q⟩ := r
      have hr' : rd' p = .ok (g v, q) := by rw [h1, hr]
      cases ht : term v with
      | true => rw [loop_term hr ht, loop_term hr' (by rw [h2 _ _ _ hr, ht])]; rfl
      | false =>
        rw [loop_step hr ht, loop_step hr' (by rw [h2 _ _ _ hr, ht]), loop_map g h1 h2 f q]
        cases loop rd term f q <;> rfl

/-- `cls(value)` of `list(map(cls, ...))` -/
def toEnum : Val → Val
  | .int v => .enum v
  | x => x

theorem mapEnum_ofList : ∀ vs : List Val, (Vals.ofList vs).mapEnum = Vals.ofList (vs.map toEnum) := by
  intro vs
  induction vs with
  | nil => rfl
  | cons v r ih => cases v <;> simp only [Vals.ofList, Vals.mapEnum, List.map_cons, toEnum, ih]

theorem isInt_cases {b : Scalar} (h : Scalar.isInt b = true) : (∃ n sg, b = .pint n sg) ∨ (∃ n sg, b = .aint n sg) := by
  cases b <;> cases h
  · exact .inl ⟨_, _, rfl⟩
  · exact .inr ⟨_, _, rfl⟩

theorem read0_enum_eq (cfg : Cfg) (b : Scalar) (a : Nat) (fl : Bool) (ctx : Ctx) (d : Bytes) (pos : Nat)
    (hb : Scalar.isInt b = true) :
    read0 cfg (.enum b a fl) ctx d pos =
      packRes cfg (.enum b a fl)
        (loop (elemRead cfg (.enum b a fl) ctx d) (isTerminator (.enum b a fl)) (d.length - pos + 2) pos) := by
  have hw : b ≠ .wchar := by rintro rfl; cases hb
  have hm := loop_map (rd := elemRead cfg (.sc b a) ctx d) (term := isTerminator (.sc b a))
    (rd' := elemRead cfg (.enum b a fl) ctx d) (term' := isTerminator (.enum b a fl)) toEnum
    (by
      intro p
      rw [elemRead_enum, elemRead_sc _ _ _ _ _ _ hw]
      cases h : readScalar cfg b d p with
      | error e => rfl
      | ok r =>
        obtain ⟨v, q⟩ := r
        obtain ⟨i, rfl⟩ := readScalar_int hb h
        rfl)
    (by
      intro p v q h
      rw [elemRead_sc _ _ _ _ _ _ hw] at h
      obtain ⟨i, rfl⟩ := readScalar_int hb h
      rcases isInt_cases hb with ⟨n, sg, rfl⟩ | ⟨n, sg, rfl⟩ <;> rfl)
  rw [read0.eq_2, readScalarNullTerm_eq cfg b a ctx d pos (by rintro rfl; cases hb), hm]
  cases loop (elemRead cfg (.sc b a) ctx d) (isTerminator (.sc b a)) (d.length - pos + 2) pos with
  | error e => rfl
  | ok r =>
    simp only [packRes, packElems_list cfg (e := .sc b a) (fun _ h => by cases h; cases hb) (fun _ h => by cases h; cases hb),
      packElems_list cfg (e := .enum b a fl) nofun nofun, Except.map, mapEnum_ofList]

theorem isTerminator_structLike {t : Ty} (ht : isStructLike t = true) : isTerminator t = fun v => !v.truthy := by
  funext v
  cases t <;> first | (cases v <;> rfl) | cases ht

theorem read0_eq_loop (cfg : Cfg) (e : Ty) (ctx : Ctx) (d : Bytes) (pos : Nat) (he : nullLoopElem e = true) :
    read0 cfg e ctx d pos =
      packRes cfg e (loop (elemRead cfg e ctx d) (isTerminator e) (d.length - pos + 2) pos) := by
  have structLike : ∀ t : Ty, isStructLike t = true →
      (readUntilFalsy cfg t ctx d (d.length - pos + 2) pos).map (fun (vs, p) => (Val.list vs, p)) =
        packRes cfg t (loop (elemRead cfg t ctx d) (isTerminator t) (d.length - pos + 2) pos) := by
    intro t ht
    rw [readUntilFalsy_eq, isTerminator_structLike ht, elemRead_eq_read cfg (by rintro a rfl; cases ht)]
    cases loop (read cfg t ctx d) (fun v => !v.truthy) (d.length - pos + 2) pos with
    | error e => rfl
    | ok r => rw [packRes, packElems_list cfg (by rintro a rfl; cases ht) (by rintro a rfl; cases ht)]; rfl
  cases e with
  | sc s a => rw [read0.eq_1]; exact readScalarNullTerm_eq cfg s a ctx d pos (by rintro rfl; cases he)
  | enum b a fl => exact read0_enum_eq cfg b a fl ctx d pos he
  | struct al fs => rw [read0.eq_3]; exact structLike _ rfl
  | union al fs => rw [read0.eq_4]; exact structLike _ rfl
  | ptr t => cases he
  | arr e' l => cases he

theorem read_null_ok_iff (cfg : Cfg) (e : Ty) (ctx : Ctx) (d : Bytes) (pos : Nat) (he : nullLoopElem e = true) (v : Val)
    (q : Nat) :
    read cfg (.arr e .nullTerm) ctx d pos = .ok (v, q) ↔
      ∃ vs, StopsAt (elemRead cfg e ctx d) (isTerminator e) pos vs q ∧ vs.length ≤ d.length - pos + 1 ∧
        packElems cfg e vs = .ok v := by
  rw [read_arr_null, read0_eq_loop cfg e ctx d pos he, packRes_ok_iff]
  simp only [loop_ok_iff, and_assoc]

theorem read_null_err_iff (cfg : Cfg) (e : Ty) (ctx : Ctx) (d : Bytes) (pos : Nat) (he : nullLoopElem e = true) (er : Err) :
    read cfg (.arr e .nullTerm) ctx d pos = .error er ↔
      (∃ vs, FailsAt (elemRead cfg e ctx d) (isTerminator e) pos vs er ∧ vs.length ≤ d.length - pos + 1) ∨
      (∃ vs q, StopsAt (elemRead cfg e ctx d) (isTerminator e) pos vs q ∧ vs.length ≤ d.length - pos + 1 ∧
        packElems cfg e vs = .error er) ∨
      (er = .eof ∧ RunsOn (elemRead cfg e ctx d) (isTerminator e) pos (d.length - pos + 2)) := by
  rw [read_arr_null, read0_eq_loop cfg e ctx d pos he, packRes_err_iff, loop_err_iff]
  simp only [loop_ok_iff, and_assoc, or_assoc]
  exact or_congr_right Or.comm

theorem nullLoopElem_of_scalar {e : Ty} (h : scalarElem e = true) : nullLoopElem e = true := by
  cases e <;> first | exact h | cases h

theorem progress_scalar (cfg : Cfg) (e : Ty) (ctx : Ctx) (d : Bytes) (he : scalarElem e = true) :
    Progress cfg e ctx d := by
  intro p v q h ht
  -- an element of width 0 is zero, hence a terminator; every other one takes at least a byte
  have sc : ∀ (s : Scalar) (w : Val), readScalar cfg s d p = .ok (w, q) → (s.size = some 0 → w.truthy = true ∨
      (s ≠ .void ∧ ∃ a, isTerminator (.sc s a) w = false)) → p < q ∧ p < d.length := by
    intro s w hr hz
    refine (readScalar_advances cfg s d p w q hr).2 fun h0 => ?_
    obtain ⟨h1, h2⟩ := readScalar_width0 h0 hr
    rcases hz h0 with h3 | ⟨h3, a, h4⟩
    · rw [h1] at h3; cases h3
    · rcases h2 with h2 | h2
      · exact h3 h2
      · rw [h2 a] at h4; cases h4
  cases e with
  | sc s a =>
    by_cases hw : s = .wchar
    · subst hw
      rw [elemRead_wchar] at h
      cases h1 : readExact d p 2 with
      | error er => rw [h1] at h; cases h
      | ok r =>
        obtain ⟨bs, q'⟩ := r
        obtain ⟨rfl, _, _⟩ := readExact_span h1
        rw [h1] at h
        cases h
        omega
    · rw [elemRead_sc _ _ _ _ _ _ hw] at h
      exact sc s v h fun _ => .inr ⟨fun h => (by subst h; cases he), a, ht⟩
  | enum b a fl =>
    rw [elemRead_enum] at h
    obtain ⟨i, q', h1, h2⟩ := wrapInt_ok h
    cases h2
    refine sc b _ h1 fun _ => .inl ?_
    -- `ht` is `(i == 0) = false`, and the truthiness of an integer is `decide (i ≠ 0)`
    exact decide_eq_true (beq_eq_false_iff_ne.1 ht)
  | _ => cases he

theorem elemRead_scalar_err (cfg : Cfg) (e : Ty) (ctx : Ctx) (d : Bytes) (p : Nat) (er : Err) (he : scalarElem e = true)
    (h : elemRead cfg e ctx d p = .error er) : er = .eof := by
  cases e with
  | sc s a =>
    by_cases hw : s = .wchar
    · subst hw
      rw [elemRead_wchar] at h
      cases h1 : readExact d p 2 with
      | error e => rw [h1] at h; cases h; exact (readExact_err h1).1
      | ok r => rw [h1] at h; cases h
    · rw [elemRead_sc _ _ _ _ _ _ hw] at h
      exact readScalar_err hw h
  | enum b a fl =>
    rw [elemRead_enum] at h
    cases h1 : readScalar cfg b d p with
    | error e =>
      rw [h1] at h
      cases h
      exact readScalar_err (by rintro rfl; cases he) h1
    | ok r =>
      obtain ⟨i, hi⟩ := readScalar_int (v := r.1) (q := r.2) he h1
      rw [h1] at h
      obtain ⟨v, q⟩ := r
      cases hi
      cases h
  | _ => cases he

theorem packElems_err (cfg : Cfg) (e : Ty) (vs : List Val) (er : Err) (h : packElems cfg e vs = .error er) :
    (∃ a, e = .sc .wchar a) ∧ er = .unicode := by
  unfold packElems at h
  split at h
  · cases h
  · refine ⟨⟨_, rfl⟩, ?_⟩
    unfold decodeWchar at h
    simp only [] at h
    split at h
    · cases h; rfl
    · split at h <;> cases h
      rfl
  · cases h

theorem reads_stride {k : Nat} (hk : ∀ p v q, rd p = .ok (v, q) → q = p + k) {p vs p'} (h : Reads rd p vs p') :
    p' = p + vs.length * k ∧ ∀ i (hi : i < vs.length), rd (p + i * k) = .ok (vs[i], p + (i + 1) * k) := by
  induction h with
  | nil => exact ⟨by rw [List.length_nil, Nat.zero_mul, Nat.add_zero], nofun⟩
  | @cons p v p1 vs q h1 _ ih =>
    cases hk _ _ _ h1
    obtain ⟨e1, e2⟩ := ih
    refine ⟨by rw [e1, List.length_cons, Nat.succ_mul]; omega, fun i hi => ?_⟩
    cases i with
    | zero => rw [Nat.zero_mul, Nat.add_zero, Nat.zero_add, Nat.one_mul]; exact h1
    | succ j =>
      have e3 : p + (j + 1) * k = p + k + j * k := by rw [Nat.succ_mul]; omega
      have e4 : p + (j + 1 + 1) * k = p + k + (j + 1) * k := by rw [Nat.succ_mul (j + 1)]; omega
      rw [e3, e4]
      exact e2 j (Nat.lt_of_succ_lt_succ hi)

theorem reads_ints (hi : ∀ p v q, rd p = .ok (v, q) → ∃ i, v = .int i) {p vs p'} (h : Reads rd p vs p') :
    ∃ is : List Int, vs = is.map .int := by
  induction h with
  | nil => exact ⟨[], rfl⟩
  | cons h1 _ ih =>
    obtain ⟨i, rfl⟩ := hi _ _ _ h1
    obtain ⟨is, rfl⟩ := ih
    exact ⟨i :: is, rfl⟩

theorem stopsAt_pint {cfg : Cfg} {k : Nat} {sg : Bool} {a : Nat} {ctx : Ctx} {d : Bytes} {pos : Nat} {ws : List Val}
    {q : Nat} (h : StopsAt (elemRead cfg (.sc (.pint k sg) a) ctx d) (isTerminator (.sc (.pint k sg) a)) pos ws q) :
    ∃ is : List Int, ws = is.map .int ∧ (∀ x ∈ is, x ≠ 0) ∧ q = pos + (is.length + 1) * k ∧
      (∀ i (hi : i < is.length), readScalar cfg (.pint k sg) d (pos + i * k) = .ok (.int is[i], pos + (i + 1) * k)) ∧
      readScalar cfg (.pint k sg) d (pos + is.length * k) = .ok (.int 0, q) := by
  rw [funext fun p => elemRead_sc cfg (.pint k sg) a ctx d p nofun] at h
  obtain ⟨p', t, hr, hn, hrd, ht⟩ := h
  have hk : ∀ p v q, readScalar cfg (.pint k sg) d p = .ok (v, q) → q = p + k := by
    intro p v q h
    rw [readScalar_fixed cfg _ d p rfl] at h
    obtain ⟨⟨bs, q'⟩, h1, h2⟩ := bind_ok h
    cases h2
    exact (readExact_span h1).1
  obtain ⟨is, rfl⟩ := reads_ints (fun _ _ _ h => readScalar_int rfl h) hr
  obtain ⟨i0, rfl⟩ := readScalar_int rfl hrd
  obtain ⟨rfl, e2⟩ := reads_stride hk hr
  cases hk _ _ _ hrd
  have h0 : i0 = 0 := beq_iff_eq.1 ht
  subst h0
  simp only [List.length_map, List.getElem_map] at hrd e2 ⊢
  refine ⟨is, rfl, fun x hx => ?_, by rw [Nat.succ_mul]; omega, e2, hrd⟩
  exact beq_eq_false_iff_ne.1 (hn _ (List.mem_map_of_mem hx))

theorem reads_char {cfg : Cfg} {a : Nat} {d : Bytes} {p : Nat} {ws : List Val} {p' : Nat}
    (h : Reads (readScalar cfg .char d) p ws p') (hn : ∀ v ∈ ws, isTerminator (.sc .char a) v = false) :
    p' = p + (rawBytes ws).length ∧ sread d p (rawBytes ws).length = rawBytes ws ∧ ∀ x ∈ rawBytes ws, x ≠ 0 := by
  induction h with
  | nil => exact ⟨rfl, sread_zero d _, nofun⟩
  | @cons p v p1 vs q h1 _ ih =>
    obtain ⟨hv, hn'⟩ := List.forall_mem_cons.1 hn
    obtain ⟨rfl, e2, e3⟩ := ih hn'
    rw [readScalar_fixed cfg .char d p rfl] at h1
    obtain ⟨⟨bs, q'⟩, h2, h3⟩ := bind_ok h1
    obtain ⟨rfl, rfl⟩ : v = .bytes bs ∧ p1 = q' := by cases h3; exact ⟨rfl, rfl⟩
    obtain ⟨hl, hr⟩ := readExact_ok h2
    cases hr
    refine ⟨by rw [rawBytes, List.length_append, hl]; omega, ?_, fun y hy => ?_⟩
    · rw [rawBytes, List.length_append, hl, sread_add, e2]
    · rcases List.mem_append.1 hy with hy | hy
      · -- the element is the one byte `y`, and it is not the terminator `[0]`
        match hs : sread d p 1, hl with
        | [x], _ =>
          rw [hs] at hv hy
          cases List.mem_singleton.1 hy
          rintro rfl
          cases hv
      · exact e3 y hy

theorem stopsAt_char {cfg : Cfg} {a : Nat} {ctx : Ctx} {d : Bytes} {pos : Nat} {ws : List Val} {q : Nat}
    (h : StopsAt (elemRead cfg (.sc .char a) ctx d) (isTerminator (.sc .char a)) pos ws q) :
    (∀ x ∈ rawBytes ws, x ≠ 0) ∧ q = pos + (rawBytes ws).length + 1 ∧
      (d.drop pos).take ((rawBytes ws).length + 1) = rawBytes ws ++ [0] := by
  rw [funext fun p => elemRead_sc cfg .char a ctx d p nofun] at h
  obtain ⟨p', t, hr, hn, hrd, ht⟩ := h
  obtain ⟨rfl, h1, h2⟩ := reads_char hr hn
  rw [readScalar_fixed cfg .char d _ rfl] at hrd
  obtain ⟨⟨bs, q'⟩, h3, h4⟩ := bind_ok hrd
  cases h4
  obtain ⟨_, hr⟩ := readExact_ok h3
  cases hr
  have h0 : sread d (pos + (rawBytes ws).length) 1 = [0] := beq_iff_eq.1 ht
  refine ⟨h2, rfl, ?_⟩
  rw [← sread, sread_add, h1, h0]

theorem anyTruthy_false : ∀ vs : Vals, vs.anyTruthy = false ↔ ∀ v ∈ vs.toList, v.truthy = false := by
  intro vs
  induction vs using Vals.rec (motive_1 := fun _ => True) with
  | nil => simp [Vals.anyTruthy, Vals.toList]
  | cons v r _ ih => simp [Vals.anyTruthy, Vals.toList, ih]
  | _ => trivial

end Cstruct.C07.Lemmas
