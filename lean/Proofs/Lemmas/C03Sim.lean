/-
  The relation of the plan walk (`Inv`), passing the void fields under the cursor on both sides, and the
  facts about single fields that the simulation needs.
-/
import Proofs.Lemmas.C03Fields
import Proofs.Lemmas.CoreWin
namespace Cstruct.Compiler
open Cstruct Cstruct.Core.Lemmas

/-- the relation of the plan walk: validator state, compiled stream and bit reader, interpreted stream and bit buffer -/
structure Inv (start : Nat) (vst : VSt) (fs : Fields) (offs : List (Option Nat)) (cpos : Nat) (cbb : BitBuf)
    (ipos : Nat) (ibb : BitBuf) : Prop where
  spos : ∀ k, vst.spos = some k → cpos = start + k
  pos : nextStatic fs offs = true ∨ LaMatch vst.lastAlign cpos ipos
  la : vst.spos ≠ none → ∀ a, vst.lastAlign = some a → IsP2 a ∧ a ∣ cpos
  unit : match vst.unit with
    | none => cbb = BitBuf.empty
    | some (u, r) => cbb.ty = some u ∧ cbb.remaining = r
  bb : if vst.dirty = true then ibb = cbb else cbb = BitBuf.empty ∧ (ibb = BitBuf.empty ∨ nonBitHead fs = true)

/-- after a field that is read at the compiled stream's position outside a bit run: both streams are at `p`, nothing
    is pending -/
theorem Inv.sync {start : Nat} {sp : Option Nat} {fs : Fields} {offs : List (Option Nat)} {p : Nat}
    (hsp : ∀ k, sp = some k → p = start + k) :
    Inv start { spos := sp, lastAlign := none, unit := none, dirty := false } fs offs p BitBuf.empty p BitBuf.empty :=
  ⟨hsp, Or.inr rfl, (fun _ _ h => by cases h), rfl, ⟨rfl, Or.inl rfl⟩⟩

theorem Inv.clean {start vst fs offs cpos cbb ipos ibb} (h : Inv start vst fs offs cpos cbb ipos ibb)
    (hd : vst.dirty = false) : cbb = BitBuf.empty := by
  have := h.bb
  rw [hd, if_neg (by simp)] at this
  exact this.1

theorem dropVoids_sim (cfg : Cfg) (al : Bool) (data : Bytes) (start : Nat) (vst : VSt) (cpos : Nat) (cbb : BitBuf) :
    ∀ fs offs at_ fs' offs' skipped ctx ipos ibb, at_ = vst.spos →
      dropVoids cfg al fs offs at_ = some (fs', offs', skipped) →
      Inv start vst fs offs cpos cbb ipos ibb → ¬(skipped = true ∧ vst.dirty = true) →
      ∃ ctx' k zs ipos' ibb', skipVoids fs ctx .nil = (fs', ctx', k) ∧ nz zs = [] ∧
        readFields cfg al fs offs start ibb ctx data ipos =
          wrapR k zs (readFields cfg al fs' offs' start ibb' ctx' data ipos') ∧
        Inv start vst fs' offs' cpos cbb ipos' ibb' := by
  intro fs offs at_
  fun_induction dropVoids cfg al fs offs at_
  all_goals intro fs' offs' skipped ctx ipos ibb hat h hinv hsd
  case case1 name an ty bits rest offs at_ hv ok hok fs1 os1 sk1 hrec ih =>
    cases h
    subst hat
    have hd : vst.dirty = false := by
      cases hdd : vst.dirty with
      | false => rfl
      | true => exact (hsd ⟨rfl, hdd⟩).elim
    obtain rfl : bits = none := Option.isNone_iff_eq_none.mp hv.2
    have hpos := void_pos cfg al ty (hdOff offs) start cpos ipos vst.lastAlign vst.spos hinv.spos
      (hinv.pos.imp_left fun h => by obtain ⟨o, ho⟩ := nextStatic_hd h; rw [ho]; simp) hok
      hinv.la
    have hinv' : Inv start vst rest (offs.drop 1) cpos cbb (fieldPos cfg al ty (hdOff offs) start ipos) BitBuf.empty := by
      refine ⟨hinv.spos, Or.inr hpos, hinv.la, hinv.unit, ?_⟩
      rw [hd, if_neg (by simp)]
      exact ⟨hinv.clean hd, Or.inl rfl⟩
    obtain ⟨ctx', k, zs, ipos', ibb', h1, h2, h3, h4⟩ :=
      ih fs1 os1 sk1 (ctx.set name .void) _ _ rfl hrec hinv' (by rw [hd]; simp)
    refine ⟨ctx', fun vs => .cons .void (k vs), (name, 0) :: zs, ipos', ibb', ?_, ?_, ?_, h4⟩
    · rw [skipVoids_void name an rest ctx .nil hv.1, h1]
    · rw [nz_cons_zero]; exact h2
    · rw [readFields_void _ _ _ _ _ _ _ _ _ _ _ _ hv.1, h3, wrapR_wrapR]; rfl
  case case4 name an ty bits rest offs at_ hv =>
    cases h
    exact ⟨ctx, id, [], ipos, ibb, skipVoids_of_noVoid (fs := .cons name an ty bits rest) hv _ _, rfl,
      (wrapR_id _).symm, hinv⟩
  case case5 =>
    cases h
    exact ⟨ctx, id, [], ipos, ibb, skipVoids_of_noVoid (fs := .nil) trivial _ _, rfl, (wrapR_id _).symm, hinv⟩
  all_goals cases h

theorem sim_skip {al : Bool} {salign : Nat} {k : Vals → Vals} {zs : List (String × Nat)} {c i i' : Res} (hz : nz zs = [])
    (hi : i = wrapR k zs i') (h : Sim c (finR al salign i')) : Sim (wrapR k [] c) (finR al salign i) := by
  rw [hi, finR_wrapR]
  exact sim_wrap k [] zs (by rw [hz]; rfl) h

theorem wrapR_id' (k : Vals → Vals) (r : Res) :
    (match r with | .error e => .error e | .ok (vs, szs, pe) => (.ok (k vs, szs, pe) : Res)) = wrapR k [] r := by
  cases r with
  | error e => rfl
  | ok x => rfl

theorem exec_absorb (cfg : Cfg) (salign start : Nat) (data : Bytes) : ∀ (plan : Plan) (fs : Fields) (st : St)
    (fs' : Fields) (ctx' : Ctx) (k : Vals → Vals), skipVoids fs st.ctx .nil = (fs', ctx', k) →
    exec cfg salign start data plan fs st = wrapR k [] (exec cfg salign start data plan fs' { st with ctx := ctx' }) := by
  intro plan
  induction plan with
  | nil =>
    intro fs st fs' ctx' k hsk
    have hid := skipVoids_of_noVoid (skipVoids_noVoid _ _ _ hsk) ctx' .nil
    rw [exec, exec, hsk, hid]
    cases fs' <;> rfl
  | cons ins is ih =>
    intro fs st fs' ctx' k hsk
    have hid := skipVoids_of_noVoid (skipVoids_noVoid _ _ _ hsk) ctx' .nil
    cases ins with
    | bitsReset =>
      rw [exec, exec]
      exact ih fs _ fs' ctx' k hsk
    | seek o =>
      rw [exec, exec, hsk, hid]; dsimp only
      cases exec cfg salign start data is fs' { pos := start + o, bb := st.bb, ctx := ctx' } <;> rfl
    | align a =>
      rw [exec, exec, hsk, hid]; dsimp only
      cases exec cfg salign start data is fs' { pos := st.pos + padNat st.pos a, bb := st.bb, ctx := ctx' } <;> rfl
    | alignCls =>
      rw [exec, exec, hsk, hid]; dsimp only
      cases exec cfg salign start data is fs' { pos := st.pos + padNat st.pos salign, bb := st.bb, ctx := ctx' } <;> rfl
    | sub nm =>
      rw [exec, exec, hsk, hid]; dsimp only
      cases fs' with
      | nil => rfl
      | cons name an ty bits rest =>
        cases bits with
        | some b => rfl
        | none =>
          by_cases hc : name ≠ nm
          · simp only [if_pos hc]; rfl
          simp only [if_neg hc]
          cases read cfg ty ctx' data st.pos with
          | error e => rfl
          | ok vp =>
            obtain ⟨v, p⟩ := vp
            dsimp only
            cases exec cfg salign start data is rest { pos := p, bb := st.bb, ctx := ctx'.set name v } <;> rfl
    | bits nm n via =>
      rw [exec, exec, hsk, hid]; dsimp only
      cases fs' with
      | nil => rfl
      | cons name an ty bits rest =>
        cases bits with
        | none => rfl
        | some b =>
          by_cases hc : name ≠ nm ∨ b ≠ n ∨ n = 0
          · simp only [if_pos hc]; rfl
          simp only [if_neg hc]
          cases bitsVia ty via with
          | none => rfl
          | some ft =>
            dsimp only
            -- the unit the bit reader has or loads
            change (match loadUnit cfg ft st.bb data st.pos with | .error e => _ | .ok (bb1, p1) => _) =
              wrapR k [] (match loadUnit cfg ft st.bb data st.pos with | .error e => _ | .ok (bb1, p1) => _)
            cases loadUnit cfg ft st.bb data st.pos with
            | error e => rfl
            | ok r =>
              obtain ⟨bb1, p1⟩ := r
              dsimp only
              cases bb1.take cfg.endian n with
              | none => rfl
              | some x =>
                obtain ⟨v, bb2⟩ := x
                dsimp only
                generalize exec cfg salign start data is rest _ = r
                cases r <;> rfl
    | block size fmt slots =>
      rw [exec, exec, hsk, hid]; dsimp only
      cases readExact data st.pos size with
      | error e => rfl
      | ok bp =>
        obtain ⟨buf, p⟩ := bp
        dsimp only
        cases fmtItemsOf fmt size with
        | none => rfl
        | some its =>
          dsimp only
          cases execSlots cfg buf its slots fs' ctx' with
          | error e => rfl
          | ok r =>
            obtain ⟨vs1, szs1, fs'', ctx''⟩ := r
            dsimp only
            cases exec cfg salign start data is fs'' { pos := p, bb := st.bb, ctx := ctx'' } <;> rfl

theorem exec_seek_voids (cfg : Cfg) (salign start : Nat) (data : Bytes) (o : Nat) (is : Plan) (fs : Fields) (st : St) :
    exec cfg salign start data (.seek o :: is) fs st = exec cfg salign start data is fs { st with pos := start + o } := by
  rw [exec_absorb cfg salign start data is fs { st with pos := start + o } _ _ _ rfl,
    exec_absorb cfg salign start data (.seek o :: is) fs st _ _ _ rfl, exec_seek (skipVoids_noVoid _ _ _ rfl)]

theorem posOK_pos {cfg : Cfg} {al : Bool} {start : Nat} {vst : VSt} {name an ty bits rest} {offs : List (Option Nat)}
    {cpos : Nat} {cbb : BitBuf} {ipos : Nat} {ibb : BitBuf}
    (hinv : Inv start vst (.cons name an ty bits rest) offs cpos cbb ipos ibb)
    (h : posOK al vst (hdOff offs) (ty.alignment cfg) = true) :
    fieldPos cfg al ty (hdOff offs) start ipos = cpos ∧ (∀ o, hdOff offs = some o → vst.spos = some o) := by
  unfold posOK at h
  cases ho : hdOff offs with
  | some o =>
    rw [ho] at h
    simp only [Bool.and_eq_true, beq_iff_eq] at h
    rw [fieldPos_some]
    exact ⟨(hinv.spos o h.1).symm, by intro o' ho'; cases ho'; exact h.1⟩
  | none =>
    rw [ho] at h
    refine ⟨?_, by intro o ho'; cases ho'⟩
    have hD : LaMatch vst.lastAlign cpos ipos := by
      rcases hinv.pos with h | h
      · obtain ⟨o, h⟩ := nextStatic_hd h
        rw [ho] at h; cases h
      · exact h
    rw [fieldPos_none]
    cases al with
    | true =>
      simp only [if_true, Bool.or_eq_true, beq_iff_eq, Bool.and_eq_true, Option.isNone_iff_eq_none] at h ⊢
      rcases h with h | ⟨h1, h2⟩
      · rw [h] at hD; exact hD.symm
      · rw [h1] at hD; rw [h2, padNat_one]; exact hD
    | false =>
      simp only [Bool.false_eq_true, if_false, Option.isNone_iff_eq_none] at h ⊢
      rw [h] at hD; exact hD

theorem loadUnit_facts {cfg : Cfg} {ft : Scalar} {bb : BitBuf} {data : Bytes} {pos : Nat} {bb1 : BitBuf} {p1 fsz : Nat}
    (h : loadUnit cfg ft bb data pos = .ok (bb1, p1)) (hfs : ft.size = some fsz) :
    (bb.remaining = 0 ∨ bb.ty ≠ some ft → bb1.ty = some ft ∧ bb1.remaining = fsz * 8 ∧ p1 = pos + fsz) ∧
    (¬(bb.remaining = 0 ∨ bb.ty ≠ some ft) → bb1 = bb ∧ p1 = pos) := by
  unfold loadUnit at h
  constructor
  · intro hc
    rw [if_pos hc, hfs] at h
    cases hr : readScalar cfg ft data pos with
    | error e => rw [hr] at h; cases h
    | ok up =>
      rw [hr] at h
      cases hu : unitInt cfg up.1 with
      | none => simp only [hu] at h; cases h
      | some i =>
        simp only [hu] at h
        cases h
        exact ⟨rfl, rfl, (readScalar_pos cfg ft data pos up.1 _ hr).2 fsz hfs⟩
  · intro hc
    rw [if_neg hc] at h
    cases h
    exact ⟨rfl, rfl⟩

theorem bits_inv {start : Nat} {vst : VSt} {name an ty b rest} {offs : List (Option Nat)} {cpos : Nat} {cbb : BitBuf}
    {ipos : Nat} {ibb : BitBuf} (hinv : Inv start vst (.cons name an ty (some b) rest) offs cpos cbb ipos ibb)
    {cfg : Cfg} {ft : Scalar} {data : Bytes} {bb1 bb2 : BitBuf} {p1 fsz n : Nat} {v : Int} {e : Endian}
    (hl : loadUnit cfg ft cbb data cpos = .ok (bb1, p1)) (hfs : ft.size = some fsz) (ht : bb1.take e n = some (v, bb2)) :
    Inv start
      { spos := bitsSpos vst.spos (unitNew vst.unit ft) fsz, lastAlign := none,
        unit := some (ft, (if unitNew vst.unit ft = true then fsz * 8 else unitRem vst.unit) - n), dirty := true }
      rest (offs.drop 1) p1 bb2 p1 bb2 := by
  obtain ⟨f1, f2⟩ := loadUnit_facts hl hfs
  obtain ⟨t1, t2⟩ := take_facts ht
  -- the validator's "new unit" is the bit reader's
  have hNU : unitNew vst.unit ft = true ↔ (cbb.remaining = 0 ∨ cbb.ty ≠ some ft) := by
    have hu := hinv.unit
    cases hvu : vst.unit with
    | none => rw [hvu] at hu; simp [unitNew, hu, BitBuf.empty]
    | some ur => rw [hvu] at hu; simp [unitNew, hu.1, hu.2]
  have hrem : unitNew vst.unit ft = false → unitRem vst.unit = cbb.remaining := by
    have hu := hinv.unit
    cases hvu : vst.unit with
    | none => intro h; cases h
    | some ur => rw [hvu] at hu; intro _; exact hu.2.symm
  refine ⟨?_, Or.inr rfl, (fun _ a ha => by cases ha), ?_, rfl⟩
  · intro k hk
    cases hs : vst.spos with
    | none => rw [hs] at hk; cases hk
    | some k0 =>
      rw [hs] at hk
      cases hk
      have hc := hinv.spos k0 hs
      cases hn : unitNew vst.unit ft with
      | true => have := (f1 (hNU.mp hn)).2.2; simp only [if_true]; omega
      | false =>
        have := (f2 (fun h => by rw [hNU.mpr h] at hn; cases hn)).2
        simp only [Bool.false_eq_true, if_false]; omega
  · cases hn : unitNew vst.unit ft with
    | true =>
      obtain ⟨g1, g2, _⟩ := f1 (hNU.mp hn)
      exact ⟨by rw [t1, g1], by rw [t2, g2]; rfl⟩
    | false =>
      have hc : ¬(cbb.remaining = 0 ∨ cbb.ty ≠ some ft) := fun h => by rw [hNU.mpr h] at hn; cases hn
      obtain ⟨g1, _⟩ := f2 hc
      simp only [not_or, ne_eq, Decidable.not_not] at hc
      exact ⟨by rw [t1, g1]; exact hc.2, by rw [t2, g1, hrem hn]; rfl⟩

theorem static_pf (cfg : Cfg) (d : Bytes) : ∀ (ty : Ty), readsStruct ty = false → (ty.size cfg).isSome = true →
    ElemPF cfg false ty d
  | .sc s a, _, _ => pf_sc cfg false s a d
  | .enum b a f, _, _ => pf_enum cfg false b a f d
  | .ptr t, _, _ => pf_ptr cfg false t d
  | .struct _ _, h, _ => by simp [readsStruct] at h
  | .union _ _, h, _ => by simp [readsStruct] at h
  | .arr e len, h, hs => by
    cases len with
    | fixed n =>
      have hes : (e.size cfg).isSome = true := by
        simp only [Ty.size] at hs
        cases he : e.size cfg with
        | none => rw [he] at hs; simp at hs
        | some k => rfl
      have hE := static_pf cfg d e (by simpa [readsStruct] using h) hes
      intro ctx pos v p hr hpos
      rw [read_arr_fixed] at hr
      obtain ⟨h1, _, h3⟩ := pf_array cfg false e d hE n ctx pos v p hr (fun h => by cases h)
      refine ⟨h1, (fun h => by cases h), ?_⟩
      intro k hk
      simp only [Ty.size] at hk
      cases he : e.size cfg with
      | none => rw [he] at hk; cases hk
      | some k' =>
        rw [he] at hk
        cases hk
        exact h3 k' he
    | nullTerm => simp [Ty.size] at hs
    | expr _ => simp [Ty.size] at hs
    | eof => simp [Ty.size] at hs

theorem static_size {cfg : Cfg} {data : Bytes} {ty : Ty} {n : Nat} (hns : readsStruct ty = false)
    (hn : ty.size cfg = some n) {ctx : Ctx} {q : Nat} {v : Val} {p : Nat} (hr : read cfg ty ctx data q = .ok (v, p)) :
    p = q + n :=
  (static_pf cfg data ty hns (by rw [hn]; rfl) ctx q v p hr (fun h => by cases h)).2.2 n hn

end Cstruct.Compiler
