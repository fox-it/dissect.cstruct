/-
  C13, definition parser — the handlers are local (`Frame`): one that succeeds and leaves a non-empty rest never looked at the end
  of the token list, so it does the same when tokens are appended, with any larger step budget.  Consequence: the declaration
  list of a concatenation of token lists at a boundary (`decls_append_obs`).
-/
import Proofs.Spec.C13Parse

namespace Cstruct.DefParser.C13
open Cstruct.DefParser

/-- a step of a handler: a value and the tokens that are left -/
abbrev Handler (α : Type) := List OTok → Except PErr (α × List OTok)

/-- `h` takes at least `k` tokens and does not look past what it leaves: where `h` succeeds with a non-empty rest, `h'` (the same
    handler with a larger step budget) succeeds alike on the list with `extra` appended -/
def Frame {α : Type} (k : Nat) (h h' : Handler α) : Prop :=
  ∀ toks x r extra, h toks = .ok (x, r) → r ≠ [] → h' (toks ++ extra) = .ok (x, r ++ extra) ∧ r.length + k ≤ toks.length

theorem Frame.andThen {α β : Type} {k₁ k₂ : Nat} {h h' : Handler α} {f f' : Handler β} (H : Frame k₁ h h') (F : Frame k₂ f f')
    {toks t r extra : List OTok} {a : α} {x : β} (h1 : h toks = .ok (a, t)) (h2 : f t = .ok (x, r)) (hr : r ≠ []) :
    h' (toks ++ extra) = .ok (a, t ++ extra) ∧ f' (t ++ extra) = .ok (x, r ++ extra) ∧ r.length + (k₁ + k₂) ≤ toks.length := by
  obtain ⟨e2, l2⟩ := F t x r extra h2 hr
  -- `f` left something, so `h` did
  have ht : t ≠ [] := fun e => hr (List.eq_nil_of_length_eq_zero (by rw [e, List.length_nil] at l2; omega))
  obtain ⟨e1, l1⟩ := H toks a t extra h1 ht
  exact ⟨e1, e2, by omega⟩

theorem frame_total {α : Type} (k : Nat) (g : List OTok → α × List OTok)
    (hg : ∀ toks extra, (g toks).2 ≠ [] → g (toks ++ extra) = ((g toks).1, (g toks).2 ++ extra) ∧ (g toks).2.length + k ≤ toks.length) :
    Frame k (fun t => .ok (g t)) (fun t => .ok (g t)) := by
  intro toks x r extra he hr
  obtain ⟨rfl, rfl⟩ : (g toks).1 = x ∧ (g toks).2 = r := by rw [Except.ok.inj he]; exact ⟨rfl, rfl⟩
  exact ⟨congrArg Except.ok (hg toks extra hr).1, (hg toks extra hr).2⟩

theorem identifier_frame : Frame 0 (fun t => .ok (identifier t)) (fun t => .ok (identifier t)) := by
  refine frame_total 0 identifier fun toks extra => ?_
  induction toks with
  | nil => exact fun h => absurd rfl h
  | cons t r ih =>
    intro h
    cases t with
    | ident v =>
      cases r with
      | nil => exact absurd rfl h
      | cons t2 r2 =>
        cases t2 with
        | ident w =>
          obtain ⟨h1, h2⟩ := ih h
          exact ⟨by rw [List.cons_append, List.cons_append, identifier, ← List.cons_append, h1]; rfl, Nat.le_succ_of_le h2⟩
        | _ => exact ⟨rfl, Nat.le_succ _⟩
    | _ => exact ⟨rfl, Nat.le_refl _⟩

theorem names_frame : Frame 0 (fun t => .ok (names t)) (fun t => .ok (names t)) := by
  refine frame_total 0 names fun toks extra => ?_
  induction toks with
  | nil => exact fun h => absurd rfl h
  | cons t r ih =>
    intro h
    cases t with
    | eol => exact ⟨rfl, Nat.le_succ _⟩
    | name s d =>
      obtain ⟨h1, h2⟩ := ih h
      exact ⟨by rw [List.cons_append, names, h1]; rfl, Nat.le_succ_of_le h2⟩
    | defs l =>
      obtain ⟨h1, h2⟩ := ih h
      exact ⟨by rw [List.cons_append, names, h1]; rfl, Nat.le_succ_of_le h2⟩
    | _ => exact ⟨rfl, Nat.le_refl _⟩

theorem eol_frame (toks extra r : List OTok) (h : eol toks = .ok r) : eol (toks ++ extra) = .ok (r ++ extra) ∧ r.length + 1 ≤ toks.length := by
  cases toks with
  | nil => cases h
  | cons t toks =>
    cases t with
    | eol => cases h; exact ⟨rfl, Nat.le_refl _⟩
    | _ => cases h

/-- the optional `;` behind a struct definition -/
def dropEol : List OTok → List OTok
  | .eol :: r => r
  | t => t

theorem dropEol_frame (toks extra : List OTok) (h : dropEol toks ≠ []) :
    dropEol (toks ++ extra) = dropEol toks ++ extra ∧ (dropEol toks).length ≤ toks.length := by
  cases toks with
  | nil => exact absurd rfl h
  | cons t r =>
    cases t with
    | eol => exact ⟨rfl, Nat.le_succ _⟩
    | _ => exact ⟨rfl, Nat.le_refl _⟩

theorem structEnd_eq (reg u : Bool) (tag : Option (List Char)) (fs : List FieldDecl) (toks : List OTok) :
    structEnd reg u tag fs toks =
      if (reg && (if reg then names toks else ([], toks)).1.isEmpty && tag.isNone) = true then .error .structNoName
      else .ok (.inline (.mk u tag fs (if reg then names toks else ([], toks)).1), dropEol (if reg then names toks else ([], toks)).2) := by
  unfold structEnd dropEol
  rfl

theorem structEnd_frame (reg u : Bool) (tag : Option (List Char)) (fs : List FieldDecl) :
    Frame 0 (structEnd reg u tag fs) (structEnd reg u tag fs) := by
  intro toks x r extra h hr
  rw [structEnd_eq] at h ⊢
  -- the names (top level only), then the optional `;`
  have key : ∀ (p p' : List (List Char) × List OTok), (dropEol p.2 ≠ [] → p' = (p.1, p.2 ++ extra)) → p.2.length ≤ toks.length →
      (if (reg && p.1.isEmpty && tag.isNone) = true then (Except.error PErr.structNoName : Except PErr (TypeRef × List OTok))
        else .ok (.inline (.mk u tag fs p.1), dropEol p.2)) = .ok (x, r) →
      (if (reg && p'.1.isEmpty && tag.isNone) = true then (Except.error PErr.structNoName : Except PErr (TypeRef × List OTok))
        else .ok (.inline (.mk u tag fs p'.1), dropEol p'.2)) = .ok (x, r ++ extra) ∧ r.length + 0 ≤ toks.length := by
    intro p p' hp hl hh
    split at hh
    · cases hh
    · rename_i hc
      obtain ⟨rfl, rfl⟩ : TypeRef.inline (.mk u tag fs p.1) = x ∧ dropEol p.2 = r := by cases hh; exact ⟨rfl, rfl⟩
      obtain ⟨h1, h2⟩ := dropEol_frame p.2 extra hr
      rw [hp hr, if_neg hc, h1]
      exact ⟨rfl, Nat.le_trans h2 hl⟩
  cases reg with
  | true =>
    refine key (names toks) (names (toks ++ extra)) (fun hd => ?_) ?_ h
    · exact (names_frame toks _ _ extra rfl (fun e => hd (by rw [e]; rfl)) |>.1 |> Except.ok.inj)
    · by_cases hn : (names toks).2 = []
      · rw [hn]; exact Nat.zero_le _
      · exact (names_frame toks _ _ [] rfl hn).2
  | false => exact key ([], toks) ([], toks ++ extra) (fun _ => rfl) (Nat.le_refl _) h

theorem fieldTail_frame (ty : TypeRef) (ws : Bool) : Frame 0 (fieldTail ty ws) (fieldTail ty ws) := by
  intro toks x r extra h hr
  cases toks with
  | nil =>
    cases ws with
    | false => cases h
    | true => cases h; exact absurd rfl hr
  | cons t toks =>
    cases t with
    | name s d =>
      cases d with
      | error e => cases h
      | ok d =>
        rw [fieldTail] at h
        rw [List.cons_append, fieldTail]
        cases he : eol toks with
        | error e => rw [he] at h; cases h
        | ok r' =>
          rw [he] at h
          obtain ⟨h1, h2⟩ := eol_frame toks extra r' he
          rw [h1]
          cases h
          exact ⟨rfl, by simp only [List.length_cons]; omega⟩
    | _ =>
      cases ws with
      | false => cases h
      | true => cases h; exact ⟨rfl, Nat.le_refl _⟩

/-- the four handlers of `_struct` / `_parse_field` at the step budgets `f` and `g`; `_struct` takes its keyword -/
def FrameP (f g : Nat) : Prop :=
  (∀ reg, Frame 1 (structH f reg) (structH g reg)) ∧ (∀ reg u tag, Frame 0 (structTail f reg u tag) (structTail g reg u tag)) ∧
  Frame 0 (fieldsH f) (fieldsH g) ∧ Frame 0 (fieldH f) (fieldH g)

theorem fieldH_other (n : Nat) (t : OTok) (l : List OTok) (h1 : ∀ v, t ≠ .ident v) (h2 : ∀ u, t ≠ .struct u) :
    fieldH (n + 1) (t :: l) = fieldTail .none false (t :: l) :=
  fieldH.eq_4 _ _ (Nat.succ_ne_zero n) (fun v _ e => h1 v (List.cons.inj e).1) (fun _ u _ _ e => h2 u (List.cons.inj e).1)

theorem frame_all : ∀ (f g : Nat), f ≤ g → FrameP f g
  | 0, g, _ => by
    refine ⟨fun reg toks x r extra h => ?_, fun reg u tag toks x r extra h => ?_, fun toks x r extra h => ?_, fun toks x r extra h => ?_⟩ <;>
      cases h
  | f + 1, g + 1, hg => by
    obtain ⟨ihS, ihT, ihFs, ihF⟩ := frame_all f g (Nat.le_of_succ_le_succ hg)
    refine ⟨fun reg toks x r extra h hr => ?_, fun reg u tag toks x r extra h hr => ?_, fun toks x r extra h hr => ?_,
      fun toks x r extra h hr => ?_⟩
    · -- `_struct`: the keyword, an optional tag, then the rest
      cases toks with
      | nil => cases h
      | cons t toks =>
        cases t with
        | struct u =>
          have key : ∀ tag toks', structTail f reg u tag toks' = .ok (x, r) →
              structTail g reg u tag (toks' ++ extra) = .ok (x, r ++ extra) ∧ r.length + 0 ≤ toks'.length :=
            fun tag toks' h' => ihT reg u tag toks' x r extra h' hr
          cases toks with
          | nil => exact absurd (List.eq_nil_of_length_eq_zero (Nat.le_zero.mp (key none [] h).2)) hr
          | cons t2 toks2 =>
            cases t2 with
            | ident v => exact ⟨(key (some v) toks2 h).1, Nat.succ_le_succ (Nat.le_succ_of_le (key (some v) toks2 h).2)⟩
            | _ => exact ⟨(key none _ h).1, Nat.succ_le_succ (key none _ h).2⟩
        | _ => cases h
    · -- behind the keyword and the tag: a declarator (a reference to the struct), or the member list and the end
      cases toks with
      | nil => cases h
      | cons t toks =>
        cases t with
        | name s d =>
          cases tag with
          | none => cases h
          | some n =>
            cases reg with
            | true => cases h
            | false => cases h; exact ⟨rfl, Nat.le_refl _⟩
        | block b =>
          rw [structTail] at h
          split at h
          · cases h
          · rename_i fs t1 h1
            obtain ⟨e1, e2, hl⟩ := ihFs.andThen (structEnd_frame reg u tag fs) (extra := extra) h1 h hr
            rw [List.cons_append, structTail, e1]
            exact ⟨e2, Nat.le_succ_of_le hl⟩
        | _ => cases h
    · -- the member loop: a member, then the loop
      cases toks with
      | nil => cases h; exact absurd rfl hr
      | cons t toks =>
        by_cases ht : t = .block true
        · subst ht; cases h; exact ⟨rfl, Nat.le_succ _⟩
        · have hb : ∀ l (r' : List OTok), t :: l = .block true :: r' → False := fun _ _ e => ht (List.cons.inj e).1
          rw [fieldsH.eq_4 _ f (fun e => by cases e) (hb _)] at h
          split at h
          · cases h
          · rename_i fd t1 h1
            split at h
            · cases h
            · rename_i fs t2 h2
              cases h
              obtain ⟨e1, e2, hl⟩ := ihF.andThen ihFs (extra := extra) h1 h2 hr
              rw [List.cons_append, fieldsH.eq_4 _ g (fun e => by cases e) (hb _), ← List.cons_append, e1]
              dsimp only
              rw [e2]
              exact ⟨rfl, hl⟩
    · -- a member: its type (identifiers, or a struct), then its declarator
      cases toks with
      | nil => cases h
      | cons t toks =>
        cases t with
        | ident v =>
          obtain ⟨e1, e2, hl⟩ := identifier_frame.andThen (fieldTail_frame (.name (identifier (.ident v :: toks)).1) false)
            (extra := extra) rfl h hr
          rw [List.cons_append, fieldH.eq_2 _ _ _ (Nat.succ_ne_zero g), ← List.cons_append, Except.ok.inj e1]
          exact ⟨e2, hl⟩
        | struct u =>
          rw [fieldH] at h
          split at h
          · cases h
          · rename_i ty t1 h1
            obtain ⟨e1, e2, hl⟩ := (ihS false).andThen (fieldTail_frame ty true) (extra := extra) h1 h hr
            rw [List.cons_append, fieldH, ← List.cons_append, e1]
            exact ⟨e2, Nat.le_of_succ_le hl⟩
        | _ =>
          rw [fieldH_other f _ toks (fun _ e => by cases e) (fun _ e => by cases e)] at h
          rw [List.cons_append, fieldH_other g _ _ (fun _ e => by cases e) (fun _ e => by cases e)]
          exact fieldTail_frame .none false _ x r extra h hr

theorem typedefOf_frame (ty : TypeRef) (ns : List (List Char)) : Frame 0 (typedefOf ty ns) (typedefOf ty ns) := by
  intro toks x r extra h _
  unfold typedefOf at h ⊢
  split at h
  · cases h
  · split at h
    · cases h
    · rename_i ds hds
      cases h
      exact ⟨rfl, Nat.le_refl _⟩

theorem typedefTail_frame (ty : TypeRef) : Frame 0 (typedefTail ty) (typedefTail ty) := by
  intro toks x r extra h hr
  obtain ⟨e1, e2, hl⟩ := names_frame.andThen (typedefOf_frame ty (names toks).1) (extra := extra) rfl h hr
  rw [typedefTail, Except.ok.inj e1]
  exact ⟨e2, hl⟩

theorem typedefH_frame : Frame 0 typedefH typedefH := by
  intro toks x r extra h hr
  cases toks with
  | nil => exact absurd (List.eq_nil_of_length_eq_zero (Nat.le_zero.mp (typedefTail_frame .none [] x r [] h hr).2)) hr
  | cons t toks =>
    cases t with
    | ident v =>
      obtain ⟨e1, e2, hl⟩ := identifier_frame.andThen (typedefTail_frame (.name (identifier (.ident v :: toks)).1))
        (extra := extra) rfl h hr
      rw [List.cons_append, typedefH, ← List.cons_append, Except.ok.inj e1]
      exact ⟨e2, hl⟩
    | struct u =>
      rw [typedefH] at h
      split at h
      · cases h
      · rename_i ty t1 h1
        obtain ⟨e1, e2, hl⟩ := ((frame_all _ (4 * ((OTok.struct u :: toks) ++ extra).length + 8)
          (by rw [List.length_append]; omega)).1 false).andThen (typedefTail_frame ty) (extra := extra) h1 h hr
        rw [List.cons_append, typedefH, ← List.cons_append, e1]
        exact ⟨e2, Nat.le_of_succ_le hl⟩
    | _ =>
      rw [typedefH.eq_3 _ (fun _ _ e => by cases e) (fun _ _ e => by cases e)] at h
      rw [List.cons_append, typedefH.eq_3 _ (fun _ _ e => by cases e) (fun _ _ e => by cases e)]
      exact typedefTail_frame .none _ x r extra h hr

theorem declH_frame : Frame 1 declH declH := by
  intro toks x r extra h hr
  cases toks with
  | nil => cases h
  | cons t toks =>
    cases t with
    | config m => cases m with
      | none => cases h
      | some m => cases h; exact ⟨rfl, Nat.le_refl _⟩
    | define m => cases m with
      | none => cases h
      | some m => cases h; exact ⟨rfl, Nat.le_refl _⟩
    | lookup m => cases m with
      | none => cases h
      | some m => cases h; exact ⟨rfl, Nat.le_refl _⟩
    | typedef => exact ⟨(typedefH_frame toks x r extra h hr).1, Nat.succ_le_succ (typedefH_frame toks x r extra h hr).2⟩
    | struct u =>
      rw [declH] at h
      split at h
      · rename_i a t1 h1
        cases h
        have := (frame_all _ (4 * (toks ++ extra).length + 12) (by rw [List.length_append]; omega)).1 true _ _ _ extra h1 hr
        rw [List.cons_append, declH, ← List.cons_append, this.1]
        exact ⟨rfl, this.2⟩
      · cases h
      · cases h
    | enum m =>
      cases m with
      | none => cases h
      | some m =>
        rw [declH, enumH] at h
        split at h
        · cases h
        · rename_i r' he
          cases h
          rw [List.cons_append, declH, enumH, (eol_frame toks extra _ he).1]
          exact ⟨rfl, Nat.le_succ_of_le (eol_frame toks extra _ he).2⟩
    | _ => cases h

theorem declH_len (toks : List OTok) (d : Decl) (r : List OTok) (h : declH toks = .ok (d, r)) : r.length < toks.length := by
  cases r with
  | nil =>
    cases toks with
    | nil => cases h
    | cons t toks => exact Nat.zero_lt_succ _
  | cons e r => exact (declH_frame toks d _ [] h (List.cons_ne_nil e r)).2

theorem declsN_frame : ∀ (k : Nat), Frame k (declsN k) (declsN k)
  | 0 => fun toks x r extra h _ => by cases h; exact ⟨rfl, Nat.le_refl _⟩
  | k + 1 => by
    intro toks x r extra h hr
    rw [declsN] at h ⊢
    split at h
    · cases h
    · rename_i d t1 h1
      split at h
      · cases h
      · rename_i ds t2 h2
        cases h
        obtain ⟨e1, e2, hl⟩ := declH_frame.andThen (declsN_frame k) (extra := extra) h1 h2 hr
        rw [e1]
        dsimp only
        rw [e2]
        exact ⟨rfl, by omega⟩

theorem declsH_fuel : ∀ (n : Nat) (toks : List OTok) (f g : Nat), toks.length ≤ n → toks.length < f → toks.length < g →
    declsH f toks = declsH g toks
  | _, [], f + 1, g + 1, _, _, _ => rfl
  | n + 1, t :: toks, f + 1, g + 1, hn, hf, hg => by
    rw [declsH, declsH]
    split
    · rfl
    · rename_i d r hd
      have hl := declH_len _ d r hd
      simp only [List.length_cons] at hl hn hf hg
      rw [declsH_fuel n r f g (by omega) (by omega) (by omega)]

theorem declsH_of_declsN : ∀ (k : Nat) (toks : List OTok) (ds : List Decl) (r : List OTok) (f : Nat),
    declsN k toks = .ok (ds, r) → toks.length < f →
    declsH f toks = (ds ++ (declsH (r.length + 1) r).1, (declsH (r.length + 1) r).2)
  | 0, toks, ds, r, f, h, hf => by
    cases h
    rw [declsH_fuel toks.length toks f (toks.length + 1) (Nat.le_refl _) hf (Nat.lt_succ_self _)]
    rfl
  | k + 1, t :: toks, ds, r, f + 1, h, hf => by
    rw [declsN] at h
    split at h
    · cases h
    · rename_i d t1 h1
      split at h
      · cases h
      · rename_i ds' t2 h2
        cases h
        have hl := declH_len _ d t1 h1
        rw [declsH, h1]
        dsimp only
        rw [declsH_of_declsN k t1 ds' r f h2 (by simp only [List.length_cons] at hl hf; omega)]
        rfl

theorem decls_append_obs (o1 o2 : List OTok) (ds1 : List Decl) (h1 : declsH (o1.length + 1) o1 = (ds1, none))
    (hb : ∀ e, o2.head? = some e → declsN ds1.length (o1 ++ [e]) = .ok (ds1, [e])) :
    declsH ((o1 ++ o2).length + 1) (o1 ++ o2) = (ds1 ++ (declsH (o2.length + 1) o2).1, (declsH (o2.length + 1) o2).2) := by
  cases o2 with
  | nil => rw [List.append_nil, h1]; exact Prod.ext (List.append_nil ds1).symm rfl
  | cons e o2 =>
    have := (declsN_frame ds1.length (o1 ++ [e]) ds1 [e] o2 (hb e rfl) (List.cons_ne_nil e [])).1
    rw [List.append_assoc] at this
    exact declsH_of_declsN ds1.length (o1 ++ e :: o2) ds1 (e :: o2) _ this (Nat.lt_succ_self _)

end Cstruct.DefParser.C13
