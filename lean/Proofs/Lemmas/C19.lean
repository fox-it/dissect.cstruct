/-
  C19 — helper lemmas: the text emitted by the palette state machine does not depend on the state; rows;
  the hex column read back; pack / unpack / swap through the integer codec (`Proofs/C05.lean`).
-/
import Proofs.Spec.C19
import Proofs.C05
namespace Cstruct.Hexdump.C19.Lemmas
open Cstruct Cstruct.Hexdump Cstruct.Hexdump.C19

theorem strip_nil : stripCodes [] = "" := rfl
theorem strip_text (t : String) (l : List Seg) : stripCodes (.text t :: l) = t ++ stripCodes l := rfl
theorem strip_code (c : String) (l : List Seg) : stripCodes (.code c :: l) = stripCodes l := rfl

theorem stripCodes_append (a b : List Seg) : stripCodes (a ++ b) = stripCodes a ++ stripCodes b := by
  induction a with
  | nil => rw [List.nil_append, strip_nil, String.empty_append]
  | cons x r ih =>
    cases x with
    | text s => rw [List.cons_append, strip_text, strip_text, ih, String.append_assoc]
    | code s => rw [List.cons_append, strip_code, strip_code, ih]

theorem strip_ite_code (c : Prop) [Decidable c] (x : String) : stripCodes (if c then [.code x] else []) = "" := by
  split <;> rfl

def cellText (b : Option UInt8) : String := match b with | some x => hex2 x | none => "  "
def cellChar (b : Option UInt8) : String := match b with | some x => printChar x | none => ""
def sep (j : Nat) : String := if j = 7 then "  " else " "

/-- the hex column of one cell: whatever the palette state, the colour switch in front of the byte and the resets after
    it contribute colour codes only -/
theorem cell_values (s : PState) (j : Nat) (b : Option UInt8) :
    stripCodes (cell s j b).2.1 = cellText b ++ sep j := by
  unfold cell
  split
  rename_i s1 v1 h1
  have hv1 : stripCodes v1 = "" := by
    (repeat' split at h1) <;> cases h1 <;> rfl
  cases b with
  | none =>
    simp only [stripCodes_append, hv1, strip_text, strip_nil, String.append_empty, String.empty_append]
    rfl
  | some x =>
    dsimp only
    split <;>
    · simp only [stripCodes_append, hv1, strip_ite_code, strip_text, strip_nil, String.append_empty, String.empty_append]
      rfl

theorem cell_chars (s : PState) (j : Nat) (b : Option UInt8) :
    stripCodes (cell s j b).2.2 = cellChar b := by
  unfold cell
  split
  cases b with
  | none => rfl
  | some x =>
    dsimp only
    split <;> simp only [strip_code, strip_text, strip_nil, String.append_empty, cellChar]

theorem plainValues_nil (j : Nat) : plainValues [] j = "" := by
  rw [plainValues.eq_def]

theorem plainValues_cons (b : Option UInt8) (rest : List (Option UInt8)) (j : Nat) :
    plainValues (b :: rest) j = cellText b ++ sep j ++ plainValues rest (j + 1) := by
  rw [plainValues.eq_def]; rfl

theorem cells_values (s : PState) (j : Nat) (row : List (Option UInt8)) :
    stripCodes (cells s j row).2.1 = plainValues row j := by
  induction row generalizing s j with
  | nil => rw [plainValues_nil]; rfl
  | cons b rest ih => simp only [cells, stripCodes_append, cell_values, ih, plainValues_cons]

theorem cells_chars (s : PState) (j : Nat) (row : List (Option UInt8)) :
    stripCodes (cells s j row).2.2 = String.join (row.map cellChar) := by
  induction row generalizing s j with
  | nil => rfl
  | cons b rest ih => simp only [cells, stripCodes_append, cell_chars, ih, List.map_cons, String.join_cons]

theorem padRow_chars (row : Bytes) : String.join ((padRow row).map cellChar) = plainChars row := by
  have hpad : ∀ k, String.join (List.replicate k "") = "" := by
    intro k
    induction k with
    | zero => rfl
    | succ k ih => rw [List.replicate_succ, String.join_cons, ih]; rfl
  rw [padRow, List.map_append, List.map_map, List.map_replicate, String.join_append, show cellChar none = "" from rfl,
    hpad, String.append_empty]
  rfl

theorem lines_strip (s : PState) (offset : Nat) : ∀ (fuel k : Nat) (data : Bytes),
    (lines s (offset + 16 * k) fuel data).map (fun l => (l.offset, stripCodes l.values, stripCodes l.chars)) =
      ((List.range' k (rows fuel data).length).zip (rows fuel data)).map
        fun (i, row) => (offset + 16 * i, plainValues (padRow row) 0, plainChars row) := by
  intro fuel
  induction fuel generalizing s with
  | zero => intro k data; rfl
  | succ fuel ih =>
    intro k data
    cases data with
    | nil => rfl
    | cons b r =>
      simp only [lines, rows, List.map_cons, List.length_cons, List.range'_succ, List.zip_cons_cons, cells_values,
        cells_chars, padRow_chars]
      rw [show offset + 16 * k + 16 = offset + 16 * (k + 1) by omega, ih]

theorem rows_flatten (fuel : Nat) (data : Bytes) (h : data.length < fuel) : (rows fuel data).flatten = data := by
  induction fuel generalizing data with
  | zero => omega
  | succ fuel ih =>
    cases data with
    | nil => rfl
    | cons b r =>
      simp only [rows, List.flatten_cons]
      rw [ih, List.take_append_drop]
      rw [List.length_drop]; rw [List.length_cons] at h ⊢; omega

theorem rows_mem (fuel : Nat) (data : Bytes) : ∀ r ∈ rows fuel data, 0 < r.length ∧ r.length ≤ 16 := by
  induction fuel generalizing data with
  | zero => intro r hr; cases hr
  | succ fuel ih =>
    cases data with
    | nil => intro r hr; cases hr
    | cons b r =>
      intro x hx
      simp only [rows, List.mem_cons] at hx
      rcases hx with rfl | hx
      · rw [List.length_take, List.length_cons]; omega
      · exact ih _ x hx

theorem rows_eq_nil (fuel : Nat) (data : Bytes) (h : 0 < fuel) : rows fuel data = [] ↔ data = [] := by
  cases fuel with
  | zero => omega
  | succ f => cases data <;> simp [rows]

theorem rows_dropLast (fuel : Nat) (data : Bytes) : ∀ r ∈ (rows fuel data).dropLast, r.length = 16 := by
  induction fuel generalizing data with
  | zero => intro r hr; cases hr
  | succ fuel ih =>
    cases data with
    | nil => intro r hr; cases hr
    | cons b r =>
      intro x hx
      simp only [rows] at hx
      cases fuel with
      | zero => cases hx
      | succ f =>
        by_cases hne : List.drop 16 (b :: r) = []
        · rw [hne] at hx; cases hx
        · rw [List.dropLast_cons_of_ne_nil (mt (rows_eq_nil _ _ (Nat.succ_pos f)).1 hne), List.mem_cons] at hx
          rcases hx with rfl | hx
          · have := List.length_pos_iff.mpr hne
            rw [List.length_drop] at this
            rw [List.length_take]; omega
          · exact ih _ x hx

theorem hex_digit : ∀ d : Nat, d < 16 → hexDigit d ≠ ' ' ∧ unhex (hexDigit d) = d := by
  decide

theorem hex_byte (b : UInt8) : hexDigit (b.toNat / 16) ≠ ' ' ∧
    UInt8.ofNat (unhex (hexDigit (b.toNat / 16)) * 16 + unhex (hexDigit (b.toNat % 16))) = b := by
  have hb := b.toNat_lt
  have h1 := hex_digit (b.toNat / 16) (by omega)
  have h2 := hex_digit (b.toNat % 16) (by omega)
  refine ⟨h1.1, ?_⟩
  rw [h1.2, h2.2, Nat.div_add_mod']
  exact UInt8.ofNat_toNat

theorem sep_toList_drop (j : Nat) (r : List Char) :
    ((sep j).toList ++ r).drop (if j = 7 then 2 else 1) = r := by
  unfold sep
  split <;> rfl

theorem parse_plain (row : Bytes) (k fuel j : Nat) (h : row.length ≤ fuel) :
    parseValues fuel j (plainValues (row.map some ++ List.replicate k none) j).toList = row := by
  induction row generalizing fuel j with
  | nil =>
    cases k with
    | zero => cases fuel <;> rfl
    | succ k =>
      cases fuel with
      | zero => rfl
      | succ f =>
        rw [List.map_nil, List.nil_append, List.replicate_succ, plainValues_cons, String.toList_append,
          String.toList_append]
        rfl
  | cons b r ih =>
    cases fuel with
    | zero => cases h
    | succ f =>
      rw [List.map_cons, List.cons_append, plainValues_cons, String.toList_append, String.toList_append, cellText,
        hex2, String.toList_ofList]
      have hb := hex_byte b
      simp only [List.cons_append, List.nil_append, parseValues, if_neg hb.1, hb.2, sep_toList_drop]
      rw [ih _ _ (Nat.le_of_succ_le_succ h)]

theorem pack_some (v : Int) (n : Nat) (e : Endian) (hn : 0 < n) :
    pack v (some (8 * n)) e = encodeInt e n (decide (v < 0)) v := by
  obtain ⟨k, rfl⟩ : ∃ k, n = k + 1 := ⟨n - 1, by omega⟩
  rw [show 8 * (k + 1) = (8 * k + 7) + 1 by omega]
  simp only [pack]
  congr 1
  omega

theorem unpack_some_eq (bs : Bytes) (n : Nat) (e : Endian) (s : Bool) (hl : bs.length = n) :
    unpack bs (some (8 * n)) e s = some (decodeInt e s bs) := by
  simp only [unpack]
  rw [if_neg]
  omega

theorem unpack_some_ne (bs : Bytes) (n : Nat) (e : Endian) (s : Bool) (hn : 0 < n) (hl : bs.length ≠ n) :
    unpack bs (some (8 * n)) e s = none := by
  simp only [unpack]
  rw [if_pos]
  omega

theorem encodeInt_sign (e : Endian) (n : Nat) (s s' : Bool) (v : Int) (h : fits n s v = true) (h' : fits n s' v = true) :
    encodeInt e n s v = encodeInt e n s' v := by
  simp only [encodeInt, h, h']

theorem fits_sign (n : Nat) (s : Bool) (v : Int) (h : fits n s v = true) : fits n (decide (v < 0)) v = true := by
  unfold fits at h ⊢
  generalize ((2 ^ (8 * n) : Nat) : Int) = P at *
  by_cases hv : v < 0 <;> cases s <;> simp only [hv, decide_true, decide_false, if_true, Bool.false_eq_true, if_false,
    decide_eq_true_eq] at h ⊢ <;> omega

theorem encodeInt_big {n : Nat} {s : Bool} {v : Int} {bs : Bytes} (h : encodeInt .little n s v = some bs) :
    encodeInt .big n s v = some bs.reverse := by
  unfold encodeInt at h ⊢
  split at h
  · rename_i hf
    cases h
    rw [if_pos hf]
  · cases h

theorem swap_eq (v : Int) (n : Nat) (hn : 0 < n) (hv : ¬ v < 0) {bs : Bytes} (hb : encodeInt .big n false v = some bs)
    (hl : bs.length = n) : swap v (8 * n) = some (decodeInt .little false bs) := by
  simp only [swap, pack_some _ _ _ hn, hv, decide_false, hb]
  exact unpack_some_eq _ _ _ _ hl

theorem lt_two_pow_bitLength (m : Nat) : m < 2 ^ bitLength m := by
  unfold bitLength
  split
  · subst_vars; decide
  · exact Nat.lt_log2_self

theorem lt_pow_bytes (m bits : Nat) (h : m < 2 ^ bits) : m < 2 ^ (8 * ((bits + 7) / 8)) :=
  Nat.lt_of_lt_of_le h (Nat.pow_le_pow_right (by decide) (by omega))

end Cstruct.Hexdump.C19.Lemmas
