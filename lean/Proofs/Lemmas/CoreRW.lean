/-
  The writer, one equation per branch (`write`, `writeN`, `writeFields` at a member with and without bit width), the
  write/read facts `WR` for the scalars of fragment S, and the bulk array readers against the element loop.
-/
import Proofs.Lemmas.CoreLayout
import Proofs.C05
namespace Cstruct.Core.Lemmas
open Cstruct Cstruct.Core

/-! ### Unfolding the writer

  As for the reader (`CoreUnfold`): one branch of the model each, restated with `Except.bind` and the definitions of this
  section, proved by `rfl` without smart unfolding. -/
/-- `writeFields` flushes a pending unit before a member that is not a bit-field of the unit's storage type -/
def needFlush (bits : Option Nat) (ty : Ty) (bb : BitBuf) : Bool :=
  (!isBitW bits && bb.ty.isSome) || (bb.ty.isSome && bb.ty ≠ (if isBitW bits then ty.bitBase else none))

def padTo (foff : Option Nat) (start pos : Nat) : Nat :=
  match foff with | some fo => if pos < start + fo then start + fo - pos else 0 | none => 0

/-- the padding of the aligned writer in front of a member without recorded offset, unless a unit is being filled -/
def padAl (cfg : Cfg) (al : Bool) (ty : Ty) (foff : Option Nat) (bb : BitBuf) (pos : Nat) : Nat :=
  if al ∧ foff.isNone ∧ (bb.ty.isNone ∨
      (bb.ty.isSome && (bb.remaining = 0 || bb.ty ≠ (match ty with | .sc s _ => some s | _ => none)))) then
    padNat pos (ty.alignment cfg) else 0

def bitInt? : Val → Option Int
  | .int i => some i
  | .enum i => some i
  | _ => none

/-- the writer's bit-field step once the unit `bb2` is selected; `pre` is what the member has emitted before
    (flushed units and padding) -/
def putStepG (cfg : Cfg) (al : Bool) (rest : Fields) (offs : List (Option Nat)) (vs : Vals) (start : Nat) (fsz : Nat)
    (i : Int) (w : Nat) (bb2 : BitBuf) (pos : Nat) (pre : Bytes) : Except Err (Bytes × BitBuf) :=
  match bb2.put cfg.endian fsz i w with
  | none => .error .value
  | some bb3 =>
    (if bb3.remaining = 0 then flushBits cfg bb3 else .ok []).bind fun fl3 =>
      (writeFields cfg al rest offs vs start (if bb3.remaining = 0 then BitBuf.empty else bb3)
          (pos + (pre ++ fl3).length)).bind fun (o, bbf) => .ok (pre ++ fl3 ++ o, bbf)

section
set_option smartUnfolding false

theorem write_sc (cfg : Cfg) (s a v pos) : write cfg (.sc s a) v pos = writeScalar cfg s v := by
  rw [write]

theorem write_enum_enum (cfg : Cfg) (b a f i pos) :
    write cfg (.enum b a f) (.enum i) pos = writeScalar cfg b (.int i) := by
  rw [write]

theorem write_ptr_ptr (cfg : Cfg) (t i pos) :
    write cfg (.ptr t) (.ptr i) pos = writeScalar cfg cfg.ptr (.int i) := by
  rw [write]

theorem write_arr_chars (cfg : Cfg) (a n b pos) :
    write cfg (.arr (.sc .char a) (.fixed n)) (.bytes b) pos = .ok b := by
  rw [write]
  intro h; cases h

theorem write_arr_list (cfg : Cfg) (e n vs pos) :
    write cfg (.arr e (.fixed n)) (.list vs) pos =
      if vs.length ≠ n then .error .arraySize else writeN cfg e vs pos := by
  rw [write.eq_def]
  cases e with
  | sc s a => cases s <;> rfl
  | _ => rfl

theorem write_struct (cfg : Cfg) (al fs vs pos) :
    write cfg (.struct al fs) (.record vs) pos =
      (structLayout cfg al fs).bind fun (_, salign, offs) =>
        (writeFields cfg al fs offs vs pos BitBuf.empty pos).bind fun (out, bb) =>
          (flushBits cfg bb).bind fun fl =>
            .ok (if al then (out ++ fl) ++ zeros (padNat (pos + (out ++ fl).length) salign) else out ++ fl) := by
  rw [write]; rfl

theorem writeN_nil (cfg : Cfg) (t pos) : writeN cfg t .nil pos = .ok [] := by
  rw [writeN]

theorem writeN_cons (cfg : Cfg) (t v vs pos) :
    writeN cfg t (.cons v vs) pos =
      (write cfg t v pos).bind fun a => (writeN cfg t vs (pos + a.length)).bind fun b => .ok (a ++ b) := by
  rw [writeN.eq_2]; rfl

theorem writeFields_nil (cfg : Cfg) (al offs vs start bb pos) :
    writeFields cfg al .nil offs vs start bb pos = .ok ([], bb) := by
  rw [writeFields.eq_def]

theorem writeFields_cons_nobits (cfg : Cfg) (al name an ty bits rest offs v vs start bb pos) (hb : isBitW bits = false) :
    writeFields cfg al (.cons name an ty bits rest) offs (.cons v vs) start bb pos =
      (if needFlush bits ty bb then flushBits cfg bb else .ok []).bind fun fl =>
        let bb1 := if needFlush bits ty bb then BitBuf.empty else bb
        let pad1 := padTo offs.head?.join start (pos + fl.length)
        let pad2 := padAl cfg al ty offs.head?.join bb1 (pos + fl.length + pad1)
        (write cfg ty v (pos + fl.length + pad1 + pad2)).bind fun body =>
          (writeFields cfg al rest (offs.drop 1) vs start bb1
              (pos + (fl ++ zeros pad1 ++ zeros pad2 ++ body).length)).bind fun (o, bbf) =>
            .ok (fl ++ zeros pad1 ++ zeros pad2 ++ body ++ o, bbf) := by
  rw [writeFields.eq_def]
  rcases bits with _ | _ | b
  · cases offs <;> rfl
  · cases offs <;> rfl
  · cases hb

theorem writeFields_cons_bits (cfg : Cfg) (al name an ty b rest offs v vs start bb pos) :
    writeFields cfg al (.cons name an ty (some (b + 1)) rest) offs (.cons v vs) start bb pos =
      (if needFlush (some (b + 1)) ty bb then flushBits cfg bb else .ok []).bind fun fl =>
        let bb1 := if needFlush (some (b + 1)) ty bb then BitBuf.empty else bb
        let pad1 := padTo offs.head?.join start (pos + fl.length)
        let pad2 := padAl cfg al ty offs.head?.join bb1 (pos + fl.length + pad1)
        match ty.bitBase, bitInt? v with
        | some ft, some i =>
          match ft.size with
          | none => .error .value
          | some fsz =>
            (if (bb1.remaining = 0 ∨ bb1.ty ≠ some ft) ∧ bb1.ty.isSome then flushBits cfg bb1 else .ok []).bind fun fl2 =>
              putStepG cfg al rest (offs.drop 1) vs start fsz i (b + 1)
                (if bb1.remaining = 0 ∨ bb1.ty ≠ some ft then { ty := some ft, buffer := 0, remaining := fsz * 8 } else bb1)
                pos (fl ++ zeros pad1 ++ zeros pad2 ++ fl2)
        | _, _ => .error .typeErr := by
  rw [writeFields.eq_def]
  cases offs <;> rfl

end

theorem needFlush_empty (bits : Option Nat) (ty : Ty) : needFlush bits ty BitBuf.empty = false := by
  simp [needFlush, BitBuf.empty]

theorem padAl_some (cfg : Cfg) (al ty fo bb pos) : padAl cfg al ty (some fo) bb pos = 0 := by
  simp [padAl]

theorem padAl_false (cfg : Cfg) (ty foff bb pos) : padAl cfg false ty foff bb pos = 0 := by
  simp [padAl]

theorem zeros_zero : zeros 0 = [] := rfl

theorem length_zeros (n : Nat) : (zeros n).length = n := List.length_replicate ..

theorem writeFields_cons_S (cfg : Cfg) (al name an ty rest fo offs v vs start pos) :
    writeFields cfg al (.cons name an ty none rest) (some fo :: offs) (.cons v vs) start BitBuf.empty pos =
      (write cfg ty v (pos + (if pos < start + fo then start + fo - pos else 0))).bind fun body =>
        (writeFields cfg al rest offs vs start BitBuf.empty
            (pos + (zeros (if pos < start + fo then start + fo - pos else 0) ++ body).length)).bind fun (o, bbf) =>
          .ok (zeros (if pos < start + fo then start + fo - pos else 0) ++ body ++ o, bbf) := by
  rw [writeFields_cons_nobits _ _ _ _ _ _ _ _ _ _ _ _ _ rfl]
  simp only [needFlush_empty, Bool.false_eq_true, if_false, Except.bind, List.length_nil, Nat.add_zero, List.nil_append,
    List.head?, Option.join, Option.bind, id, padTo, padAl_some, zeros_zero, List.append_nil, List.drop_one, List.tail_cons]

theorem flushBits_empty (cfg : Cfg) : flushBits cfg BitBuf.empty = .ok [] := rfl

theorem fieldPos_some (cfg : Cfg) (al : Bool) (ty : Ty) (fo start pos : Nat) :
    fieldPos cfg al ty (some fo) start pos = start + fo := by
  simp [fieldPos]

theorem readFields_cons_S (cfg : Cfg) (al name an ty rest fo offs start bb ctx data pos) :
    readFields cfg al (.cons name an ty none rest) (some fo :: offs) start bb ctx data pos =
      (read cfg ty ctx data (start + fo)).bind fun (v, p1) =>
        (readFields cfg al rest offs start BitBuf.empty (ctx.set name v) data p1).bind fun (vs, szs, p') =>
          .ok (.cons v vs, (name, p1 - (start + fo)) :: szs, p') := by
  rw [readFields_cons_nobits _ _ _ _ _ _ _ _ _ _ _ _ _ rfl]
  simp [fieldPos]

theorem sread_mid (pre bs post : Bytes) : sread (pre ++ bs ++ post) pre.length bs.length = bs := by
  unfold sread
  rw [List.append_assoc, List.drop_left, List.take_left]

theorem readExact_mid (pre bs post : Bytes) (pos n : Nat) (hp : pre.length = pos) (hn : bs.length = n) :
    readExact (pre ++ bs ++ post) pos n = .ok (bs, pos + n) := by
  subst hp; subst hn
  have h := sread_mid pre bs post
  have := readExact_of_len (d := pre ++ bs ++ post) (pos := pre.length) (n := bs.length) (by rw [h])
  rw [this, h]

theorem sread_length_of_le (d : Bytes) (pos n : Nat) (h : pos + n ≤ d.length) : (sread d pos n).length = n := by
  rw [sread_length]; omega

theorem readExact_of_le (d : Bytes) (pos n : Nat) (h : pos + n ≤ d.length) :
    readExact d pos n = .ok (sread d pos n, pos + n) :=
  readExact_of_len (sread_length_of_le d pos n h)

/-- write/read facts for one value of a type: the bytes written, their number, and that they parse back -/
def WR (cfg : Cfg) (ty : Ty) (v : Val) (pos : Nat) : Prop :=
  ∃ bs k, write cfg ty v pos = .ok bs ∧ ty.size cfg = some k ∧ bs.length = k ∧
    ∀ (pre post : Bytes) (ctx : Ctx), pre.length = pos → read cfg ty ctx (pre ++ bs ++ post) pos = .ok (v, pos + k)

theorem sread_add (d : Bytes) (pos k m : Nat) : sread d pos (k + m) = sread d pos k ++ sread d (pos + k) m := by
  unfold sread
  rw [List.take_add, List.drop_drop]

theorem sread_zero (d : Bytes) (pos : Nat) : sread d pos 0 = [] := by
  unfold sread; simp

/-- scalars with a fixed-width decoder and a bulk array reader -/
def Bulk (cfg : Cfg) (s : Scalar) (k : Nat) (dec : Bytes → Val) : Prop :=
  (∀ data pos, readScalar cfg s data pos = (readExact data pos k).bind fun r => .ok (dec r.1, r.2)) ∧
  (∀ n data pos, readScalarArray cfg s n data pos =
    some ((readExact data pos (k * n)).bind fun r => .ok (.list (Vals.ofList ((splitEvery k n r.1).map dec)), r.2)))

theorem bulk_pint (cfg : Cfg) (k : Nat) (sg : Bool) :
    Bulk cfg (.pint k sg) k (fun bs => .int (decodeInt cfg.endian sg bs)) := by
  constructor
  · intro data pos; rfl
  · intro n data pos
    simp only [readScalarArray, Vals.ofInts, List.map_map]; rfl

theorem bulk_pflt (cfg : Cfg) (k : Nat) :
    Bulk cfg (.pflt k) k (fun bs => .flt (decodeNat cfg.endian bs)) := by
  constructor
  · intro data pos; rfl
  · intro n data pos; rfl

theorem readN_bulk (cfg : Cfg) (s : Scalar) (a k : Nat) (dec : Bytes → Val) (hB : Bulk cfg s k dec) (ctx : Ctx)
    (data : Bytes) : ∀ (n pos : Nat) (vs : Vals) (p : Nat), readN cfg (.sc s a) n ctx data pos = .ok (vs, p) →
      (sread data pos (k * n)).length = k * n ∧ p = pos + k * n ∧
        vs = Vals.ofList ((splitEvery k n (sread data pos (k * n))).map dec) := by
  intro n
  induction n with
  | zero =>
    intro pos vs p h
    rw [readN_zero] at h
    cases h
    simp [sread_zero, splitEvery, Vals.ofList]
  | succ n ih =>
    intro pos vs p h
    rw [readN_succ] at h
    obtain ⟨⟨v, p1⟩, h1, h2⟩ := bind_ok h
    obtain ⟨⟨vs', p'⟩, h3, h4⟩ := bind_ok h2
    rw [read_sc, hB.1] at h1
    obtain ⟨⟨bs1, q⟩, h5, h6⟩ := bind_ok h1
    obtain ⟨hl1, hr⟩ := readExact_ok h5
    cases hr
    cases h6
    cases h4
    obtain ⟨i1, i2, i3⟩ := ih _ _ _ h3
    have hk : k * (n + 1) = k + k * n := by rw [Nat.mul_succ]; omega
    rw [hk, sread_add]
    refine ⟨by rw [List.length_append, hl1, i1], by omega, ?_⟩
    simp only [splitEvery, List.map_cons, Vals.ofList]
    rw [List.take_left' hl1, List.drop_left' hl1, i3]

theorem readScalarArray_of_readN (cfg : Cfg) (s : Scalar) (a k : Nat) (dec : Bytes → Val) (hB : Bulk cfg s k dec)
    (ctx : Ctx) (data : Bytes) (n pos : Nat) (vs : Vals) (p : Nat)
    (h : readN cfg (.sc s a) n ctx data pos = .ok (vs, p)) :
    readScalarArray cfg s n data pos = some (.ok (.list vs, p)) := by
  obtain ⟨h1, h2, h3⟩ := readN_bulk cfg s a k dec hB ctx data n pos vs p h
  rw [hB.2, readExact_of_len h1]
  simp only [Except.bind, h2, h3]

theorem readN_enum (cfg : Cfg) (b : Scalar) (a : Nat) (f : Bool) (ctx : Ctx) (data : Bytes) :
    ∀ (n pos : Nat) (vs : Vals) (p : Nat), readN cfg (.enum b a f) n ctx data pos = .ok (vs, p) →
      ∃ vs', readN cfg (.sc b a) n ctx data pos = .ok (vs', p) ∧ vs'.mapEnum = vs := by
  intro n
  induction n with
  | zero =>
    intro pos vs p h
    rw [readN_zero] at h ⊢
    cases h
    exact ⟨.nil, rfl, rfl⟩
  | succ n ih =>
    intro pos vs p h
    rw [readN_succ] at h ⊢
    obtain ⟨⟨v, p1⟩, h1, h2⟩ := bind_ok h
    obtain ⟨⟨vs', p'⟩, h3, h4⟩ := bind_ok h2
    rw [read_enum] at h1
    obtain ⟨i, q, h5, h6⟩ := wrapInt_ok h1
    cases h6; cases h4
    obtain ⟨ws, h7, h8⟩ := ih _ _ _ h3
    refine ⟨.cons (.int i) ws, ?_, ?_⟩
    · rw [read_sc, h5]; simp only [Except.bind]; rw [h7]
    · simp only [Vals.mapEnum, h8]

theorem readArray_char (cfg : Cfg) (a n : Nat) (ctx : Ctx) (data : Bytes) (pos : Nat) :
    readArray cfg (.sc .char a) n ctx data pos =
      if n = 0 then .ok (.bytes [], pos) else (readExact data pos n).bind fun r => .ok (.bytes r.1, r.2) := by
  rw [readArray.eq_1]; rfl

theorem readArray_of_readN (cfg : Cfg) (e : Ty) (hS : e.fragS cfg = true) (hne : ∀ a, e ≠ .sc .char a)
    (ctx : Ctx) (data : Bytes) (n pos : Nat) (vs : Vals) (p : Nat)
    (h : readN cfg e n ctx data pos = .ok (vs, p)) : readArray cfg e n ctx data pos = .ok (.list vs, p) := by
  cases e with
  | sc s a =>
    rw [readArray.eq_1]
    cases s with
    | pint k sg => rw [readScalarArray_of_readN cfg _ a k _ (bulk_pint cfg k sg) ctx data n pos vs p h]
    | pflt k => rw [readScalarArray_of_readN cfg _ a k _ (bulk_pflt cfg k) ctx data n pos vs p h]
    | aint k sg | void => simp only [readScalarArray, h, Except.map]
    | char => exact absurd rfl (hne a)
    | wchar | leb sg => simp [Ty.fragS] at hS
  | enum b a f =>
    rw [readArray.eq_2]
    obtain ⟨vs', h1, h2⟩ := readN_enum cfg b a f ctx data n pos vs p h
    simp only [Ty.fragS] at hS
    cases b with
    | pint k sg =>
      rw [readScalarArray_of_readN cfg _ a k _ (bulk_pint cfg k sg) ctx data n pos vs' p h1]
      simp only [h2]
    | aint k sg => simp only [readScalarArray, h1, h2]
    | pflt k | char | wchar | leb sg | void => simp [Scalar.isInt] at hS
  | ptr t | arr e' l | struct al fs =>
    rw [readArray.eq_3 _ _ _ _ _ _ (by intros; contradiction) (by intros; contradiction), h]; rfl
  | union al fs => simp [Ty.fragS] at hS

end Cstruct.Core.Lemmas
