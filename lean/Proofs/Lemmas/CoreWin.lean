/-
  The window theorems. A successful read is cut at its end position (`win_ty`) and the cut
  input extended (`extU_read`); types without bit-fields are the special case with the closed-form offsets `offsG`.
-/
import Proofs.Lemmas.CoreWinInd
import Proofs.Lemmas.C08Extend
namespace Cstruct.Core.Lemmas.WinBits
open Cstruct Cstruct.Core Cstruct.C08.Lemmas

theorem read_prefix_bits_u (cfg : Cfg) (al : Bool) (g : Scalar → Nat) (ty : Ty) (hplain : ty.plainU cfg = true)
    (hbn : al = true → ty.bitsAlignBy cfg g = true) (hu : ty.uniformAlign al = true) (hp : ty.pow2Aligned cfg) (ctx : Ctx)
    (d1 : Bytes) (pos : Nat) (hal : ty.alignsDivide cfg pos = true) (v : Val) (p : Nat)
    (hr : read cfg ty ctx d1 pos = .ok (v, p)) (d2 : Bytes) (hpre : d1.take p <+: d2) :
    read cfg ty ctx d2 pos = .ok (v, p) := by
  have h1 := (win_ty cmp_le (loopInv_le cfg al g d1) ty hplain hu hp hbn).2 ctx pos v p hr
    (fun _ => sAlign_dvd_of_alignsDivide cfg pos ty hal) p (Nat.le_refl _)
  obtain ⟨t, rfl⟩ := hpre
  exact extU_read cfg (d1.take p) t ty hplain ctx pos _ h1

theorem read_end_le_u (cfg : Cfg) (al : Bool) (g : Scalar → Nat) (ty : Ty) (hplain : ty.plainU cfg = true)
    (hbn : al = true → ty.bitsAlignBy cfg g = true) (hu : ty.uniformAlign al = true) (hp : ty.pow2Aligned cfg) (ctx : Ctx)
    (d : Bytes) (pos : Nat) (hal : ty.alignsDivide cfg pos = true) (v : Val) (p : Nat)
    (hr : read cfg ty ctx d pos = .ok (v, p)) : pos ≤ p ∧ ∀ k, ty.size cfg = some k → p ≤ pos + k := by
  obtain ⟨h1, _, h3⟩ := (win_ty cmp_le (loopInv_le cfg al g d) ty hplain hu hp hbn).1 ctx pos v p hr
    (fun _ => sAlign_dvd_of_alignsDivide cfg pos ty hal)
  exact ⟨h1, h3⟩

theorem read_prefix_bits_alt (cfg : Cfg) (al : Bool) (ty : Ty) (hplain : ty.plain = true)
    (hbn : al = true → ty.bitsNatural cfg = true) (hu : ty.uniformAlign al = true) (hp : ty.pow2Aligned cfg) (ctx : Ctx)
    (d1 : Bytes) (pos : Nat) (hal : ty.alignsDivide cfg pos = true) (v : Val) (p : Nat)
    (hr : read cfg ty ctx d1 pos = .ok (v, p)) (d2 : Bytes) (hpre : d1.take p <+: d2) :
    read cfg ty ctx d2 pos = .ok (v, p) :=
  read_prefix_bits_u cfg al _ ty (plainU_of_plain cfg ty hplain) (fun ha => bitsAlignBy_of_bitsNatural cfg ty (hbn ha)) hu hp
    ctx d1 pos hal v p hr d2 hpre

end Cstruct.Core.Lemmas.WinBits

namespace Cstruct.Core.Lemmas
open Cstruct Cstruct.Core WinBits

theorem pf_ty (cfg : Cfg) (al : Bool) (d : Bytes) (ty : Ty) (hPl : ty.plain = true) (hNB : ty.noBits = true)
    (hU : ty.uniformAlign al = true) (hP : ty.pow2Aligned cfg) : ElemPF cfg al ty d :=
  (win_ty cmp_eq (loopInv_eq cfg al d) ty (plainU_of_plain cfg ty hPl) hU hP (fun _ => bitsAlignBy_of_noBits cfg _ ty hNB)).1

theorem maxAlign_dvd_of_all (cfg : Cfg) (m : Nat) : ∀ fs : Fields, allAlignDvd cfg m fs → ∀ a, (a = 0 ∨ a ∣ m) →
    (Fields.maxAlign cfg fs a = 0 ∨ Fields.maxAlign cfg fs a ∣ m)
  | .nil, _, a, ha => ha
  | .cons _ _ t _ r, h, a, ha => by
    refine maxAlign_dvd_of_all cfg m r h.2 _ (Or.inr ?_)
    rcases Nat.le_total a (t.alignment cfg) with hle | hle
    · rw [Nat.max_eq_right hle]; exact h.1
    · rw [Nat.max_eq_left hle]
      rcases ha with rfl | ha
      · exact Nat.le_zero.1 hle ▸ h.1
      · exact ha

theorem t_fields (cfg : Cfg) (al : Bool) (d : Bytes) : ∀ (fs : Fields), Fields.plain fs = true →
    Fields.noBits fs = true → Fields.uniformAlign al fs = true → fs.pow2Aligned cfg →
    ∀ (so : Option Nat) (start : Nat) (bb : BitBuf) (ctx : Ctx) (pos : Nat) (vs : Vals) (szs : List (String × Nat)) (p : Nat),
    readFields cfg al fs (offsG cfg al fs so) start bb ctx d pos = .ok (vs, szs, p) →
    (al = true → allAlignDvd cfg start fs) → (∀ o, so = some o → pos = start + o) →
    ∀ q, p ≤ q → readFields cfg al fs (offsG cfg al fs so) start bb ctx (d.take q) pos = .ok (vs, szs, p) := by
  intro fs hPl hNB hU hP so start bb ctx pos vs szs p h hdv hinv q hq
  -- without bit-fields the incoming bit buffer is not looked at
  have hbb : ∀ d', readFields cfg al fs (offsG cfg al fs so) start bb ctx d' pos =
      readFields cfg al fs (offsG cfg al fs so) start BitBuf.empty ctx d' pos := by
    intro d'
    cases fs with
    | nil => rw [readFields_nil, readFields_nil]
    | cons name an ty bits rest =>
      simp only [Fields.noBits, Bool.and_eq_true] at hNB
      simp only [offsG]
      rw [readFields_cons_nb _ _ _ _ _ _ _ _ _ _ _ _ _ _ (noBits_bits hNB.1.1),
        readFields_cons_nb _ _ _ _ _ _ _ _ _ _ _ _ _ _ (noBits_bits hNB.1.1)]
  rw [hbb] at h ⊢
  obtain ⟨sz, hl⟩ := layoutG cfg al fs hNB so 0
  have hM := maxAlign_p2 cfg fs hP 0 (Or.inl rfl)
  refine (ptw_fields cfg al (fun _ => 0) d fs hPl hU hP (fun _ => bitsAlignBy_of_noBits cfg _ (.struct al fs) hNB) _ start
    BitBuf.empty ctx pos sz _ _ vs szs p hl h hdv (binvw_mkSt (fun o ho => Nat.le_of_eq (hinv o ho))) hM
    (fun x => ?_)).2.2 q hq
  cases al with
  | false => rfl
  | true =>
    rcases maxAlign_dvd_of_all cfg start fs (hdv rfl) 0 (Or.inl rfl) with h0 | h0
    · simp only [alignTo, if_true, h0, padNat_zero]; omega
    · exact alignTo_add hM true start x h0

theorem read_prefix_alt (cfg : Cfg) (al : Bool) (ty : Ty) (hplain : ty.plain = true) (hnb : ty.noBits = true)
    (hu : ty.uniformAlign al = true) (hp : ty.pow2Aligned cfg) (ctx : Ctx) (d1 : Bytes) (pos : Nat)
    (hal : ty.alignsDivide cfg pos = true) (v : Val) (p : Nat)
    (hr : read cfg ty ctx d1 pos = .ok (v, p)) (d2 : Bytes) (hpre : d1.take p <+: d2) :
    read cfg ty ctx d2 pos = .ok (v, p) :=
  read_prefix_bits_u cfg al (fun _ => 0) ty (plainU_of_plain cfg ty hplain) (fun _ => bitsAlignBy_of_noBits cfg _ ty hnb) hu hp
    ctx d1 pos hal v p hr d2 hpre

end Cstruct.Core.Lemmas
