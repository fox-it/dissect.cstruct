/-
  C10 — lemmas for `Proofs/C10.lean`: facts about the generated operator tables (finite, by evaluation), literal
  parsing, the unary-minus rewriting on grammar derivations (`D_rewrite`) and the shunting-yard loop on grammar
  derivations as one invariant (`D_run`).
-/
import Proofs.Spec.C10

namespace Cstruct.Expr.C10.Lemmas
open Cstruct Cstruct.Expr Cstruct.Expr.C10

instance (t : String) : Decidable (IsName t) := by unfold IsName; infer_instance

theorem lookup_isSome {α} (t : String) (l : List (String × α)) :
    (lookup t l).isSome = true → t ∈ l.map Prod.fst := by
  induction l with
  | nil => simp [lookup]
  | cons x l ih =>
    obtain ⟨k', v⟩ := x
    simp only [lookup, List.map_cons, List.mem_cons]
    by_cases h : t = k'
    · intro _; exact Or.inl h
    · simp only [h, if_false]; intro h'; exact Or.inr (ih h')

def opNames : List String :=
  Gen.binaryOperators.map Prod.fst ++ Gen.unaryOperators.map Prod.fst

theorem mem_opNames {t : String} (h : isOperator t = true) : t ∈ opNames := by
  simp only [isOperator, isBinary, isUnary, Bool.or_eq_true] at h
  simp only [opNames, List.mem_append]
  exact h.imp (lookup_isSome _ _) (lookup_isSome _ _)

theorem opNames_facts : ∀ x ∈ opNames, isNumber x = false ∧ x ≠ "(" ∧ x ≠ "sizeof" := by decide +kernel

theorem op_facts {t : String} (h : isOperator t = true) : isNumber t = false ∧ t ≠ "(" ∧ t ≠ "sizeof" :=
  opNames_facts t (mem_opNames h)

theorem not_unary_of_not_op {t : String} (h : isOperator t = false) : isUnary t = false := by
  rw [isOperator, Bool.or_eq_false_iff] at h; exact h.2

theorem cBinary_facts : ∀ x ∈ cBinary,
    lookup x.1 Gen.precedenceLevels = some x.2.2 ∧ x.2.2 ≤ 5 ∧
    lookup x.1 Gen.binaryOperators = some x.2.1 ∧ lookup x.1 Gen.unaryOperators = none := by decide +kernel

structure BinFacts (t : String) (o : Gen.BinKind) (k : Nat) : Prop where
  prec : lookup t Gen.precedenceLevels = some k
  le5 : k ≤ 5
  bin : lookup t Gen.binaryOperators = some o
  notUn : lookup t Gen.unaryOperators = none

theorem binFacts {t o k} (h : (t, o, k) ∈ cBinary) : BinFacts t o k :=
  have ⟨h1, h2, h3, h4⟩ := cBinary_facts (t, o, k) h
  ⟨h1, h2, h3, h4⟩

theorem BinFacts.isOp {t o k} (hf : BinFacts t o k) : isOperator t = true := by
  rw [isOperator, isBinary, hf.bin]; rfl

theorem unary_facts : ∀ x ∈ Gen.unaryOperators,
    lookup x.1 Gen.unaryOperators = some x.2 ∧ lookup x.1 Gen.precedenceLevels = some 6 := by decide +kernel

theorem unary_mem : (Gen.minusMarker, Gen.UnKind.neg) ∈ Gen.unaryOperators ∧ ("~", Gen.UnKind.inv) ∈ Gen.unaryOperators := by
  decide +kernel

theorem unary_isOp {t : String} {u : Gen.UnKind} (h : lookup t Gen.unaryOperators = some u) :
    isUnary t = true ∧ isOperator t = true := by
  rw [isOperator, isUnary, h]; exact ⟨rfl, Bool.or_true _⟩

theorem minusMarker_ne : Gen.minusMarker ≠ "-" := by decide +kernel

theorem minus_isOp : isOperator "-" = true := by decide +kernel

theorem unaryCtx_facts : ∀ x ∈ Gen.unaryContextTokens, isNumber x = false := by decide +kernel

theorem lp_mem_unaryCtx : "(" ∈ Gen.unaryContextTokens := by decide +kernel

theorem lp_facts : isNumber "(" = false ∧ isOperator "(" = false ∧ "(" ≠ "sizeof" := by decide +kernel

theorem rp_facts : isNumber ")" = false ∧ isOperator ")" = false ∧ ")" ≠ "sizeof" ∧ ")" ≠ "(" ∧
    ")" ∉ Gen.unaryContextTokens := by decide +kernel

theorem sizeof_facts : isNumber "sizeof" = false ∧ isOperator "sizeof" = false := by decide +kernel

theorem lookup_none_of_not_name {env : Env} (henv : EnvOk env) {t : String} (h : ¬ IsName t) :
    lookup t env.ctx = none ∧ lookup t env.consts = none := by
  constructor
  · cases hl : lookup t env.ctx with
    | none => rfl
    | some v => exact absurd (henv.1 t v hl) h
  · cases hl : lookup t env.consts with
    | none => rfl
    | some v => exact absurd (henv.2 t v hl) h

theorem envOk_of_keys {env : Env} (h1 : ∀ t ∈ env.ctx.map Prod.fst, IsName t)
    (h2 : ∀ t ∈ env.consts.map Prod.fst, IsName t) : EnvOk env :=
  ⟨fun t v h => h1 t (lookup_isSome t _ (by rw [h]; rfl)), fun t v h => h2 t (lookup_isSome t _ (by rw [h]; rfl))⟩

theorem parseBase_eq (base : Nat) (cs : List Char) (hne : cs ≠ []) (h : ∀ c ∈ cs, digitVal c < base) :
    parseBase base cs = some (ofDigits base (cs.map digitVal)) := by
  have step : ∀ (cs : List Char), (∀ c ∈ cs, digitVal c < base) → ∀ a : Nat,
      cs.foldl (fun acc c => match acc with
        | none => none
        | some a => if digitVal c < base then some (a * base + digitVal c) else none) (some a)
      = some ((cs.map digitVal).foldl (fun a d => a * base + d) a) := by
    intro cs
    induction cs with
    | nil => intro _ _; rfl
    | cons d cs ih =>
      intro h a
      simp only [List.foldl_cons, List.map_cons, h d List.mem_cons_self, if_true]
      exact ih (fun x hx => h x (List.mem_cons_of_mem _ hx)) _
  cases cs with
  | nil => exact absurd rfl hne
  | cons c cs => exact step (c :: cs) h 0

theorem parseInt_prefixed (p : Char) (rest : List Char) :
    parseInt (String.ofList ('0' :: p :: rest)) =
      if p = 'x' ∨ p = 'X' then (parseBase 16 rest).map Int.ofNat
      else if p = 'b' ∨ p = 'B' then (parseBase 2 rest).map Int.ofNat
      else if p = 'o' ∨ p = 'O' then (parseBase 8 rest).map Int.ofNat
      else if (p :: rest).all (· = '0') then some 0 else none := by
  simp only [parseInt, String.toList_ofList]

theorem parseInt_decimal {c : Char} (cs : List Char) (h : c ≠ '0') :
    parseInt (String.ofList (c :: cs)) = (parseBase 10 (c :: cs)).map Int.ofNat := by
  unfold parseInt
  rw [String.toList_ofList]
  split
  · rename_i heq; exact absurd (List.cons.inj heq).1 h
  · rfl

theorem digitVal_digitChar : ∀ d, d < 16 → digitVal (digitChar d) = d := by decide +kernel

theorem digitChar_ne_zero : ∀ d, d < 10 → d ≠ 0 → digitChar d ≠ '0' := by decide +kernel

theorem parseBase_digits (base : Nat) (hb : base ≤ 16) (ds : List Nat) (hne : ds ≠ []) (h : ∀ d ∈ ds, d < base) :
    (parseBase base (ds.map digitChar)).map Int.ofNat = some (Int.ofNat (ofDigits base ds)) := by
  have hv : ∀ d ∈ ds, digitVal (digitChar d) = d := fun d hd => digitVal_digitChar d (Nat.lt_of_lt_of_le (h d hd) hb)
  have hm : (ds.map digitChar).map digitVal = ds := by
    rw [List.map_map]; exact (List.map_congr_left (g := id) hv).trans (List.map_id ds)
  rw [parseBase_eq base _ (by simpa using hne) (fun c hc => by
    obtain ⟨d, hd, rfl⟩ := List.mem_map.mp hc
    rw [hv d hd]; exact h d hd), hm]
  rfl

theorem literals (ds : List Nat) (hne : ds ≠ []) :
    ((∀ d ∈ ds, d < 16) → ∀ p ∈ ['x', 'X'],
        parseInt (String.ofList ('0' :: p :: ds.map digitChar)) = some (Int.ofNat (ofDigits 16 ds))) ∧
    ((∀ d ∈ ds, d < 2) → ∀ p ∈ ['b', 'B'],
        parseInt (String.ofList ('0' :: p :: ds.map digitChar)) = some (Int.ofNat (ofDigits 2 ds))) ∧
    ((∀ d ∈ ds, d < 8) →
        parseInt (String.ofList ('0' :: 'o' :: ds.map digitChar)) = some (Int.ofNat (ofDigits 8 ds))) ∧
    ((∀ d ∈ ds, d < 10) → ds.head? ≠ some 0 →
        parseInt (String.ofList (ds.map digitChar)) = some (Int.ofNat (ofDigits 10 ds))) := by
  refine ⟨fun h p hp => ?_, fun h p hp => ?_, fun h => ?_, fun h h0 => ?_⟩
  · rw [parseInt_prefixed, if_pos (by simpa using hp)]
    exact parseBase_digits 16 (Nat.le_refl _) ds hne h
  · have hp : p = 'b' ∨ p = 'B' := by simpa using hp
    rw [parseInt_prefixed, if_neg (by rcases hp with rfl | rfl <;> decide), if_pos hp]
    exact parseBase_digits 2 (by decide) ds hne h
  · rw [parseInt_prefixed, if_neg (by decide), if_neg (by decide), if_pos (by decide)]
    exact parseBase_digits 8 (by decide) ds hne h
  · cases ds with
    | nil => exact absurd rfl hne
    | cons d ds =>
      have hd0 : d ≠ 0 := fun e => h0 (by rw [e]; rfl)
      rw [List.map_cons, parseInt_decimal _ (digitChar_ne_zero d (h d List.mem_cons_self) hd0)]
      exact parseBase_digits 10 (by decide) (d :: ds) hne h

/-- after `prev` (the previous rewritten token, `none` at the start), a `-` is unary -/
def uctx : Option String → Bool
  | none => true
  | some p => isOperator p || Gen.unaryContextTokens.contains p

/-- what the rewriting loop writes over token `t` when the previous (rewritten) token is `prev` -/
def markTok (prev : Option String) (t : String) : String :=
  if t = "-" then (if uctx prev then Gen.minusMarker else t) else t

theorem rewriteFrom_cons (prev : Option String) (t : String) (r : List String) :
    rewriteFrom prev (t :: r) = markTok prev t :: rewriteFrom (some (markTok prev t)) r := by
  cases prev <;> rfl

theorem markTok_ne {p t} (h : t ≠ "-") : markTok p t = t := if_neg h

theorem markTok_unary {p} (h : uctx p = true) : markTok p "-" = Gen.minusMarker := by
  rw [markTok, if_pos rfl, if_pos h]

theorem markTok_binary {p} (h : uctx p = false) : markTok p "-" = "-" := by
  rw [markTok, if_pos rfl, h]; rfl

theorem markTok_idem (prev : Option String) (t : String) : markTok prev (markTok prev t) = markTok prev t := by
  by_cases ht : t = "-"
  · subst ht
    cases hc : uctx prev with
    | true => rw [markTok_unary hc, markTok_ne minusMarker_ne]
    | false => rw [markTok_binary hc, markTok_binary hc]
  · rw [markTok_ne ht, markTok_ne ht]

theorem rewriteFrom_idem (l : List String) : ∀ prev, rewriteFrom prev (rewriteFrom prev l) = rewriteFrom prev l := by
  induction l with
  | nil => intro _; rfl
  | cons t r ih =>
    intro prev
    rw [rewriteFrom_cons, rewriteFrom_cons, markTok_idem, ih]

theorem rewriteMinus_idem (l : List String) : rewriteMinus (rewriteMinus l) = rewriteMinus l :=
  rewriteFrom_idem l none

def lastTok : Option String → List String → Option String
  | p, [] => p
  | _, t :: r => lastTok (some t) r

theorem lastTok_append (a b : List String) : ∀ p, lastTok p (a ++ b) = lastTok (lastTok p a) b := by
  induction a with
  | nil => intro _; rfl
  | cons t a ih => intro p; exact ih (some t)

theorem rewriteFrom_append (a b : List String) : ∀ p,
    rewriteFrom p (a ++ b) = rewriteFrom p a ++ rewriteFrom (lastTok p (rewriteFrom p a)) b := by
  induction a with
  | nil => intro _; rfl
  | cons t a ih =>
    intro p
    rw [List.cons_append, rewriteFrom_cons, rewriteFrom_cons, ih, List.cons_append]
    rfl

/-- a token that can end an expression: after it a `-` is binary (and it is not `(`) -/
def EndTok (t : String) : Prop := isOperator t = false ∧ t ∉ Gen.unaryContextTokens

theorem uctx_end {l} (h : EndTok l) : uctx (some l) = false := by
  have h2 : Gen.unaryContextTokens.contains l = false := by
    cases hc : Gen.unaryContextTokens.contains l with
    | false => rfl
    | true => exact absurd (List.contains_iff_mem.mp hc) h.2
  rw [uctx, h.1, h2]; rfl

theorem uctx_facts : uctx (some "(") = true ∧ uctx (some Gen.minusMarker) = true ∧ uctx (some "~") = true ∧
    "~" ≠ "-" := by decide +kernel

theorem uctx_op {t} (h : isOperator t = true) : uctx (some t) = true := by
  rw [uctx, h]; rfl

theorem ne_minus_of_not_op {t} (h : isOperator t = false) : t ≠ "-" := by
  intro e; rw [e, minus_isOp] at h; cases h

theorem endTok_name {t} (h : IsName t) : EndTok t := ⟨h.2.1, h.2.2.2.2⟩

theorem not_op_of_number {t} (h : isNumber t = true) : isOperator t = false := by
  cases ho : isOperator t with
  | false => rfl
  | true => rw [(op_facts ho).1] at h; cases h

theorem endTok_atom {env t v} (h : Atom env t v) : EndTok t := by
  cases h with
  | lit hn _ =>
    refine ⟨not_op_of_number hn, fun hm => ?_⟩
    rw [unaryCtx_facts t hm] at hn; cases hn
  | ctx hn _ => exact endTok_name hn
  | const hn _ _ => exact endTok_name hn

theorem endTok_rp : EndTok ")" := ⟨rp_facts.2.1, rp_facts.2.2.2.2⟩

theorem endTok_ne_lp {t} (h : EndTok t) : t ≠ "(" := by
  intro e; subst e; exact h.2 lp_mem_unaryCtx

theorem D_rewrite {env k raw marked v} (hD : D env k raw marked v) :
    ∀ prev, uctx prev = true → rewriteFrom prev raw = marked ∧
      ∃ l, (∀ p, lastTok p marked = some l) ∧ EndTok l := by
  induction hD with
  | @atom t v ha =>
    intro prev _
    refine ⟨?_, t, fun _ => rfl, endTok_atom ha⟩
    rw [rewriteFrom_cons, markTok_ne (ne_minus_of_not_op (endTok_atom ha).1)]; rfl
  | @sizeof name v hn _ _ =>
    intro prev _
    refine ⟨?_, ")", fun _ => rfl, endTok_rp⟩
    rw [rewriteFrom_cons, markTok_ne (ne_minus_of_not_op sizeof_facts.2), rewriteFrom_cons,
      markTok_ne (ne_minus_of_not_op lp_facts.2.1), rewriteFrom_cons, markTok_ne (ne_minus_of_not_op hn.2.1),
      rewriteFrom_cons, markTok_ne (ne_minus_of_not_op rp_facts.2.1)]; rfl
  | @paren raw marked v _ ih =>
    intro prev _
    obtain ⟨hrw, l, hl, _⟩ := ih (some "(") uctx_facts.1
    refine ⟨?_, ")", ?_, endTok_rp⟩
    · rw [List.cons_append, rewriteFrom_cons, markTok_ne (ne_minus_of_not_op lp_facts.2.1), rewriteFrom_append,
        hrw, rewriteFrom_cons, markTok_ne (ne_minus_of_not_op rp_facts.2.1)]; rfl
    · intro p
      show lastTok (some "(") (marked ++ [")"]) = _
      rw [lastTok_append]; rfl
  | @neg raw marked v _ ih =>
    intro prev hp
    obtain ⟨hrw, l, hl, hend⟩ := ih (some Gen.minusMarker) uctx_facts.2.1
    refine ⟨?_, l, fun p => hl _, hend⟩
    rw [rewriteFrom_cons, markTok_unary hp, hrw]
  | @inv raw marked v _ ih =>
    intro prev hp
    obtain ⟨hrw, l, hl, hend⟩ := ih (some "~") uctx_facts.2.2.1
    refine ⟨?_, l, fun p => hl _, hend⟩
    rw [rewriteFrom_cons, markTok_ne uctx_facts.2.2.2, hrw]
  | up _ _ ih => exact ih
  | @bin k t o r1 m1 r2 m2 a b v hmem _ _ _ ih1 ih2 =>
    intro prev hp
    obtain ⟨hrw1, l1, hl1, hend1⟩ := ih1 prev hp
    obtain ⟨hrw2, l2, hl2, hend2⟩ := ih2 (some t) (uctx_op (binFacts hmem).isOp)
    have hmark : markTok (some l1) t = t := by
      by_cases ht : t = "-"
      · subst ht; exact markTok_binary (uctx_end hend1)
      · exact markTok_ne ht
    refine ⟨?_, l2, ?_, hend2⟩
    · rw [rewriteFrom_append, hrw1, hl1, rewriteFrom_cons, hmark, hrw2]
    · intro p
      rw [lastTok_append]
      exact hl2 _

-- `drain` doubles as the meaning of a stack segment: `drain pend qa = .ok q'` says that applying the operators of
-- `pend`, top first, turns the queue `qa` into `q'`.

theorem drain_cons_ok {it : String} {st : List String} {q q' : List Int} (h : drain (it :: st) q = .ok q') :
    it ≠ "(" ∧ ∃ q1, applyOp it q = .ok q1 ∧ drain st q1 = .ok q' := by
  unfold drain at h
  by_cases hlp : it = "("
  · rw [if_pos hlp] at h; cases h
  · rw [if_neg hlp] at h
    refine ⟨hlp, ?_⟩
    cases ha : applyOp it q with
    | error e => rw [ha] at h; cases h
    | ok q1 => rw [ha] at h; exact ⟨q1, rfl, h⟩

/-- A loop `f` that pops an operator satisfying `C` and applies it, like `drain` does, gets through a whole stack
    segment of such operators the way `drain` does. -/
theorem pop_segment {β} (f : List String → List Int → β) (C : String → Prop)
    (hstep : ∀ it st q q1, C it → it ≠ "(" → applyOp it q = .ok q1 → f (it :: st) q = f st q1)
    (pend st : List String) : ∀ (qa q' : List Int), (∀ it ∈ pend, C it) → drain pend qa = .ok q' →
    f (pend ++ st) qa = f st q' := by
  induction pend with
  | nil => intro qa q' _ h; unfold drain at h; cases h; rfl
  | cons it pend ih =>
    intro qa q' hC h
    obtain ⟨hlp, q1, ha, hd⟩ := drain_cons_ok h
    rw [List.cons_append, hstep it _ qa q1 (hC it List.mem_cons_self) hlp ha]
    exact ih _ _ (fun x hx => hC x (List.mem_cons_of_mem _ hx)) hd

theorem drain_cons_of {it : String} {st : List String} {q q1 : List Int} (hlp : it ≠ "(")
    (ha : applyOp it q = .ok q1) : drain (it :: st) q = drain st q1 := by
  rw [drain, if_neg hlp, ha]

theorem drain_append (a b : List String) (q q' : List Int) (h : drain a q = .ok q') :
    drain (a ++ b) q = drain b q' :=
  pop_segment drain (fun _ => True) (fun _ _ _ _ _ => drain_cons_of) a b q q' (fun _ _ => trivial) h

theorem closeParen_append (pend st : List String) (qa q' : List Int) (h : drain pend qa = .ok q') :
    closeParen (pend ++ st) qa = closeParen st q' :=
  pop_segment closeParen (fun _ => True) (fun it st q q1 _ hlp ha => by rw [closeParen, if_neg hlp, ha])
    pend st qa q' (fun _ _ => trivial) h

/-- every stacked operator binds at least as tightly as level `k` -/
def PrecGe (k : Nat) (pend : List String) : Prop :=
  ∀ it ∈ pend, ∃ p, lookup it Gen.precedenceLevels = some p ∧ k ≤ p

theorem flush_append (cur : String) (k : Nat) (hcur : lookup cur Gen.precedenceLevels = some k)
    (pend st : List String) (qa q' : List Int) (hp : PrecGe k pend) (h : drain pend qa = .ok q') :
    flush cur (pend ++ st) qa = flush cur st q' := by
  refine pop_segment (flush cur) _ (fun it st q q1 hC hlp ha => ?_) pend st qa q' hp h
  obtain ⟨p, hp1, hp2⟩ := hC
  have hge : precGe it cur = .ok true := by
    unfold precGe; rw [hp1, hcur]; simp only [ge_iff_le, hp2, decide_true]
  rw [flush, if_neg hlp, hge]
  simp only [ha]

/-- context condition: the operator just below a level-`k` expression binds weaker than `k` -/
def ctxOk (k : Nat) : List String → Prop
  | [] => True
  | it :: _ => k ≤ 5 → (it = "(" ∨ ∃ p, lookup it Gen.precedenceLevels = some p ∧ p < k)

theorem flush_stop (cur : String) (k : Nat) (hcur : lookup cur Gen.precedenceLevels = some k) (hk : k ≤ 5)
    (st : List String) (q : List Int) (h : ctxOk k st) : flush cur st q = .ok (st, q) := by
  cases st with
  | nil => rfl
  | cons it st =>
    unfold flush
    by_cases hlp : it = "("
    · rw [if_pos hlp]
    · rw [if_neg hlp]
      rcases h hk with h | ⟨p, hp1, hp2⟩
      · exact absurd h hlp
      · have hge : precGe it cur = .ok false := by
          unfold precGe; rw [hp1, hcur]
          have : ¬ (p ≥ k) := Nat.not_le_of_gt hp2
          simp only [this, decide_false]
        rw [hge]

theorem ctxOk_succ {k st} (h : ctxOk k st) : ctxOk (k + 1) st := by
  cases st with
  | nil => trivial
  | cons it st =>
    intro hk5
    rcases h (Nat.le_of_succ_le hk5) with h | ⟨p, h1, h2⟩
    · exact Or.inl h
    · exact Or.inr ⟨p, h1, Nat.lt_succ_of_lt h2⟩

theorem run_atom {env : Env} {t : String} {v : Int} (h : Atom env t v) (rest : List String) (s : St) :
    run env (t :: rest) s = run env rest ⟨some t, s.st, v :: s.q⟩ := by
  cases h with
  | lit hn hp => rw [run.eq_def]; refine (if_pos hn).trans ?_; rw [hp]
  | ctx hname hl => rw [run.eq_def]; refine (if_neg (ne_true_of_eq_false hname.1)).trans ?_; rw [hl]
  | const hname hl hc => rw [run.eq_def]; refine (if_neg (ne_true_of_eq_false hname.1)).trans ?_; rw [hl, hc]

theorem run_sizeof {env : Env} {name : String} {v : Int} (hns : NotShadowed env "sizeof")
    (hs : env.sizeof name = .ok v) (rest : List String) (s : St) :
    run env ("sizeof" :: "(" :: name :: ")" :: rest) s = run env rest ⟨some ")", s.st, v :: s.q⟩ := by
  rw [run.eq_def]
  refine (if_neg (ne_true_of_eq_false sizeof_facts.1)).trans ?_
  rw [hns.1, hns.2]
  refine (if_neg (ne_true_of_eq_false (not_unary_of_not_op sizeof_facts.2))).trans ((if_pos rfl).trans ?_)
  refine (if_neg (fun h => h.elim (fun h => h rfl) (fun h => h rfl))).trans ?_
  show (match env.sizeof name with | .ok n => _ | .error e => _) = _
  rw [hs]

theorem not_name_of_op {t} (h : isOperator t = true) : ¬ IsName t := by
  intro hn; rw [hn.2.1] at h; cases h

theorem run_unary {env : Env} (henv : EnvOk env) {t : String} {u : Gen.UnKind}
    (hu : lookup t Gen.unaryOperators = some u) (rest : List String) (s : St) :
    run env (t :: rest) s = run env rest ⟨some t, t :: s.st, s.q⟩ := by
  obtain ⟨h2, h3⟩ := unary_isOp hu
  obtain ⟨hc, hk⟩ := lookup_none_of_not_name henv (not_name_of_op h3)
  rw [run.eq_def]
  refine (if_neg (ne_true_of_eq_false (op_facts h3).1)).trans ?_
  rw [hc, hk]
  exact if_pos h2

theorem run_binary {env : Env} (henv : EnvOk env) {t : String} {o : Gen.BinKind} {k : Nat}
    (hf : BinFacts t o k) (rest : List String) (s : St) {st' : List String} {q' : List Int}
    (hfl : flush t s.st s.q = .ok (st', q')) :
    run env (t :: rest) s = run env rest ⟨some t, t :: st', q'⟩ := by
  obtain ⟨hc, hk⟩ := lookup_none_of_not_name henv (not_name_of_op hf.isOp)
  have hnu : ¬ (isUnary t = true) := by rw [isUnary, hf.notUn]; exact Bool.false_ne_true
  rw [run.eq_def]
  refine (if_neg (ne_true_of_eq_false (op_facts hf.isOp).1)).trans ?_
  rw [hc, hk]
  refine (if_neg hnu).trans ((if_neg (op_facts hf.isOp).2.2).trans ((if_pos hf.isOp).trans ?_))
  show (match flush t s.st s.q with | .ok (st', q') => _ | .error e => _) = _
  rw [hfl]

/-- `(` is accepted unless it directly follows a literal -/
def PrevOk : Option String → Prop
  | none => True
  | some p => isNumber p = false

theorem run_lparen {env : Env} (henv : EnvOk env) (rest : List String) (prev : Option String)
    (st : List String) (q : List Int) (hprev : PrevOk prev) :
    run env ("(" :: rest) ⟨prev, st, q⟩ = run env rest ⟨some "(", "(" :: st, q⟩ := by
  obtain ⟨hc, hk⟩ := lookup_none_of_not_name henv (t := "(") (fun hn => hn.2.2.1 rfl)
  rw [run.eq_def]
  refine (if_neg (ne_true_of_eq_false lp_facts.1)).trans ?_
  rw [hc, hk]
  refine (if_neg (ne_true_of_eq_false (not_unary_of_not_op lp_facts.2.1))).trans ((if_neg lp_facts.2.2).trans
    ((if_neg (ne_true_of_eq_false lp_facts.2.1)).trans ((if_pos rfl).trans ?_)))
  cases prev with
  | none => rfl
  | some p => exact if_neg (ne_true_of_eq_false hprev)

theorem run_rparen {env : Env} (henv : EnvOk env) (rest : List String) (last : String)
    (st : List String) (q : List Int) (hlast : last ≠ "(") (hst : st ≠ []) {st' : List String} {q' : List Int}
    (hcp : closeParen st q = .ok (st', q')) :
    run env (")" :: rest) ⟨some last, st, q⟩ = run env rest ⟨some ")", st', q'⟩ := by
  obtain ⟨hc, hk⟩ := lookup_none_of_not_name henv (t := ")") (fun hn => hn.2.2.2.1 rfl)
  have hemp : ¬ (st.isEmpty = true) := by
    cases st with
    | nil => exact absurd rfl hst
    | cons _ _ => exact Bool.false_ne_true
  rw [run.eq_def]
  refine (if_neg (ne_true_of_eq_false rp_facts.1)).trans ?_
  rw [hc, hk]
  refine (if_neg (ne_true_of_eq_false (not_unary_of_not_op rp_facts.2.1))).trans ((if_neg rp_facts.2.2.1).trans
    ((if_neg (ne_true_of_eq_false rp_facts.2.1)).trans ((if_neg rp_facts.2.2.2.1).trans ((if_pos rfl).trans
      ((if_neg (fun e => hlast (Option.some.inj e))).trans ((if_neg hemp).trans ?_))))))
  show (match closeParen st q with | .ok (st', q') => _ | .error e => _) = _
  rw [hcp]

theorem applyOp_unary {t : String} {u : Gen.UnKind} (h : lookup t Gen.unaryOperators = some u)
    (r : Int) (q : List Int) : applyOp t (r :: q) = .ok (unop u r :: q) := by
  unfold applyOp; simp only [h]

theorem applyOp_binary {t : String} {o : Gen.BinKind} {k : Nat} (hf : BinFacts t o k) {l r v : Int}
    (hv : binop o l r = .ok v) (q : List Int) : applyOp t (r :: l :: q) = .ok (v :: q) := by
  unfold applyOp; simp only [hf.notUn, hf.bin, hv]; rfl

theorem precGe_nil (k : Nat) : PrecGe k [] := fun _ h => by cases h

theorem precGe_append_singleton {k : Nat} {pend : List String} {t : String} {k' p : Nat}
    (hp : PrecGe k' pend) (hk : k ≤ k') (ht : lookup t Gen.precedenceLevels = some p) (hkp : k ≤ p) :
    PrecGe k (pend ++ [t]) := by
  intro it hit
  simp only [List.mem_append, List.mem_singleton] at hit
  rcases hit with h | rfl
  · obtain ⟨p', h1, h2⟩ := hp it h; exact ⟨p', h1, Nat.le_trans hk h2⟩
  · exact ⟨p, ht, hkp⟩

/-- **The invariant of the main loop.** Started on the marked tokens of a level-`k` derivation with value `v`, below
    a stack whose top binds weaker than `k` (`ctxOk`), the loop consumes exactly these tokens and leaves a segment
    `pend` of pending operators on the stack, all of level `≥ k`, which — applied to the queue it leaves — push `v`
    on the queue it found. -/
def RunsTo (env : Env) (k : Nat) (marked : List String) (v : Int) : Prop :=
  ∀ prev st q rest, PrevOk prev → ctxOk k st →
    ∃ last pend qa, run env (marked ++ rest) ⟨prev, st, q⟩ = run env rest ⟨some last, pend ++ st, qa⟩ ∧
      EndTok last ∧ PrecGe k pend ∧ drain pend qa = .ok (v :: q)

theorem run_unary_D {env : Env} (henv : EnvOk env) {t : String} {u : Gen.UnKind}
    (hm : (t, u) ∈ Gen.unaryOperators) {marked : List String} {v : Int} (ih : RunsTo env 6 marked v) :
    RunsTo env 6 (t :: marked) (unop u v) := by
  intro prev st q rest _ _
  obtain ⟨hlu, hprec⟩ := unary_facts (t, u) hm
  obtain ⟨hnum, hlp, _⟩ := op_facts (unary_isOp hlu).2
  obtain ⟨last, pend, qa, hrun, hend, hpg, hdr⟩ :=
    ih (some t) (t :: st) q rest hnum (fun h => absurd h (by decide))
  refine ⟨last, pend ++ [t], qa, ?_, hend, precGe_append_singleton hpg (Nat.le_refl _) hprec (Nat.le_refl _), ?_⟩
  · rw [List.cons_append, run_unary henv hlu, hrun, List.append_assoc]; rfl
  · rw [drain_append pend [t] qa _ hdr, drain_cons_of hlp (applyOp_unary hlu v q)]; rfl

theorem D_run {env : Env} (henv : EnvOk env) {k : Nat} {raw marked : List String} {v : Int}
    (hD : D env k raw marked v) : RunsTo env k marked v := by
  induction hD with
  | @atom t v ha =>
    intro prev st q rest _ _
    exact ⟨t, [], v :: q, by rw [List.cons_append, List.nil_append, run_atom ha]; rfl, endTok_atom ha,
      precGe_nil _, rfl⟩
  | @sizeof name v _ hns hs =>
    intro prev st q rest _ _
    exact ⟨")", [], v :: q, by
      simp only [List.cons_append, List.nil_append]; rw [run_sizeof hns hs], endTok_rp,
      precGe_nil _, rfl⟩
  | @paren raw marked v _ ih =>
    intro prev st q rest hprev _
    obtain ⟨last, pend, qa, hrun, hend, _, hdr⟩ :=
      ih (some "(") ("(" :: st) q (")" :: rest) lp_facts.1 (fun _ => Or.inl rfl)
    refine ⟨")", [], v :: q, ?_, endTok_rp, precGe_nil _, rfl⟩
    have hcp : closeParen (pend ++ "(" :: st) qa = .ok (st, v :: q) := by
      rw [closeParen_append pend _ qa _ hdr, closeParen, if_pos rfl]
    have hne : pend ++ "(" :: st ≠ [] := by simp
    rw [List.cons_append, List.cons_append, List.append_assoc, run_lparen henv _ _ _ _ hprev]
    show run env (marked ++ ")" :: rest) _ = _
    rw [hrun, run_rparen henv rest last _ qa (endTok_ne_lp hend) hne hcp]; rfl
  | @neg raw marked v _ ih =>
    exact run_unary_D henv unary_mem.1 ih
  | @inv raw marked v _ ih =>
    exact run_unary_D henv unary_mem.2 ih
  | @up k raw marked v hk _ ih =>
    intro prev st q rest hprev hctx
    obtain ⟨last, pend, qa, hrun, hend, hpg, hdr⟩ := ih prev st q rest hprev (ctxOk_succ hctx)
    exact ⟨last, pend, qa, hrun, hend,
      fun it hit => by obtain ⟨p, h1, h2⟩ := hpg it hit; exact ⟨p, h1, Nat.le_of_succ_le h2⟩, hdr⟩
  | @bin k t o r1 m1 r2 m2 a b v hmem _ _ hv ih1 ih2 =>
    intro prev st q rest hprev hctx
    have hf := binFacts hmem
    obtain ⟨hnum, hlp, _⟩ := op_facts hf.isOp
    obtain ⟨l1, pend1, qa1, hrun1, _, hpg1, hdr1⟩ := ih1 prev st q (t :: (m2 ++ rest)) hprev hctx
    have hctx2 : ctxOk (k + 1) (t :: st) := fun _ => Or.inr ⟨k, hf.prec, Nat.lt_succ_self k⟩
    obtain ⟨l2, pend2, qa2, hrun2, hend2, hpg2, hdr2⟩ :=
      ih2 (some t) (t :: st) (a :: q) rest hnum hctx2
    have hfl : flush t (pend1 ++ st) qa1 = .ok (st, a :: q) := by
      rw [flush_append t k hf.prec pend1 st qa1 _ hpg1 hdr1, flush_stop t k hf.prec hf.le5 st _ hctx]
    refine ⟨l2, pend2 ++ [t], qa2, ?_, hend2,
      precGe_append_singleton hpg2 (Nat.le_succ k) hf.prec (Nat.le_refl _), ?_⟩
    · rw [List.append_assoc, List.cons_append, hrun1,
        run_binary henv hf (m2 ++ rest) ⟨some l1, pend1 ++ st, qa1⟩ hfl, hrun2, List.append_assoc]; rfl
    · rw [drain_append pend2 [t] qa2 _ hdr2, drain_cons_of hlp (applyOp_binary hf hv q)]; rfl

end Cstruct.Expr.C10.Lemmas
