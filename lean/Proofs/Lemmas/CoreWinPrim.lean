/-
  The primitive readers on a cut input (`d.take q` with `q` at or after the end position of the read). Every fixed-width
  reader fetches exactly `n` bytes and decodes them (`readBlock`), and `readExact` is a function of those bytes alone; LEB128
  is the one reader that is not of this shape. At the end, in `WinBits`: loading a bit-field storage unit.
-/
import Proofs.Lemmas.CoreUnfold
namespace Cstruct.Core.Lemmas
open Cstruct Cstruct.Core

theorem sread_take (d : Bytes) (pos n q : Nat) (h : pos + n ≤ q) : sread (d.take q) pos n = sread d pos n := by
  unfold sread
  rw [List.drop_take, List.take_take, Nat.min_eq_left (by omega)]

theorem readExact_congr {d d' : Bytes} {pos n : Nat} (h : sread d' pos n = sread d pos n) :
    readExact d' pos n = readExact d pos n := by
  simp only [readExact, h]

theorem readExact_zero (d : Bytes) (pos : Nat) : readExact d pos 0 = .ok ([], pos) := by
  simp [readExact, sread]

theorem readExact_span {d : Bytes} {p n : Nat} {bs : Bytes} {q : Nat} (h : readExact d p n = .ok (bs, q)) :
    q = p + n ∧ bs.length = n ∧ n ≤ d.length - p := by
  obtain ⟨hl, hr⟩ := readExact_ok h
  cases hr
  refine ⟨rfl, hl, ?_⟩
  rw [sread_length] at hl
  omega

theorem readExact_pos {d : Bytes} {pos n : Nat} {bs : Bytes} {p : Nat} (h : readExact d pos n = .ok (bs, p)) :
    p = pos + n :=
  (readExact_span h).1

theorem readExact_adv {d : Bytes} {pos n : Nat} {bs : Bytes} {p : Nat} (h : readExact d pos n = .ok (bs, p))
    (hn : 0 < n) : pos < p ∧ p ≤ d.length := by
  obtain ⟨rfl, _, hle⟩ := readExact_span h
  omega

theorem readExact_take {d : Bytes} {pos n : Nat} {bs : Bytes} {p : Nat} (q : Nat)
    (h : readExact d pos n = .ok (bs, p)) (hq : p ≤ q) : readExact (d.take q) pos n = .ok (bs, p) := by
  rw [readExact_congr (sread_take d pos n q (by rw [← readExact_pos h]; exact hq))]
  exact h

def readBlock {α : Type} (n : Nat) (f : Bytes → Except Err α) (d : Bytes) (pos : Nat) : Except Err (α × Nat) :=
  (readExact d pos n).bind fun bp => (f bp.1).map (·, bp.2)

theorem readBlock_ok {α : Type} {n : Nat} {f : Bytes → Except Err α} {d : Bytes} {pos : Nat} {v : α} {p : Nat}
    (h : readBlock n f d pos = .ok (v, p)) : readExact d pos n = .ok (sread d pos n, p) ∧ f (sread d pos n) = .ok v := by
  obtain ⟨⟨bs, p'⟩, h1, h2⟩ := bind_ok h
  obtain ⟨w, h3, h4⟩ := map_ok h2
  cases h4
  obtain ⟨_, hr⟩ := readExact_ok h1
  cases hr
  exact ⟨h1, h3⟩

theorem readBlock_take {α : Type} {n : Nat} {f : Bytes → Except Err α} {d : Bytes} {pos : Nat} {r : α × Nat} (q : Nat)
    (h : readBlock n f d pos = .ok r) (hq : r.2 ≤ q) : readBlock n f (d.take q) pos = .ok r := by
  obtain ⟨v, p⟩ := r
  have h1 := (readBlock_ok h).1
  rw [← h]
  unfold readBlock
  rw [readExact_take q h1 hq, h1]

/-- the value a fixed-width scalar decodes from its bytes -/
def decodeScalar (cfg : Cfg) : Scalar → Bytes → Except Err Val
  | .pint _ sg, bs => .ok (.int (decodeInt cfg.endian sg bs))
  | .pflt _, bs => .ok (.flt (decodeNat cfg.endian bs))
  | .aint _ sg, bs => .ok (.int (decodeInt cfg.endian sg bs))
  | .char, bs => .ok (.bytes bs)
  | .wchar, bs => decodeWchar cfg.endian bs
  | .leb _, _ => .error .other
  | .void, _ => .ok .void

theorem readScalar_sized (cfg : Cfg) {s : Scalar} {n : Nat} (hs : s.size = some n) (d : Bytes) (pos : Nat) :
    readScalar cfg s d pos = readBlock n (decodeScalar cfg s) d pos := by
  cases s <;> cases hs <;> simp only [readScalar, readBlock, decodeScalar, bind, pure]
  case void => rw [readExact_zero]; rfl
  case wchar => cases readExact d pos 2 with
    | error e => rfl
    | ok bp => simp only [Except.bind]; cases decodeWchar cfg.endian bp.1 <;> rfl
  all_goals cases readExact d pos _ <;> rfl

theorem lebReadLoop_consumed (a : Bytes) : ∀ (res sh : Nat) r s b rest, lebReadLoop a res sh = some (r, s, b, rest) →
    ∃ c, a = c ++ rest ∧ 0 < c.length ∧ ∀ t, lebReadLoop (c ++ t) res sh = some (r, s, b, t) := by
  induction a with
  | nil => intro res sh r s b rest h; simp [lebReadLoop] at h
  | cons x a ih =>
    intro res sh r s b rest h
    simp only [lebReadLoop] at h
    split at h
    · rename_i hc
      cases h
      refine ⟨[x], rfl, by simp, ?_⟩
      intro t
      simp only [List.cons_append, List.nil_append, lebReadLoop, hc, if_true]
    · rename_i hc
      obtain ⟨c, h1, h2, h3⟩ := ih _ _ _ _ _ _ h
      refine ⟨x :: c, by rw [h1]; rfl, by simp, ?_⟩
      intro t
      simp only [List.cons_append, lebReadLoop, hc, if_false]
      exact h3 t

theorem lebRead_of_loop (sg : Bool) (res sh : Nat) (b : UInt8) :
    ∃ w : Int, ∀ bs r, lebReadLoop bs 0 0 = some (res, sh, b, r) → lebRead sg bs = .ok (w, r) := by
  by_cases hc : sg = true ∧ b.toNat &&& 0x40 ≠ 0
  · exact ⟨_, fun bs r h => by unfold lebRead; rw [h]; exact if_pos hc⟩
  · exact ⟨_, fun bs r h => by unfold lebRead; rw [h]; exact if_neg hc⟩

theorem length_of_drop {d c r : Bytes} {pos : Nat} (h : d.drop pos = c ++ r) (hc : 0 < c.length) :
    d.length - r.length = pos + c.length ∧ pos + c.length ≤ d.length := by
  have := congrArg List.length h
  rw [List.length_drop, List.length_append] at this
  omega

theorem readScalar_leb_ok {cfg : Cfg} {sg : Bool} {d : Bytes} {pos : Nat} {v : Val} {p : Nat}
    (h : readScalar cfg (.leb sg) d pos = .ok (v, p)) :
    ∃ c rest, d.drop pos = c ++ rest ∧ 0 < c.length ∧ p = pos + c.length ∧ p ≤ d.length ∧
      ∀ d' t, d'.drop pos = c ++ t → readScalar cfg (.leb sg) d' pos = .ok (v, p) := by
  simp only [readScalar] at h
  cases hloop : lebReadLoop (d.drop pos) 0 0 with
  | none => rw [lebRead, hloop] at h; cases h
  | some r =>
    obtain ⟨res, sh, b, rest⟩ := r
    obtain ⟨c, c1, c2, c3⟩ := lebReadLoop_consumed _ _ _ _ _ _ _ hloop
    obtain ⟨w, hw⟩ := lebRead_of_loop sg res sh b
    rw [hw _ _ hloop] at h
    cases h
    obtain ⟨l1, l2⟩ := length_of_drop c1 c2
    refine ⟨c, rest, c1, c2, l1, l1 ▸ l2, fun d' t hd' => ?_⟩
    simp only [readScalar]
    rw [hd', hw _ _ (c3 t)]
    show Except.ok (Val.int w, d'.length - t.length) = _
    rw [(length_of_drop hd' c2).1, l1]

theorem readScalar_pos (cfg : Cfg) (s : Scalar) (d : Bytes) (pos : Nat) (v : Val) (p : Nat)
    (h : readScalar cfg s d pos = .ok (v, p)) : pos ≤ p ∧ ∀ k, s.size = some k → p = pos + k := by
  cases hs : s.size with
  | some n =>
    rw [readScalar_sized cfg hs] at h
    have := readExact_pos (readBlock_ok h).1
    exact ⟨by omega, fun k hk => by cases hk; exact this⟩
  | none =>
    cases s <;> cases hs
    obtain ⟨c, _, _, _, hp, _⟩ := readScalar_leb_ok h
    exact ⟨hp ▸ Nat.le_add_right _ _, fun k hk => by cases hk⟩

theorem readScalar_adv (cfg : Cfg) (s : Scalar) (d : Bytes) (pos : Nat) (v : Val) (p : Nat)
    (h : readScalar cfg s d pos = .ok (v, p)) (hs : s.size ≠ some 0) : pos < p ∧ p ≤ d.length := by
  cases hn : s.size with
  | some n =>
    rw [readScalar_sized cfg hn] at h
    exact readExact_adv (readBlock_ok h).1 (by rw [hn] at hs; simp at hs; omega)
  | none =>
    cases s <;> cases hn
    obtain ⟨c, _, _, hc, hp, hd, _⟩ := readScalar_leb_ok h
    exact ⟨by omega, hd⟩

theorem readScalar_take (cfg : Cfg) (s : Scalar) (d : Bytes) (pos : Nat) (v : Val) (p q : Nat)
    (h : readScalar cfg s d pos = .ok (v, p)) (hq : p ≤ q) : readScalar cfg s (d.take q) pos = .ok (v, p) := by
  cases hn : s.size with
  | some n =>
    rw [readScalar_sized cfg hn] at h ⊢
    exact readBlock_take q h hq
  | none =>
    cases s <;> cases hn
    obtain ⟨c, rest, hc, _, hp, _, hw⟩ := readScalar_leb_ok h
    exact hw _ (rest.take (q - pos - c.length))
      (by rw [List.drop_take, hc, List.take_append, List.take_of_length_le (by omega)])

theorem readScalarArray_sized (cfg : Cfg) (s : Scalar) (n : Nat) :
    (∀ d pos, readScalarArray cfg s n d pos = none) ∨
    ∃ k f, s.size = some k ∧ ∀ d pos, readScalarArray cfg s n d pos = some (readBlock (k * n) f d pos) := by
  cases s with
  | pint k sg =>
    refine Or.inr ⟨k, fun bs => .ok (.list (Vals.ofInts ((splitEvery k n bs).map (decodeInt cfg.endian sg)))), rfl, ?_⟩
    intro d pos
    simp only [readScalarArray, readBlock, bind, pure]
    cases readExact d pos (k * n) <;> rfl
  | pflt k =>
    refine Or.inr ⟨k, fun bs => .ok (.list (Vals.ofList ((splitEvery k n bs).map fun b => Val.flt (decodeNat cfg.endian b)))),
      rfl, ?_⟩
    intro d pos
    simp only [readScalarArray, readBlock, bind, pure]
    cases readExact d pos (k * n) <;> rfl
  | char =>
    refine Or.inr ⟨1, fun bs => .ok (.bytes bs), rfl, ?_⟩
    intro d pos
    simp only [readScalarArray, readBlock, bind, pure, Nat.one_mul]
    split
    · rename_i h0; subst h0; rw [readExact_zero]; rfl
    · cases readExact d pos n <;> rfl
  | wchar =>
    refine Or.inr ⟨2, decodeWchar cfg.endian, rfl, ?_⟩
    intro d pos
    simp only [readScalarArray, readBlock, bind, pure]
    split
    · rename_i h0; subst h0; rw [readExact_zero]; rfl
    · cases readExact d pos (2 * n) with
      | error e => rfl
      | ok bp => simp only [Except.bind]; cases decodeWchar cfg.endian bp.1 <;> rfl
  | aint k sg => exact Or.inl fun _ _ => rfl
  | leb sg => exact Or.inl fun _ _ => rfl
  | void => exact Or.inl fun _ _ => rfl

theorem readScalarArray_pos (cfg : Cfg) (s : Scalar) (n : Nat) (d : Bytes) (pos : Nat) (v : Val) (p : Nat)
    (h : readScalarArray cfg s n d pos = some (.ok (v, p))) : ∃ k, s.size = some k ∧ p = pos + k * n := by
  rcases readScalarArray_sized cfg s n with hn | ⟨k, f, hk, hf⟩
  · rw [hn] at h; cases h
  · rw [hf] at h
    exact ⟨k, hk, readExact_pos (readBlock_ok (Option.some.inj h)).1⟩

theorem readScalarArray_take (cfg : Cfg) (s : Scalar) (n : Nat) (d : Bytes) (pos : Nat) (v : Val) (p q : Nat)
    (h : readScalarArray cfg s n d pos = some (.ok (v, p))) (hq : p ≤ q) :
    readScalarArray cfg s n (d.take q) pos = some (.ok (v, p)) := by
  rcases readScalarArray_sized cfg s n with hn | ⟨k, f, _, hf⟩
  · rw [hn] at h; cases h
  · rw [hf] at h ⊢
    rw [readBlock_take q (Option.some.inj h) hq]

/-- `char` and `wchar` elements are read as raw blocks and compared with the zero block, the others by the scalar reader -/
theorem readScalar0_succ (cfg : Cfg) {s : Scalar} (hs : s ≠ .void) :
    ∃ (R : Bytes → Nat → Except Err (Val × Nat)) (z : Val → Bool),
      (R = readScalar cfg s ∨ ∃ n g, s.size = some n ∧ R = readBlock n g) ∧
      ∀ d f pos acc, readScalar0 cfg s d (f + 1) pos acc =
        (R d pos).bind fun wp => if z wp.1 then .ok (acc.reverse, wp.2) else readScalar0 cfg s d f wp.2 (wp.1 :: acc) := by
  cases s with
  | void => exact absurd rfl hs
  | char =>
    refine ⟨readBlock 1 (fun bs => .ok (.bytes bs)), fun w => match w with | .bytes bs => decide (bs = [0]) | _ => false,
      Or.inr ⟨1, _, rfl, rfl⟩, fun d f pos acc => ?_⟩
    rw [readScalar0]
    unfold readBlock
    rcases readExact d pos 1 with e | ⟨bs, p⟩
    · rfl
    · simp only [Except.bind, Except.map, decide_eq_true_eq]
  | wchar =>
    refine ⟨readBlock 2 (fun bs => .ok (.bytes bs)), fun w => match w with | .bytes bs => decide (bs = [0, 0]) | _ => false,
      Or.inr ⟨2, _, rfl, rfl⟩, fun d f pos acc => ?_⟩
    rw [readScalar0]
    unfold readBlock
    rcases readExact d pos 2 with e | ⟨bs, p⟩
    · rfl
    · simp only [Except.bind, Except.map, decide_eq_true_eq]
  | pflt k =>
    refine ⟨_, fun v => match v with | .int i => decide (i = 0) | .flt b => isFloatZero k b | _ => false, Or.inl rfl,
      fun d f pos acc => ?_⟩
    rw [readScalar0] <;> try (intro h; cases h)
    rcases readScalar cfg _ d pos with e | ⟨v, p⟩ <;> rfl
  | _ =>
    refine ⟨_, fun v => match v with | .int i => decide (i = 0) | .flt b => decide (b = 0) | _ => false, Or.inl rfl,
      fun d f pos acc => ?_⟩
    rw [readScalar0] <;> try (intro h; cases h)
    rcases readScalar cfg _ d pos with e | ⟨v, p⟩ <;> rfl

theorem elem0_ok {cfg : Cfg} {s : Scalar} {R : Bytes → Nat → Except Err (Val × Nat)}
    (hR : R = readScalar cfg s ∨ ∃ n g, s.size = some n ∧ R = readBlock n g) {d : Bytes} {pos : Nat} {w : Val} {p : Nat}
    (h : R d pos = .ok (w, p)) :
    pos ≤ p ∧ (s.size ≠ some 0 → pos < p ∧ p ≤ d.length) ∧ ∀ q, p ≤ q → R (d.take q) pos = .ok (w, p) := by
  rcases hR with rfl | ⟨n, g, hn, rfl⟩
  · exact ⟨(readScalar_pos cfg s d pos w p h).1, readScalar_adv cfg s d pos w p h,
      fun q hq => readScalar_take cfg s d pos w p q h hq⟩
  · have h1 := (readBlock_ok h).1
    have := readExact_pos h1
    exact ⟨by omega, fun h0 => readExact_adv h1 (by rw [hn] at h0; simp at h0; omega), fun q hq => readBlock_take q h hq⟩

theorem readScalar0_pos (cfg : Cfg) (s : Scalar) (d : Bytes) :
    ∀ (f pos : Nat) (acc : List Val) (vs : List Val) (p : Nat),
      readScalar0 cfg s d f pos acc = .ok (vs, p) → pos ≤ p := by
  intro f
  induction f with
  | zero => intro pos acc vs p h; simp [readScalar0] at h
  | succ f ih =>
    intro pos acc vs p h
    by_cases hv : s = .void
    · subst hv; simp only [readScalar0] at h; cases h; exact Nat.le_refl _
    · obtain ⟨R, z, hR, heq⟩ := readScalar0_succ cfg hv
      rw [heq] at h
      obtain ⟨⟨w, p1⟩, h1, h2⟩ := bind_ok h
      have := (elem0_ok hR h1).1
      simp only [] at h2
      split at h2
      · cases h2; exact this
      · exact Nat.le_trans this (ih _ _ _ _ h2)

/-- every round but the last consumes a byte, so `p - pos + 1` rounds are enough on the cut input -/
theorem readScalar0_take (cfg : Cfg) (s : Scalar) (d : Bytes) (q : Nat) (hs : s.size ≠ some 0 ∨ s = .void) :
    ∀ (f pos : Nat) (acc vs : List Val) (p : Nat), readScalar0 cfg s d f pos acc = .ok (vs, p) → p ≤ q →
      (s ≠ .void → pos < p ∧ p ≤ d.length) ∧
      ∀ f', p - pos ≤ f' → readScalar0 cfg s (d.take q) (f' + 1) pos acc = .ok (vs, p) := by
  intro f
  induction f with
  | zero => intro pos acc vs p h; simp [readScalar0] at h
  | succ f ih =>
    intro pos acc vs p h hq
    by_cases hv : s = .void
    · subst hv
      simp only [readScalar0] at h; cases h
      exact ⟨fun hv => absurd rfl hv, fun f' _ => by simp only [readScalar0]⟩
    · obtain ⟨R, z, hR, heq⟩ := readScalar0_succ cfg hv
      rw [heq] at h
      obtain ⟨⟨w, p1⟩, h1, h2⟩ := bind_ok h
      obtain ⟨_, e2, e3⟩ := elem0_ok hR h1
      obtain ⟨a1, a2⟩ := e2 (hs.resolve_right hv)
      simp only [] at h2
      by_cases hz : z w = true
      · rw [if_pos hz] at h2; cases h2
        refine ⟨fun _ => ⟨a1, a2⟩, fun f' _ => ?_⟩
        rw [heq, e3 q hq]
        exact if_pos hz
      · rw [if_neg hz] at h2
        obtain ⟨i1, i2⟩ := ih _ _ _ _ h2 hq
        obtain ⟨j1, j2⟩ := i1 hv
        refine ⟨fun _ => ⟨by omega, j2⟩, fun f' hf' => ?_⟩
        rw [heq, e3 q (by omega)]
        cases f' with
        | zero => omega
        | succ f'' => exact (if_neg hz).trans (i2 f'' (by omega))

theorem readScalarNullTerm_ok {cfg : Cfg} {s : Scalar} {d : Bytes} {pos : Nat} {v : Val} {p : Nat}
    (h : readScalarNullTerm cfg s d pos = .ok (v, p)) :
    ∃ vs, readScalar0 cfg s d (d.length - pos + 2) pos [] = .ok (vs, p) ∧
      ∀ d', readScalar0 cfg s d' (d'.length - pos + 2) pos [] = .ok (vs, p) → readScalarNullTerm cfg s d' pos = .ok (v, p) := by
  unfold readScalarNullTerm at h
  cases h1 : readScalar0 cfg s d (d.length - pos + 2) pos [] with
  | error e => rw [h1] at h; cases h
  | ok vp =>
    obtain ⟨vs, p'⟩ := vp
    rw [h1] at h
    have hp : p' = p := by
      cases s
      case wchar => obtain ⟨w, _, h3⟩ := map_ok h; cases h3; rfl
      all_goals cases h; rfl
    subst hp
    exact ⟨vs, rfl, fun d' h' => by unfold readScalarNullTerm; rw [h']; exact h⟩

theorem readScalarNullTerm_pos (cfg : Cfg) (s : Scalar) (d : Bytes) (pos : Nat) (v : Val) (p : Nat)
    (h : readScalarNullTerm cfg s d pos = .ok (v, p)) : pos ≤ p := by
  obtain ⟨vs, h0, _⟩ := readScalarNullTerm_ok h
  exact readScalar0_pos cfg s d _ _ _ _ _ h0

theorem readScalarNullTerm_take (cfg : Cfg) (s : Scalar) (d : Bytes) (pos : Nat) (v : Val) (p q : Nat)
    (hs : s.size ≠ some 0 ∨ s = .void) (h : readScalarNullTerm cfg s d pos = .ok (v, p)) (hq : p ≤ q) :
    readScalarNullTerm cfg s (d.take q) pos = .ok (v, p) := by
  obtain ⟨vs, h0, hw⟩ := readScalarNullTerm_ok h
  obtain ⟨i1, i2⟩ := readScalar0_take cfg s d q hs _ _ _ _ _ h0 hq
  have hpos := readScalar0_pos cfg s d _ _ _ _ _ h0
  apply hw
  apply i2
  by_cases hv : s = .void
  · subst hv
    simp only [readScalar0] at h0; cases h0; omega
  · have := (i1 hv).2
    rw [List.length_take]
    omega

end Cstruct.Core.Lemmas

namespace Cstruct.Core.Lemmas.WinBits
open Cstruct Cstruct.Core

theorem loadUnit_reload {cfg : Cfg} {ft : Scalar} {bb : BitBuf} {d : Bytes} {off : Nat} {bb1 : BitBuf} {p1 : Nat}
    (hc : bb.remaining = 0 ∨ bb.ty ≠ some ft) (h : loadUnit cfg ft bb d off = .ok (bb1, p1)) :
    ∃ fsz, ft.size = some fsz ∧ p1 = off + fsz ∧ bb1.ty = some ft ∧ bb1.remaining = fsz * 8 := by
  unfold loadUnit at h
  rw [if_pos hc] at h
  cases hs : ft.size with
  | none => rw [hs] at h; cases h
  | some fsz =>
    rw [hs] at h; simp only [] at h
    cases h1 : readScalar cfg ft d off with
    | error e => rw [h1] at h; cases h
    | ok x =>
      obtain ⟨u, p⟩ := x
      rw [h1] at h; simp only [] at h
      cases hu : unitInt cfg u with
      | none => rw [hu] at h; cases h
      | some i =>
        rw [hu] at h
        cases h
        exact ⟨fsz, rfl, (readScalar_pos cfg ft d off u _ h1).2 fsz hs, rfl, rfl⟩

theorem loadUnit_keep {cfg : Cfg} {ft : Scalar} {bb : BitBuf} {d : Bytes} {off : Nat} {bb1 : BitBuf} {p1 : Nat}
    (hc : ¬ (bb.remaining = 0 ∨ bb.ty ≠ some ft)) (h : loadUnit cfg ft bb d off = .ok (bb1, p1)) :
    bb1 = bb ∧ p1 = off := by
  unfold loadUnit at h
  rw [if_neg hc] at h
  cases h; exact ⟨rfl, rfl⟩

theorem loadUnit_pos (cfg : Cfg) (ft : Scalar) (bb : BitBuf) (d : Bytes) (off : Nat) (bb1 : BitBuf) (p1 : Nat)
    (h : loadUnit cfg ft bb d off = .ok (bb1, p1)) : off ≤ p1 := by
  by_cases hc : bb.remaining = 0 ∨ bb.ty ≠ some ft
  · obtain ⟨fsz, _, h2, _⟩ := loadUnit_reload hc h; omega
  · have := (loadUnit_keep hc h).2; omega

theorem loadUnit_take {cfg : Cfg} {ft : Scalar} {bb : BitBuf} {d : Bytes} {off : Nat} {r : BitBuf × Nat} (q : Nat)
    (h : loadUnit cfg ft bb d off = .ok r) (hq : r.2 ≤ q) : loadUnit cfg ft bb (d.take q) off = .ok r := by
  unfold loadUnit at h ⊢
  split at h
  · rename_i hc; rw [if_pos hc]
    cases hs : ft.size with
    | none => rw [hs] at h; cases h
    | some fsz =>
      rw [hs] at h; simp only [] at h ⊢
      cases h1 : readScalar cfg ft d off with
      | error e => rw [h1] at h; cases h
      | ok x =>
        obtain ⟨u, p⟩ := x
        rw [h1] at h
        have hp : p = r.2 := by
          simp only [] at h
          cases hu : unitInt cfg u with
          | none => rw [hu] at h; cases h
          | some i => rw [hu] at h; cases h; rfl
        rw [readScalar_take cfg ft d off u p q h1 (by omega)]
        exact h
  · rename_i hc; rw [if_neg hc]; exact h

theorem bitBuf_take_ok {e : Endian} {bb : BitBuf} {w : Nat} {v : Int} {bb2 : BitBuf} (h : bb.take e w = some (v, bb2)) :
    bb2.ty = bb.ty ∧ w ≤ bb.remaining ∧ bb2.remaining = bb.remaining - w := by
  unfold BitBuf.take at h
  split at h
  · cases h
  · rename_i hw
    cases e <;> (simp only [Option.some.injEq, Prod.mk.injEq] at h; obtain ⟨_, rfl⟩ := h; exact ⟨rfl, by omega, rfl⟩)

end Cstruct.Core.Lemmas.WinBits
