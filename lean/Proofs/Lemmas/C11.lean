/-
  Lemmas for `Proofs/C11.lean` (unions): member lookup; the defining equations of `writeMemberRaw`,
  `writeMember`, `writeUnion` and of the union case of `write`; what a successful assignment is; the length of a dump.
-/
import CstructModel.Union
import Proofs.Core
import Proofs.C01
namespace Cstruct.C11
open Cstruct

/-- member number `k` of a field list -/
def nthTy : Fields → Nat → Option Ty
  | .nil, _ => none
  | .cons _ _ t _ _, 0 => some t
  | .cons _ _ _ _ r, k + 1 => nthTy r k

/-- the value of member number `k` -/
def nthVal : Vals → Nat → Option Val
  | .nil, _ => none
  | .cons v _, 0 => some v
  | .cons _ r, k + 1 => nthVal r k

end Cstruct.C11

namespace Cstruct.C11.Lemmas
open Cstruct Cstruct.Union Cstruct.Core

theorem nthVal_setNth : ∀ (vs : Vals) (k : Nat) (v : Val), k < vs.length → nthVal (setNth vs k v) k = some v
  | .nil, _, _, h => nomatch h
  | .cons _ _, 0, _, _ => rfl
  | .cons _ r, k + 1, v, h => nthVal_setNth r k v (Nat.lt_of_succ_lt_succ h)

theorem readMembers_cons_ok {cfg : Cfg} {name an ty bits rest} {ctx : Ctx} {buf : Bytes} {vs : Vals}
    (h : readMembers cfg (.cons name an ty bits rest) ctx buf = .ok vs) :
    ∃ v p vs', read cfg ty ctx buf 0 = .ok (v, p) ∧ readMembers cfg rest (ctx.set name v) buf = .ok vs' ∧
      vs = .cons v vs' := by
  rw [Core.Lemmas.readMembers_cons] at h
  obtain ⟨⟨v, p⟩, hr, h2⟩ := Core.Lemmas.bind_ok h
  obtain ⟨vs', hm, h3⟩ := Core.Lemmas.bind_ok h2
  cases h3
  exact ⟨v, p, vs', hr, hm, rfl⟩

theorem writeMemberRaw_zero (cfg : Cfg) (n a t b r v vr pos) :
    writeMemberRaw cfg (.cons n a t b r) (.cons v vr) 0 pos = write cfg t v pos := by
  rw [writeMemberRaw]

theorem writeMemberRaw_succ (cfg : Cfg) (n a t b r v vr i pos) :
    writeMemberRaw cfg (.cons n a t b r) (.cons v vr) (i + 1) pos = writeMemberRaw cfg r vr i pos := by
  rw [writeMemberRaw]

theorem writeMemberRaw_eq (cfg : Cfg) : ∀ (fs : Fields) (vs : Vals) (k : Nat) (t : Ty) (x : Val) (pos : Nat),
    nthTy fs k = some t → nthVal vs k = some x → writeMemberRaw cfg fs vs k pos = write cfg t x pos
  | .nil, _, _, _, _, _, ht, _ => nomatch ht
  | .cons _ _ _ _ _, .nil, _, _, _, _, _, hx => nomatch hx
  | .cons n a ty b r, .cons v vr, 0, t, x, pos, ht, hx => by
    cases ht; cases hx
    exact writeMemberRaw_zero ..
  | .cons n a ty b r, .cons v vr, k + 1, t, x, pos, ht, hx => by
    rw [writeMemberRaw_succ]
    exact writeMemberRaw_eq cfg r vr k t x pos ht hx

theorem writeMember_eq (cfg : Cfg) (fs : Fields) (vs : Vals) (i sz pos : Nat) :
    writeMember cfg fs vs i sz pos =
      match writeMemberRaw cfg fs vs i pos with
      | .error e => .error e
      | .ok body => .ok (body ++ zeros (sz - body.length)) := by
  rw [writeMember]; rfl

theorem writeUnion_nil (cfg : Cfg) (fs : Fields) (vs : Vals) (anon : Option Nat) (sz pos : Nat) :
    writeUnion cfg fs vs [] anon sz pos =
      match anon with
      | some i => writeMember cfg fs vs i sz pos
      | none => .ok (zeros sz) := by
  rw [writeUnion.eq_def]; rfl

theorem writeUnion_cons (cfg : Cfg) (fs : Fields) (vs : Vals) (i : Nat) (rest : List Nat) (anon : Option Nat) (sz pos : Nat) :
    writeUnion cfg fs vs (i :: rest) anon sz pos =
      match (fs.toList)[i]? with
      | none => .error .other
      | some (_, isAnon, t, _) =>
        if isStructLike t ∧ isAnon then writeUnion cfg fs vs rest (some i) sz pos
        else
          match writeMemberRaw cfg fs vs i pos with
          | .error e => .error e
          | .ok body =>
            if body.isEmpty then
              match anon with
              | some j => writeMember cfg fs vs j sz pos
              | none => .ok (zeros sz)
            else .ok (body ++ zeros (sz - body.length)) := by
  rw [writeUnion.eq_def]; rfl

/-- the order the union case of `write` computes: indices of `zip fields values` inserted one after the other by
    descending size -/
def codeOrder (cfg : Cfg) (fs : Fields) (vs : Vals) : List (Nat × Nat) :=
  (List.range (fs.toList.zip vs.toList).length).foldl
    (fun acc i => match (fs.toList.zip vs.toList)[i]? with
      | some ((_, _, t, _), _) => insertDesc ((t.size cfg).getD 0) i acc
      | none => acc) []

theorem write_union_eq (cfg : Cfg) (al : Bool) (fs : Fields) (buf : Bytes) (vs : Vals) (pos sz : Nat)
    (hsz : (Ty.union al fs).size cfg = some sz) :
    write cfg (.union al fs) (.union buf vs) pos = writeUnion cfg fs vs ((codeOrder cfg fs vs).map (·.2)) none sz pos := by
  rw [write]
  simp only [hsz]
  rfl

theorem members_gen (cfg : Cfg) (buf : Bytes) : ∀ (fs : Fields) (ctx : Ctx) (vs : Vals),
    readMembers cfg fs ctx buf = .ok vs → ∀ (k : Nat) (t : Ty), nthTy fs k = some t →
      ∃ v ctx' p, nthVal vs k = some v ∧ read cfg t ctx' buf 0 = .ok (v, p)
  | .nil, _, _, _, _, _, ht => nomatch ht
  | .cons name an ty bits rest, ctx, vs, h, k, t, ht => by
    obtain ⟨v, p, vs', hr, hm, rfl⟩ := readMembers_cons_ok h
    cases k with
    | zero => cases ht; exact ⟨v, ctx, p, rfl, hr⟩
    | succ k => exact members_gen cfg buf rest _ vs' hm k t ht

theorem assign_ok (cfg : Cfg) (fs : Fields) (s : UState) (k : Nat) (v : Val) (s' : UState)
    (h : assign cfg fs s k v = .ok s') :
    ∃ enc, writeMemberRaw cfg fs (setNth s.vals k v) k 0 = .ok enc ∧ s'.buf = enc ++ s.buf.drop enc.length ∧
      readMembers cfg fs [] s'.buf = .ok s'.vals := by
  unfold assign at h
  split at h
  · cases h
  · rename_i enc he
    simp only at h
    split at h
    · cases h
    · rename_i vs hm
      cases h
      exact ⟨enc, he, rfl, hm⟩

theorem writeMember_length (cfg : Cfg) (fs : Fields) (vs : Vals) (i sz pos : Nat) (bs : Bytes)
    (h : writeMember cfg fs vs i sz pos = .ok bs) : bs.length ≥ sz := by
  rw [writeMember_eq] at h
  split at h
  · cases h
  · cases h
    rw [List.length_append, Core.Lemmas.length_zeros, Nat.add_comm]
    exact Nat.le_add_of_sub_le (Nat.le_refl _)

theorem writeUnion_length (cfg : Cfg) (fs : Fields) (vs : Vals) (sz pos : Nat) (order : List Nat) :
    ∀ (anon : Option Nat) (bs : Bytes), writeUnion cfg fs vs order anon sz pos = .ok bs → bs.length ≥ sz := by
  induction order with
  | nil =>
    intro anon bs h
    rw [writeUnion_nil] at h
    split at h
    · exact writeMember_length _ _ _ _ _ _ _ h
    · cases h; exact Nat.le_of_eq (Core.Lemmas.length_zeros sz).symm
  | cons i rest ih =>
    intro anon bs h
    rw [writeUnion_cons] at h
    split at h
    · cases h
    · split at h
      · exact ih _ bs h
      · split at h
        · cases h
        · split at h
          · split at h
            · exact writeMember_length _ _ _ _ _ _ _ h
            · cases h; exact Nat.le_of_eq (Core.Lemmas.length_zeros sz).symm
          · cases h
            rw [List.length_append, Core.Lemmas.length_zeros, Nat.add_comm]
            exact Nat.le_add_of_sub_le (Nat.le_refl _)

theorem dump_size (cfg : Cfg) (al : Bool) (fs : Fields) (buf : Bytes) (vs : Vals) (pos : Nat) (bs : Bytes) (sz : Nat)
    (hsz : (Ty.union al fs).size cfg = some sz) (h : write cfg (.union al fs) (.union buf vs) pos = .ok bs) :
    bs.length ≥ sz := by
  rw [write_union_eq cfg al fs buf vs pos sz hsz] at h
  exact writeUnion_length cfg fs vs sz pos _ none bs h

end Cstruct.C11.Lemmas
