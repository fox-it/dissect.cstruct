/-
  Fragment D (`Proofs/CoreDyn.lean`), type by type: scalars, enums, pointers, the array forms `x[n]`, `x[expr]`, `x[]`,
  structures, and the mutual structural recursion `dyn_ty` / `dyn_idle` / `dyn_pend` over types and member lists.
-/
import Proofs.Lemmas.CoreDynLoop
namespace Cstruct.Core.Lemmas
open Cstruct Cstruct.Core Cstruct.C06 Cstruct.C06.Lemmas
open Cstruct.C05.Lemmas (encUnits encUnits_length encodeWchar_ok)

/-- a leaf: the start needs no alignment and the writer cannot fail on a value of the type -/
theorem dynWr_of_write {cfg : Cfg} {al : Bool} {ty : Ty} {ctx : Ctx} {v : Val} {pos : Nat} {bs : Bytes}
    (hw : write cfg ty v pos = .ok bs) (hs : sAlign cfg ty = 1) (hsz : ∀ k, ty.size cfg = some k → bs.length = k)
    (hr : ∀ d, At d pos bs → read cfg ty ctx d pos = .ok (v, pos + bs.length)) : DynWr cfg al ty ctx v pos := by
  refine ⟨fun _ => ⟨bs, hw⟩, fun bs' hw' => ?_⟩
  rw [hw] at hw'
  cases hw'
  exact ⟨hsz, fun _ => by rw [hs]; exact Nat.one_dvd _, hr⟩

theorem dynWr_sc {cfg : Cfg} {al : Bool} {s : Scalar} {a : Nat} {ctx : Ctx} {v : Val} {pos : Nat} {bs : Bytes}
    (hw : writeScalar cfg s v = .ok bs) (hr : ScRT cfg s v bs) (hsz : ∀ k, s.size = some k → bs.length = k) :
    DynWr cfg al (.sc s a) ctx v pos :=
  dynWr_of_write (by rw [write_sc]; exact hw) rfl hsz (fun d hd => by rw [read_sc]; exact hr d pos hd)

theorem dyn_sc (cfg : Cfg) (al : Bool) (s a) : DynTy cfg al (.sc s a) := by
  intro _ ctx v hv pos _
  cases hv with
  | int h1 h2 =>
    obtain ⟨bs, hw, hr, hs⟩ := scrt_int cfg s _ h1 h2
    exact dynWr_sc hw hr (fun k hk => by rw [hs] at hk; cases hk; rfl)
  | flt h1 =>
    obtain ⟨bs, hw, hr, hl⟩ := scrt_flt cfg _ _ h1
    exact dynWr_sc hw hr (fun k hk => by cases hk; exact hl)
  | char => exact dynWr_sc rfl (scrt_char cfg _) (fun k hk => by cases hk; rfl)
  | void => exact dynWr_sc rfl (scrt_void cfg) (fun k hk => by cases hk; rfl)
  | leb hv =>
    obtain ⟨bs, hw, hr, _⟩ := scrt_leb cfg _ _ hv
    exact dynWr_sc hw hr (fun k hk => nomatch hk)
  | wchar hu hs =>
    obtain ⟨bs, hw, hr, hl⟩ := scrt_wchar cfg _ hu hs
    exact dynWr_sc hw hr (fun k hk => by simp only [Scalar.size, Option.some.injEq] at hk; omega)

theorem dyn_enum (cfg : Cfg) (al : Bool) (b a f) : DynTy cfg al (.enum b a f) := by
  intro hH ctx v hv pos _
  cases hv with
  | enum h1 =>
    obtain ⟨bs, hw, hr, hs⟩ := scrt_int cfg b _ (by simpa only [Ty.fragD] using hH.frag) h1
    exact dynWr_of_write (by rw [write_enum_enum]; exact hw) rfl
      (fun k hk => by simp only [Ty.size] at hk; rw [hs] at hk; cases hk; rfl)
      (fun d hd => by rw [read_enum, hr d pos hd]; rfl)

theorem dyn_ptr (cfg : Cfg) (al : Bool) (t) : DynTy cfg al (.ptr t) := by
  intro hH ctx v hv pos _
  cases hv with
  | ptr h1 =>
    obtain ⟨bs, hw, hr, hs⟩ := scrt_int cfg cfg.ptr _ (by simpa only [Ty.fragD] using hH.frag) h1
    exact dynWr_of_write (by rw [write_ptr_ptr]; exact hw) rfl
      (fun k hk => by simp only [Ty.size] at hk; rw [hs] at hk; cases hk; rfl)
      (fun d hd => by rw [read_ptr, hr d pos hd]; rfl)

theorem hasTyND_length (cfg : Cfg) (ctx : Ctx) (e : Ty) : ∀ (n : Nat) (vs : Vals), HasTyND cfg ctx vs e n → vs.length = n := by
  intro n
  induction n with
  | zero => intro vs h; cases h; rfl
  | succ n ih => intro vs h; cases h with | cons h1 h2 => simp only [Vals.length, ih _ h2]

theorem dynWr_N (cfg : Cfg) (al : Bool) (ctx : Ctx) (e : Ty)
    (hE : ∀ v, HasTyD cfg ctx v e → ∀ pos, (al = true → sAlign cfg e ∣ pos) → DynWr cfg al e ctx v pos) :
    ∀ (n : Nat) (vs : Vals), HasTyND cfg ctx vs e n → ∀ pos, (al = true → sAlign cfg e ∣ pos) →
      (LaidOut cfg e → ∃ bs, writeN cfg e vs pos = .ok bs) ∧
      ∀ bs, writeN cfg e vs pos = .ok bs →
        (∀ k, e.size cfg = some k → bs.length = n * k) ∧ (al = true → sAlign cfg e ∣ pos + bs.length) ∧
        ∀ d, At d pos bs → readN cfg e n ctx d pos = .ok (vs, pos + bs.length) := by
  intro n
  induction n with
  | zero =>
    intro vs h pos hpos
    cases h
    rw [writeN_nil]
    refine ⟨fun _ => ⟨_, rfl⟩, fun bs hw => ?_⟩
    cases hw
    refine ⟨fun k _ => by simp, by simpa using hpos, ?_⟩
    intro d _
    rw [readN_zero]; rfl
  | succ n ih =>
    intro vs h pos hpos
    cases h with
    | @cons _ v vs' _ _ h1 h2 =>
      obtain ⟨hT1, hR1⟩ := hE v h1 pos hpos
      rw [writeN_cons]
      refine ⟨fun hL => ?_, fun bs hw => ?_⟩
      · obtain ⟨bs1, w1⟩ := hT1 hL
        obtain ⟨bs2, w2⟩ := (ih vs' h2 _ (hR1 bs1 w1).2.1).1 hL
        exact ⟨bs1 ++ bs2, by rw [w1]; simp only [Except.bind]; rw [w2]⟩
      obtain ⟨bs1, hw1, hw'⟩ := bind_ok hw
      obtain ⟨bs2, hw2, heq⟩ := bind_ok hw'
      cases heq
      obtain ⟨s1, a1, r1⟩ := hR1 bs1 hw1
      obtain ⟨s2, a2, r2⟩ := (ih vs' h2 _ a1).2 bs2 hw2
      refine ⟨?_, ?_, ?_⟩
      · intro k hk
        rw [List.length_append, s1 k hk, s2 k hk, Nat.succ_mul]; omega
      · intro ha; rw [List.length_append, ← Nat.add_assoc]; exact a2 ha
      · intro d hd
        rw [readN_succ, r1 d hd.left]
        simp only [Except.bind]
        rw [r2 d hd.right, pos_append]

theorem readArray_of_readN_D (cfg : Cfg) (e : Ty) (hS : e.fragD cfg = true) (hc : ∀ a, e ≠ .sc .char a)
    (hw : ∀ a, e ≠ .sc .wchar a) (ctx : Ctx) (data : Bytes) (n pos : Nat) (vs : Vals) (p : Nat)
    (h : readN cfg e n ctx data pos = .ok (vs, p)) : readArray cfg e n ctx data pos = .ok (.list vs, p) := by
  cases e with
  | sc s a =>
    cases s with
    | char => exact absurd rfl (hc a)
    | wchar => exact absurd rfl (hw a)
    | leb sg => rw [readArray.eq_1]; simp only [readScalarArray, h, Except.map]
    | pint k sg => exact readArray_of_readN cfg _ rfl hc ctx data n pos vs p h
    | pflt k => exact readArray_of_readN cfg _ rfl hc ctx data n pos vs p h
    | aint k sg => exact readArray_of_readN cfg _ rfl hc ctx data n pos vs p h
    | void => exact readArray_of_readN cfg _ rfl hc ctx data n pos vs p h
  | enum b a f => exact readArray_of_readN cfg _ (by simpa only [Ty.fragD, Ty.fragS] using hS) hc ctx data n pos vs p h
  | ptr t => exact readArray_of_readN cfg _ (by simpa only [Ty.fragD, Ty.fragS] using hS) hc ctx data n pos vs p h
  | arr e' l =>
    rw [readArray.eq_3 _ _ _ _ _ _ (by intros; contradiction) (by intros; contradiction), h]; rfl
  | struct al fs =>
    rw [readArray.eq_3 _ _ _ _ _ _ (by intros; contradiction) (by intros; contradiction), h]; rfl
  | union al fs => cases hS

theorem read_arr_count (cfg : Cfg) (e : Ty) (len : Len) (ctx : Ctx) (n : Nat) (h : len.count cfg ctx = some n)
    (data : Bytes) (pos : Nat) : read cfg (.arr e len) ctx data pos = readArray cfg e n ctx data pos := by
  cases len with
  | fixed m => simp only [Len.count, Option.some.injEq] at h; subst h; rw [read_arr_fixed]
  | expr toks =>
    simp only [Len.count] at h
    rw [read_arr_expr]
    cases he : evalLen cfg toks ctx with
    | error _ => rw [he] at h; cases h
    | ok m => rw [he] at h; cases h; rfl
  | nullTerm => cases h
  | eof => cases h

theorem arr_size_count (cfg : Cfg) (ctx : Ctx) (e : Ty) (len : Len) (n k : Nat) (hc : len.count cfg ctx = some n)
    (hk : (Ty.arr e len).size cfg = some k) : ∃ k', e.size cfg = some k' ∧ k = n * k' := by
  cases len with
  | fixed m =>
    simp only [Len.count, Option.some.injEq] at hc
    subst hc
    simp only [Ty.size] at hk
    cases he : e.size cfg with
    | none => rw [he] at hk; cases hk
    | some k' => rw [he] at hk; cases hk; exact ⟨k', rfl, rfl⟩
  | expr _ => cases hk
  | nullTerm => cases hk
  | eof => cases hk

theorem write_arr_count (cfg : Cfg) (e : Ty) (len : Len) (ctx : Ctx) (n : Nat) (h : len.count cfg ctx = some n)
    (vs : Vals) (hl : vs.length = n) (pos : Nat) : write cfg (.arr e len) (.list vs) pos = writeN cfg e vs pos := by
  cases len with
  | fixed m =>
    simp only [Len.count, Option.some.injEq] at h; subst h
    rw [write_arr_list, if_neg (by simp [hl])]
  | expr toks => exact write_arr_expr_list cfg e toks vs pos
  | nullTerm => cases h
  | eof => cases h

theorem fits_zero (n : Nat) (sg : Bool) : fits n sg 0 = true := by
  have h : (0 : Int) < ((2 ^ (8 * n) : Nat) : Int) := by exact_mod_cast Nat.two_pow_pos (8 * n)
  unfold fits
  cases sg
  · simp only [Bool.false_eq_true, if_false, decide_eq_true_eq]; omega
  · simp only [if_true, decide_eq_true_eq]; omega

theorem intFits_zero (s : Scalar) (hi : Scalar.isInt s = true) : intFits s 0 = true := by
  cases s <;> first | exact fits_zero _ _ | cases hi

theorem scrt_zero (cfg : Cfg) (s : Scalar) (hs : Scalar.intLike s = true) :
    ∃ z, writeScalar cfg s (.int 0) = .ok z ∧ ScRT cfg s (.int 0) z := by
  have hi : ∀ s, Scalar.isInt s = true → ∃ z, writeScalar cfg s (.int 0) = .ok z ∧ ScRT cfg s (.int 0) z := fun s h => by
    obtain ⟨z, hw, hr, _⟩ := scrt_int cfg s 0 h (intFits_zero s h)
    exact ⟨z, hw, hr⟩
  cases s with
  | pint n sg => exact hi _ rfl
  | aint n sg => exact hi _ rfl
  | leb sg =>
    obtain ⟨z, hw, hr, _⟩ := scrt_leb cfg sg 0 (fun _ => Int.le_refl 0)
    exact ⟨z, hw, hr⟩
  | pflt n => cases hs
  | char => cases hs
  | wchar => cases hs
  | void => cases hs

theorem elem_sc (cfg : Cfg) (s : Scalar) (a : Nat) (ctx : Ctx) (v : Val) (hv : HasTyD cfg ctx v (.sc s a))
    (hnz : v.nonzero = true) :
    ∃ i bs, v = .int i ∧ i ≠ 0 ∧ writeScalar cfg s (.int i) = .ok bs ∧ ScRT cfg s (.int i) bs ∧ 1 ≤ bs.length := by
  cases hv with
  | @int _ _ _ i h1 h2 =>
    have hi : i ≠ 0 := by simpa [Val.nonzero] using hnz
    obtain ⟨bs, hw, r, hsz⟩ := scrt_int cfg s i h1 h2
    exact ⟨i, bs, rfl, hi, hw, r, int_size_pos s i h1 h2 hi _ hsz⟩
  | @leb _ sg _ i h1 =>
    have hi : i ≠ 0 := by simpa [Val.nonzero] using hnz
    obtain ⟨bs, h⟩ := scrt_leb cfg sg i h1
    exact ⟨i, bs, rfl, hi, h⟩
  | flt _ => cases hnz
  | char => cases hnz
  | void => cases hnz
  | wchar _ _ => cases hnz

theorem elem_enum (cfg : Cfg) (b : Scalar) (hb : Scalar.isInt b = true) (a : Nat) (f : Bool) (ctx : Ctx) (v : Val)
    (hv : HasTyD cfg ctx v (.enum b a f)) (hnz : v.nonzero = true) :
    ∃ i bs, v = .enum i ∧ i ≠ 0 ∧ writeScalar cfg b (.int i) = .ok bs ∧ ScRT cfg b (.int i) bs ∧ 1 ≤ bs.length := by
  cases hv with
  | @enum _ _ _ _ i h2 =>
    have hi : i ≠ 0 := by simpa [Val.nonzero] using hnz
    obtain ⟨bs, hw, r, hsz⟩ := scrt_int cfg b i hb h2
    exact ⟨i, bs, rfl, hi, hw, r, int_size_pos b i hb h2 hi _ hsz⟩

theorem chunks_of_Z (cfg : Cfg) (e : Ty) (s : Scalar) (hs : Scalar.intLike s = true) (mk : Int → Val)
    (hwr : ∀ i pos, write cfg e (mk i) pos = writeScalar cfg s (.int i))
    (hel : ∀ ctx v, HasTyD cfg ctx v e → v.nonzero = true →
      ∃ i bs, v = mk i ∧ i ≠ 0 ∧ writeScalar cfg s (.int i) = .ok bs ∧ ScRT cfg s (.int i) bs ∧ 1 ≤ bs.length)
    (ctx : Ctx) : ∀ (vs : Vals), HasTyZD cfg ctx vs e → ∀ pos,
      ∃ (is : List Int) (body : Bytes), vs = Vals.ofList (is.map mk) ∧ writeN cfg e vs pos = .ok body ∧
        Chunks cfg s (is.map .int) body
  | .nil, _, pos => ⟨[], [], rfl, writeN_nil cfg e pos, .nil⟩
  | .cons v vs', h, pos => by
    cases h with
    | cons h1 h2 h3 =>
      obtain ⟨i, c, rfl, hi, hw, r, l⟩ := hel ctx v h1 h2
      obtain ⟨is, body, rfl, hwb, hc⟩ := chunks_of_Z cfg e s hs mk hwr hel ctx vs' h3 (pos + c.length)
      refine ⟨i :: is, c ++ body, rfl, ?_, .cons (elem0_int hs hi r l) hc⟩
      rw [writeN_cons, hwr, hw]
      simp only [Except.bind]
      rw [hwb]

theorem dyn_arr0 (cfg : Cfg) (al : Bool) (e : Ty) (hS : e.fragD cfg = true) (hN : e.nullElem = true)
    (hc : ∀ a, e ≠ .sc .char a) (hwc : ∀ a, e ≠ .sc .wchar a) (ctx : Ctx) (vs : Vals) (hvs : HasTyZD cfg ctx vs e)
    (pos : Nat) : DynWr cfg al (.arr e .nullTerm) ctx (.list vs) pos := by
  -- elements and terminator go through the scalar `s`; `hmap`: what the reader makes of the integers it finds
  have key : ∀ (s : Scalar) (mk : Int → Val), Scalar.intLike s = true → sAlign cfg e = 1 →
      (∀ i pos, write cfg e (mk i) pos = writeScalar cfg s (.int i)) → e.default cfg = mk 0 →
      (∀ ctx v, HasTyD cfg ctx v e → v.nonzero = true →
        ∃ i bs, v = mk i ∧ i ≠ 0 ∧ writeScalar cfg s (.int i) = .ok bs ∧ ScRT cfg s (.int i) bs ∧ 1 ≤ bs.length) →
      (∀ (is : List Int) data p, readScalarNullTerm cfg s data pos = .ok (.list (Vals.ofList (is.map .int)), p) →
        read0 cfg e ctx data pos = .ok (.list (Vals.ofList (is.map mk)), p)) →
      DynWr cfg al (.arr e .nullTerm) ctx (.list vs) pos := by
    intro s mk hs hsa hwr hd hel hmap
    obtain ⟨is, body, rfl, hwb, hch⟩ := chunks_of_Z cfg e s hs mk hwr hel ctx vs hvs pos
    obtain ⟨z, hwz, hrz⟩ := scrt_zero cfg s hs
    refine dynWr_of_write (bs := body ++ z) ?_ (by simp only [sAlign]; exact hsa) (fun k hk => nomatch hk) ?_
    · rw [write_arr_null_list, hd]
      exact writeN_snoc_ok cfg e _ _ pos body z hwb (by rw [hwr]; exact hwz)
    · intro d hd
      rw [read_arr_null]
      exact hmap is _ _ (readScalarNullTerm_ints cfg s hs z hrz is body hch d pos hd)
  cases e with
  | sc s a =>
    have hs : Scalar.intLike s = true := by
      cases s <;> first | rfl | exact absurd rfl (hc a) | exact absurd rfl (hwc a) | cases hN
    refine key s .int hs rfl (fun i p => write_sc cfg s a _ p) ?_ (elem_sc cfg s a) ?_
    · rw [Ty.default]; cases s <;> first | rfl | cases hs
    · intro is data p h; rw [read0_sc, h]
  | enum b a f =>
    have hb : Scalar.isInt b = true := by simpa only [Ty.fragD] using hS
    have hs : Scalar.intLike b = true := by cases b <;> first | rfl | cases hb
    refine key b .enum hs rfl (fun i p => write_enum_enum cfg b a f i p) (by rw [Ty.default]) (elem_enum cfg b hb a f) ?_
    intro is data p h
    rw [read0.eq_2, h]
    simp only [mapEnum_ofList_ints]
  | ptr t => cases hN
  | arr e' l => cases hN
  | struct al fs => cases hN
  | union al fs => cases hN

theorem TyOk.elem {cfg al e len} (h : TyOk cfg al (.arr e len)) : TyOk cfg al e := by
  obtain ⟨h1, h2, h3, h4⟩ := h
  simp only [Ty.fragD, Bool.and_eq_true] at h1
  exact ⟨h1.2, h2, h3, h4⟩

/-- `n` bounds the length: `utf16Ok` drops one or two units at a time, so the induction is on the bound -/
theorem utf16Ok_snoc_zero : ∀ (n : Nat) (us : List Nat), us.length ≤ n → utf16Ok us = true → utf16Ok (us ++ [0]) = true := by
  intro n
  induction n with
  | zero =>
    intro us hl _
    cases us with
    | nil => decide
    | cons _ _ => simp at hl
  | succ n ih =>
    intro us hl h
    cases us with
    | nil => decide
    | cons u r =>
      simp only [List.cons_append]
      unfold utf16Ok at h ⊢
      by_cases hh : isHigh u = true
      · simp only [hh, if_true] at h ⊢
        cases r with
        | nil => simp at h
        | cons l r' =>
          simp only [List.cons_append, Bool.and_eq_true] at h ⊢
          exact ⟨h.1, ih r' (by simp only [List.length_cons] at hl; omega) h.2⟩
      · simp only [hh] at h ⊢
        by_cases hlo : isLow u = true
        · simp [hlo] at h
        · simp only [hlo] at h ⊢
          exact ih r (by simp only [List.length_cons] at hl; omega) h

theorem dyn_arr (cfg : Cfg) (al : Bool) (e : Ty) (len : Len) (hE : DynTy cfg al e) : DynTy cfg al (.arr e len) := by
  intro hH ctx v hv pos hpos
  have hS := hH.frag
  simp only [Ty.fragD, Bool.and_eq_true] at hS
  cases hv with
  | @chars _ a _ n b hcnt hl =>
    have hw : write cfg (.arr (.sc .char a) len) (.bytes b) pos = .ok b := by
      rw [write_arr_bytes]; cases len <;> first | rfl | simp [Len.count] at hcnt
    refine dynWr_of_write hw rfl ?_ ?_
    · intro k hk
      obtain ⟨k', h2, rfl⟩ := arr_size_count cfg ctx _ _ n k hcnt hk
      simp only [Ty.size, Scalar.size, Option.some.injEq] at h2
      subst h2; omega
    · intro d hd
      rw [read_arr_count cfg _ len ctx n hcnt, readArray_char]
      split
      · rename_i h0; subst h0
        cases b with
        | nil => rfl
        | cons _ _ => simp at hl
      · rw [hd.readExact hl, hl]; rfl
  | @wchars _ a _ n us hcnt hl hu hok =>
    obtain ⟨bs, hw, hlen, hr⟩ := wchars_rt cfg a n us hl hu hok
    have hw' : write cfg (.arr (.sc .wchar a) len) (.wstr us) pos = .ok bs := by
      rw [write_arr_wstr, ← hw]; cases len <;> first | rfl | simp [Len.count] at hcnt
    refine dynWr_of_write hw' rfl ?_ ?_
    · intro k hk
      obtain ⟨k', h2, rfl⟩ := arr_size_count cfg ctx _ _ n k hcnt hk
      simp only [Ty.size, Scalar.size, Option.some.injEq] at h2
      subst h2; exact hlen
    · intro d hd
      rw [read_arr_count cfg _ len ctx n hcnt]
      exact hr ctx d pos hd
  | @arr _ _ _ n vs hc hwc hcnt hN =>
    obtain ⟨hT, hR⟩ := dynWr_N cfg al ctx e (fun v hv => hE hH.elem ctx v hv) n vs hN pos hpos
    unfold DynWr
    rw [write_arr_count cfg e len ctx n hcnt vs (hasTyND_length cfg ctx e n vs hN)]
    refine ⟨hT, fun bs hw => ?_⟩
    obtain ⟨s, a, r⟩ := hR bs hw
    refine ⟨?_, a, ?_⟩
    · intro k hk
      obtain ⟨k', h2, rfl⟩ := arr_size_count cfg ctx _ _ n k hcnt hk
      exact s k' h2
    · intro d hd
      rw [read_arr_count cfg _ len ctx n hcnt]
      exact readArray_of_readN_D cfg e hS.2 hc hwc ctx _ n pos vs _ (r d hd)
  | @chars0 _ a b hnz =>
    refine dynWr_of_write (bs := b ++ [0]) (write_arr_bytes ..) rfl (fun k hk => nomatch hk) ?_
    intro d hd
    rw [read_arr_null, read0_sc]
    exact readScalarNullTerm_chars cfg b hnz d pos hd
  | @wchars0 _ a us hnz hok =>
    refine dynWr_of_write (bs := encUnits cfg.endian us ++ [0, 0]) ?_ rfl (fun k hk => nomatch hk) ?_
    · rw [write_arr_wstr, encodeWchar_ok cfg.endian _ (utf16Ok_snoc_zero us.length us (Nat.le_refl _) hok),
        encUnits_append, encUnits_zero]
    · intro d hd
      rw [read_arr_null, read0_sc]
      exact readScalarNullTerm_wchars cfg us hnz hok d pos hd
  | @arr0 _ _ vs hc hwc hZ => exact dyn_arr0 cfg al e hS.2 hS.1 hc hwc ctx vs hZ pos

theorem dyn_struct (cfg : Cfg) (al a : Bool) (fs : Fields) (hF : DynIdle cfg al fs) : DynTy cfg al (.struct a fs) := by
  intro hH ctx v hv pos hpos
  obtain ⟨hS, hU, hP, hN⟩ := hH
  simp only [Ty.uniformAlign, Bool.and_eq_true, beq_iff_eq] at hU
  obtain ⟨rfl, hU⟩ := hU
  cases hv with
  | @struct _ _ _ vs hvs =>
  have hidle := fun sz sa offs hlay => hF ⟨hS, hU, hP, hN⟩ [] vs hvs LState.init sz sa offs hlay (lidle_of_rem _ rfl fs)
    pos pos (fun ha => allAlignDvd_of_sAlign cfg a fs (hP ha) pos (hpos ha)) (by intro o ho; cases ho; rfl)
  refine ⟨fun hL => ?_, fun bs hw => ?_⟩
  · obtain ⟨hLf, ⟨sz, sa, offs⟩, hlay⟩ := hL
    obtain ⟨hT, hR⟩ := hidle sz sa offs hlay
    obtain ⟨⟨out, bbF⟩, hwf⟩ := hT hLf
    obtain ⟨fl, hfl, _⟩ := hR out bbF hwf
    rw [write_struct, hlay]
    simp only [Except.bind, hwf, hfl]
    exact ⟨_, rfl⟩
  rw [write_struct] at hw
  obtain ⟨⟨sz, sa, offs⟩, hlay, hw1⟩ := bind_ok hw
  obtain ⟨⟨out, bbF⟩, hwf, hw2⟩ := bind_ok hw1
  obtain ⟨fl, hfl, heq⟩ := bind_ok hw2
  obtain ⟨fl', hfl', hsize, hread⟩ := (hidle sz sa offs hlay).2 out bbF hwf
  rw [hfl] at hfl'
  cases hfl'
  generalize out ++ fl = body at *
  have hsz : (Ty.struct a fs).size cfg = sz := by
    have h := hlay
    unfold structLayout LState.init at h
    simp only [Ty.size, h]
  rw [hsz]
  have hrd : ∀ data, read cfg (.struct a fs) ctx data pos =
      (readFields cfg a fs offs pos BitBuf.empty [] data pos).bind fun (vs, _, p) =>
        .ok (.record vs, if a then p + padNat p sa else p) := fun data => by rw [read_struct, hlay]; rfl
  cases a with
  | false =>
    simp only [Bool.false_eq_true, if_false, Except.ok.injEq] at heq
    subst heq
    refine ⟨?_, (fun ha => by cases ha), ?_⟩
    · intro k hk
      obtain ⟨e, h1, h2⟩ := hsize k hk
      simp only [alignTo, Bool.false_eq_true, if_false] at h2
      omega
    · intro d hd
      obtain ⟨szs, hr⟩ := hread d BitBuf.empty hd (ridle_of_rem _ rfl fs)
      rw [hrd, hr]
      rfl
  | true =>
    simp only [if_true, Except.ok.injEq] at heq
    subst heq
    have hP := hP rfl
    have hpos := hpos rfl
    have hsa : sa = Fields.maxAlign cfg fs 0 := (layout_final cfg true fs LState.init sz sa offs hlay).1
    refine ⟨?_, fun _ => ?_, ?_⟩
    · intro k hk
      obtain ⟨e, h1, h2⟩ := hsize k hk
      have he : e = body.length := by omega
      subst he
      simp only [alignTo, if_true] at h2
      rw [List.length_append, length_zeros, hsa, padNat_struct cfg true fs hP pos body.length hpos, h2, hsa]
    · rw [List.length_append, length_zeros, ← Nat.add_assoc]
      simp only [sAlign, Ty.alignment]
      split
      · exact Nat.one_dvd _
      · rename_i h0
        rw [hsa]
        rcases maxAlign_p2 cfg fs hP 0 (Or.inl rfl) with h1 | h1
        · exact absurd h1 h0
        · exact padNat_p2_dvd h1 _
    · intro d hd
      obtain ⟨szs, hr⟩ := hread d BitBuf.empty hd.left (ridle_of_rem _ rfl fs)
      rw [hrd, hr, pos_append, length_zeros]
      rfl

mutual
theorem dyn_ty (cfg : Cfg) (al : Bool) : ∀ ty : Ty, DynTy cfg al ty
  | .sc s a => dyn_sc cfg al s a
  | .enum b a f => dyn_enum cfg al b a f
  | .ptr t => dyn_ptr cfg al t
  | .arr e len => dyn_arr cfg al e len (dyn_ty cfg al e)
  | .struct a fs => dyn_struct cfg al a fs (dyn_idle cfg al fs)
  | .union _ _ => fun hH => nomatch hH.frag
theorem dyn_idle (cfg : Cfg) (al : Bool) : ∀ fs : Fields, DynIdle cfg al fs
  | .nil => dyn_idle_nil cfg al
  | .cons name an ty none rest => dyn_idle_cons_nb cfg al name an ty rest (dyn_ty cfg al ty) (dyn_idle cfg al rest)
  | .cons _ _ _ (some 0) _ => fun hH => nomatch hH.frag
  | .cons name an ty (some (b + 1)) rest =>
    dyn_idle_cons_bit cfg al name an ty b rest (dyn_idle cfg al rest) (dyn_pend cfg al rest)
-- with a unit pending, a member that does not continue it is the idle case of the SAME list after the flush; that case
-- is rebuilt from the tail here, since `dyn_idle` on the same list would not be a structurally smaller call
theorem dyn_pend (cfg : Cfg) (al : Bool) : ∀ fs : Fields, DynPend cfg al fs
  | .nil => dyn_pend_nil cfg al
  | .cons name an ty none rest =>
    dyn_pend_cons cfg al name an ty none rest
      (dyn_idle_cons_nb cfg al name an ty rest (dyn_ty cfg al ty) (dyn_idle cfg al rest))
      (dyn_idle cfg al rest) (dyn_pend cfg al rest)
  | .cons _ _ _ (some 0) _ => fun hH => nomatch hH.frag
  | .cons name an ty (some (b + 1)) rest =>
    dyn_pend_cons cfg al name an ty (some (b + 1)) rest
      (dyn_idle_cons_bit cfg al name an ty b rest (dyn_idle cfg al rest) (dyn_pend cfg al rest))
      (dyn_idle cfg al rest) (dyn_pend cfg al rest)
end

end Cstruct.Core.Lemmas
