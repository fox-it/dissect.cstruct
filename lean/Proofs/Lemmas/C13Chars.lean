/-
  C13, definition parser — runs of a character class at the head of a text (`takeWhile` / `dropWhile` over an append), the
  character classes of the scanner, and what the recognisers need to know about the white-space class they are run with (`SpOK`:
  the scanner's own ASCII class and the Unicode class of the handlers' re-match both qualify).
-/
import Proofs.Spec.C13Parse

namespace Cstruct.DefParser.C13
open Cstruct.DefParser

theorem noHead_cons (p : Char → Bool) (c : Char) (r : List Char) : noHead p (c :: r) = !p c := rfl

theorem noHead_append (p : Char → Bool) (a b : List Char) (h : a ≠ []) : noHead p (a ++ b) = noHead p a := by
  cases a with
  | nil => exact absurd rfl h
  | cons c a => rfl

theorem all_append' (p : Char → Bool) (a b : List Char) : (a ++ b).all p = (a.all p && b.all p) := List.all_append

theorem tw_app (p : Char → Bool) (a b : List Char) (ha : a.all p = true) (hb : noHead p b = true) :
    (a ++ b).takeWhile p = a ∧ (a ++ b).dropWhile p = b := by
  have h := List.all_eq_true.mp ha
  rw [List.takeWhile_append_of_pos h, List.dropWhile_append_of_pos h]
  cases b with
  | nil => exact ⟨List.append_nil a, rfl⟩
  | cons d b =>
    have hd : ¬ p d = true := by simpa [noHead] using hb
    rw [List.takeWhile_cons_of_neg hd, List.dropWhile_cons_of_neg hd]
    exact ⟨List.append_nil a, rfl⟩

theorem dropWhile_app (p : Char → Bool) (a b : List Char) (ha : a.all p = true) (hb : noHead p b = true) :
    (a ++ b).dropWhile p = b := (tw_app p a b ha hb).2

theorem dropWhile_blank_first (lead R : List Char) (hl : blank lead = true) (hR : noHead isWsA R = true) :
    (lead ++ R).dropWhile isWsA = R := dropWhile_app isWsA lead R hl hR

theorem takeWhile_stop (p : Char → Bool) (s : List Char) (d : Char) (rest : List Char) (hd : p d = false) :
    (s ++ d :: rest).takeWhile p = s.takeWhile p := by
  induction s with
  | nil => rw [List.nil_append, List.takeWhile_cons_of_neg (by rw [hd]; exact Bool.false_ne_true)]; rfl
  | cons e s ih =>
    by_cases he : p e = true
    · rw [List.cons_append, List.takeWhile_cons_of_pos he, List.takeWhile_cons_of_pos he, ih]
    · rw [List.cons_append, List.takeWhile_cons_of_neg he, List.takeWhile_cons_of_neg he]

theorem lit_append (p rest : List Char) : lit p (p ++ rest) = some rest := by
  induction p with
  | nil => rfl
  | cons c p ih => rw [List.cons_append, lit, if_pos rfl, ih]

theorem getLast?_append_ne (a b : List Char) (hb : b ≠ []) : (a ++ b).getLast? = b.getLast? := by
  rw [List.getLast?_append, Option.or_of_isSome (by simpa using hb)]

theorem ne_of_class {p : Char → Bool} {c : Char} (hc : p c = true) (d : Char) (hd : p d = false) : c ≠ d := fun e => by
  rw [e, hd] at hc; cases hc

theorem word_range (c : Char) (h : isWord c = true) : 48 ≤ c.toNat ∧ c.toNat ≤ 122 := by
  simp only [isWord, Char.isAlphanum, Char.isAlpha, Char.isUpper, Char.isLower, Char.isDigit, Bool.or_eq_true,
    Bool.and_eq_true, decide_eq_true_eq, beq_iff_eq] at h
  simp only [Char.toNat, UInt32.le_iff_toNat_le] at *
  rcases h with ((h | h) | h) | h
  · have h1 : 65 ≤ c.val.toNat := by simpa using h.1
    have h2 : c.val.toNat ≤ 90 := by simpa using h.2
    omega
  · have h1 : 97 ≤ c.val.toNat := by simpa using h.1
    have h2 : c.val.toNat ≤ 122 := by simpa using h.2
    omega
  · have h1 : 48 ≤ c.val.toNat := by simpa using h.1
    have h2 : c.val.toNat ≤ 57 := by simpa using h.2
    omega
  · subst h; decide

theorem isWs_of_word (c : Char) (h : isWord c = true) : isWs c = false := by
  have := word_range c h
  simp only [isWs, Bool.or_eq_false_iff, Bool.and_eq_false_iff, decide_eq_false_iff_not, beq_eq_false_iff_ne]
  omega

theorem wsA_cases (c : Char) (h : isWsA c = true) : c = ' ' ∨ c = '\t' ∨ c = '\n' ∨ c = '\r' ∨ c = '\x0c' ∨ c = '\x0b' := by
  simpa [isWsA, or_assoc] using h

theorem isWs_of_wsA (c : Char) (h : isWsA c = true) : isWs c = true := by
  rcases wsA_cases c h with rfl | rfl | rfl | rfl | rfl | rfl <;> decide

theorem isWsA_of_word (c : Char) (h : isWord c = true) : isWsA c = false := by
  cases hc : isWsA c with
  | false => rfl
  | true => exact absurd (isWs_of_wsA c hc) (by rw [isWs_of_word c h]; exact Bool.false_ne_true)

theorem word_of_wsA (c : Char) (h : isWsA c = true) : isWord c = false := by
  cases hc : isWord c with
  | false => rfl
  | true => rw [isWsA_of_word c hc] at h; cases h

theorem digit_word (c : Char) (h : c.isDigit = true) : isWord c = true := by
  simp [isWord, Char.isAlphanum, h]

theorem idStart_word (c : Char) (h : isIdStart c = true) : isWord c = true := by
  simp only [isIdStart, Bool.or_eq_true, beq_iff_eq] at h
  rcases h with h | h
  · simp [isWord, Char.isAlphanum, h]
  · simp [isWord, h]

/-- what the recognisers need to know about the white-space class they are run with -/
structure SpOK (sp : Char → Bool) : Prop where
  blankA : ∀ c, isWsA c = true → sp c = true
  word : ∀ c, isWord c = true → sp c = false
  semi : sp ';' = false
  colon : sp ':' = false
  lbr : sp '[' = false
  rbr : sp ']' = false
  star : sp '*' = false
  lbrace : sp '{' = false
  rbrace : sp '}' = false
  comma : sp ',' = false
  hash : sp '#' = false
  sub : ∀ c, sp c = true → isWs c = true

theorem spOK_A : SpOK isWsA :=
  ⟨fun _ h => h, isWsA_of_word, by decide, by decide, by decide, by decide, by decide, by decide, by decide, by decide, by decide,
   isWs_of_wsA⟩

theorem spOK_U : SpOK isWs :=
  ⟨isWs_of_wsA, isWs_of_word, by decide, by decide, by decide, by decide, by decide, by decide, by decide, by decide, by decide,
   fun _ h => h⟩

theorem blank_cons (c : Char) (s : List Char) : blank (c :: s) = true ↔ isWsA c = true ∧ blank s = true := by
  simp only [blank, List.all_cons, Bool.and_eq_true]

theorem blank_sp {sp : Char → Bool} (h : SpOK sp) (w : List Char) (hw : blank w = true) : w.all sp = true :=
  List.all_eq_true.mpr fun c hc => h.blankA c (List.all_eq_true.mp hw c hc)

theorem word_nsp {sp : Char → Bool} (h : SpOK sp) (w : List Char) (hw : w.all isWord = true) : w.all (fun c => !sp c) = true := by
  simp only [List.all_eq_true] at *
  exact fun c hc => by simp [h.word c (hw c hc)]

theorem noHead_blank_then {p : Char → Bool} (s : List Char) (d : Char) (rest : List Char)
    (hs : ∀ c, isWsA c = true → p c = false) (hb : blank s = true) (hd : p d = false) : noHead p (s ++ d :: rest) = true := by
  cases s with
  | nil => rw [List.nil_append, noHead, hd]; rfl
  | cons c s => rw [List.cons_append, noHead, hs c ((blank_cons c s).mp hb).1]; rfl

theorem span_blank {sp : Char → Bool} (hs : SpOK sp) (s : List Char) (d : Char) (rest : List Char) (hb : blank s = true)
    (hd : sp d = false) : (s ++ d :: rest).takeWhile sp = s ∧ (s ++ d :: rest).dropWhile sp = d :: rest :=
  tw_app sp s (d :: rest) (blank_sp hs s hb) (by rw [noHead, hd]; rfl)

end Cstruct.DefParser.C13
