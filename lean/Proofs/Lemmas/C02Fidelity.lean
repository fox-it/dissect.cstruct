/-
  "Parse, then dump" for every type of fragment SB, packed or aligned, by recursion over types and member lists
  (`ty_ok`), and from there for any successful parse (`fidelity`). At the end the member-loop statements with `Run` and
  `Units` spelt out (`IdleF`, `PendF` packed; `IdleFA`, `PendFA` under `Core.Lemmas.FHyps`): instances of `idle_ok` /
  `pend_ok`.
-/
import Proofs.Lemmas.C02Run
import Proofs.Core
namespace Cstruct.C02B.Lemmas
open Cstruct Cstruct.Core Cstruct.Core.Lemmas Cstruct.C06 Cstruct.C06.Lemmas Cstruct.C02B

mutual
theorem fragSB_plain (cfg : Cfg) : ∀ ty : Ty, ty.fragSB cfg = true → ty.plain = true
  | .sc _ _, _ => rfl
  | .enum _ _ _, _ => rfl
  | .ptr _, _ => rfl
  | .arr e len, h => by
    simp only [Ty.fragSB, Bool.and_eq_true] at h
    cases len with
    | fixed n => simp only [Ty.plain, Bool.true_and]; exact fragSB_plain cfg e h.2
    | expr _ => simp at h
    | nullTerm => simp at h
    | eof => simp at h
  | .struct _ fs, h => by
    simp only [Ty.fragSB] at h
    simp only [Ty.plain]; exact fragSB_plain_fields cfg fs h
  | .union _ _, h => by simp [Ty.fragSB] at h
theorem fragSB_plain_fields (cfg : Cfg) : ∀ fs : Fields, Fields.fragSB cfg fs = true → Fields.plain fs = true
  | .nil, _ => rfl
  | .cons _ _ t none r, h => by
    simp only [Fields.fragSB, Bool.and_eq_true] at h
    simp only [Fields.plain, Bool.and_eq_true]
    exact ⟨fragSB_plain cfg t h.1, fragSB_plain_fields cfg r h.2⟩
  | .cons _ _ _ (some 0) _, h => by simp [Fields.fragSB] at h
  | .cons _ _ t (some (_ + 1)) r, h => by
    simp only [Fields.fragSB, Bool.and_eq_true] at h
    simp only [Fields.plain, Bool.and_eq_true]
    refine ⟨?_, fragSB_plain_fields cfg r h.2⟩
    cases t <;> simp [Ty.bitOk] at h <;> rfl
end

theorem scalar_fw (cfg : Cfg) (s : Scalar) (a : Nat) (hS : (Ty.sc s a).fragSB cfg = true) (n : Nat) (hn : s.size = some n)
    (d : Bytes) (pos : Nat) (hlen : pos + n ≤ d.length) :
    ∃ v, readScalar cfg s d pos = .ok (v, pos + n) ∧ HasTyB cfg v (.sc s a) ∧ writeScalar cfg s v = .ok (sread d pos n) := by
  have hl := sread_length_of_le d pos n hlen
  have hx := readExact_of_le d pos n hlen
  have hint : ∀ sg, fits n sg (decodeInt cfg.endian sg (sread d pos n)) = true ∧
      encodeInt cfg.endian n sg (decodeInt cfg.endian sg (sread d pos n)) = some (sread d pos n) := fun sg => by
    have h := C05.c05_int_roundtrip_bytes cfg.endian sg (sread d pos n)
    rwa [hl] at h
  cases s with
  | pint k sg =>
    cases hn
    exact ⟨_, by simp only [readScalar, bind, pure, hx, Except.bind, Except.pure], .int rfl (hint sg).1,
      by simp only [writeScalar, (hint sg).2]⟩
  | aint k sg =>
    cases hn
    exact ⟨_, by simp only [readScalar, bind, pure, hx, Except.bind, Except.pure], .int rfl (hint sg).1,
      by simp only [writeScalar, (hint sg).2]⟩
  | pflt k =>
    cases hn
    have h1 := C05.Lemmas.decodeNat_lt cfg.endian (sread d pos n)
    have h2 := C05.Lemmas.encBytes_decodeNat cfg.endian (sread d pos n)
    rw [hl] at h1 h2
    exact ⟨_, by simp only [readScalar, bind, pure, hx, Except.bind, Except.pure], .flt h1,
      by simp only [writeScalar, if_pos h1]; exact congrArg _ h2⟩
  | char =>
    cases hn
    obtain ⟨b, hb⟩ : ∃ b, sread d pos 1 = [b] := by
      match h : sread d pos 1, hl with
      | [b], _ => exact ⟨b, rfl⟩
    exact ⟨.bytes [b], by simp only [readScalar, bind, pure, hx, Except.bind, Except.pure, hb], .char, by rw [hb]; rfl⟩
  | void =>
    cases hn
    exact ⟨.void, rfl, .void, by rw [sread_zero]; rfl⟩
  | wchar => simp [Ty.fragSB] at hS
  | leb sg => simp [Ty.fragSB] at hS

theorem sc_ok (cfg : Cfg) (al : Bool) (s a) (hS : (Ty.sc s a).fragSB cfg = true) : TyFaithful cfg al (.sc s a) := by
  intro n hn
  have hm : maskB cfg (.sc s a) = List.replicate n 0xFF := by simp only [maskB, show s.size = some n from hn, Option.getD_some]
  rw [hm]
  refine ⟨List.length_replicate, fun d pos hlen _ ctx => ?_⟩
  obtain ⟨v, hr, hv, hw⟩ := scalar_fw cfg s a hS n hn d pos hlen
  exact ⟨v, by rw [read_sc, hr], hv, by rw [write_sc, hw, andBytes_ff n _ (sread_length_of_le d pos n hlen)]⟩

theorem int_fw (cfg : Cfg) (b : Scalar) (hi : Scalar.isInt b = true) (n : Nat) (hn : b.size = some n) (d : Bytes)
    (pos : Nat) (hlen : pos + n ≤ d.length) :
    ∃ i, readScalar cfg b d pos = .ok (.int i, pos + n) ∧ intFits b i = true ∧
      writeScalar cfg b (.int i) = .ok (andBytes (sread d pos n) (List.replicate n 0xFF)) := by
  obtain ⟨v, hr, hv, hw⟩ := scalar_fw cfg b 0 (by cases b <;> first | rfl | cases hi) n hn d pos hlen
  rw [andBytes_ff n _ (sread_length_of_le d pos n hlen)]
  cases hv with
  | int _ h2 => exact ⟨_, hr, h2, hw⟩
  | flt _ => cases hi
  | char => cases hi
  | void => cases hi

theorem enum_ok (cfg : Cfg) (al : Bool) (b a f) (hS : (Ty.enum b a f).fragSB cfg = true) : TyFaithful cfg al (.enum b a f) := by
  intro n hn
  have hm : maskB cfg (.enum b a f) = List.replicate n 0xFF := by
    simp only [maskB, show b.size = some n from hn, Option.getD_some]
  rw [hm]
  refine ⟨List.length_replicate, fun d pos hlen _ ctx => ?_⟩
  obtain ⟨i, h1, h2, h3⟩ := int_fw cfg b hS n hn d pos hlen
  exact ⟨.enum i, by rw [read_enum, h1]; rfl, .enum h2, by rw [write_enum_enum, h3]⟩

theorem ptr_ok (cfg : Cfg) (al : Bool) (t) (hS : (Ty.ptr t).fragSB cfg = true) : TyFaithful cfg al (.ptr t) := by
  intro n hn
  have hm : maskB cfg (.ptr t) = List.replicate n 0xFF := by
    simp only [maskB, show cfg.ptr.size = some n from hn, Option.getD_some]
  rw [hm]
  refine ⟨List.length_replicate, fun d pos hlen _ ctx => ?_⟩
  obtain ⟨i, h1, h2, h3⟩ := int_fw cfg cfg.ptr hS n hn d pos hlen
  exact ⟨.ptr i, by rw [read_ptr, h1]; rfl, .ptr h2, by rw [write_ptr_ptr, h3]⟩

theorem tyRun_N (cfg : Cfg) (al : Bool) (e : Ty) (k : Nat) (d : Bytes) (me : Bytes) (hml : me.length = k)
    (hdvd : al = true → sAlign cfg e ∣ k)
    (hE : ∀ pos, pos + k ≤ d.length → (al = true → sAlign cfg e ∣ pos) → TyRun cfg e d pos k me) :
    ∀ (m : Nat) (ctx : Ctx) (pos : Nat), pos + m * k ≤ d.length → (al = true → sAlign cfg e ∣ pos) →
      ∃ vs, readN cfg e m ctx d pos = .ok (vs, pos + m * k) ∧ HasTyNB cfg vs e m ∧
        writeN cfg e vs pos = .ok (andBytes (sread d pos (m * k)) (List.replicate m me).flatten)
  | 0 => fun ctx pos _ _ =>
    ⟨.nil, by rw [readN_zero, Nat.zero_mul, Nat.add_zero], .nil,
      by rw [writeN_nil]; exact congrArg _ (andBytes_nil_right _).symm⟩
  | m + 1 => fun ctx pos hlen hpos => by
    rw [Nat.succ_mul, Nat.add_comm (m * k)] at hlen ⊢
    have hl : pos + k ≤ d.length := Nat.le_trans (Nat.add_le_add_left (Nat.le_add_right k _) pos) hlen
    obtain ⟨v, h1, h2, h3⟩ := hE pos hl hpos ctx
    obtain ⟨vs, h4, h5, h6⟩ := tyRun_N cfg al e k d me hml hdvd hE m ctx (pos + k) (Nat.add_assoc pos k _ ▸ hlen)
      (fun ha => Nat.dvd_add (hpos ha) (hdvd ha))
    refine ⟨.cons v vs, ?_, .cons h2 h5, ?_⟩
    · rw [readN_succ, h1]
      simp only [Except.bind]
      rw [h4, Nat.add_assoc]
    · rw [writeN_cons, h3]
      simp only [Except.bind]
      rw [andBytes_window_length d pos k me hml hl, h6, List.replicate_succ, List.flatten_cons,
        andBytes_window d pos k (m * k) me _ hml hl]

theorem arr_ok (cfg : Cfg) (al : Bool) (e : Ty) (len : Len) (hT : TyHyps cfg al (.arr e len)) (hE : TyFaithful cfg al e) :
    TyFaithful cfg al (.arr e len) := by
  intro n hn
  have hS := hT.frag
  simp only [Ty.fragSB, Bool.and_eq_true] at hS
  cases len with
  | expr _ => simp at hS
  | nullTerm => simp at hS
  | eof => simp at hS
  | fixed m =>
    simp only [Ty.size] at hn
    cases hk : e.size cfg with
    | none => rw [hk] at hn; cases hn
    | some k =>
    rw [hk] at hn
    cases hn
    obtain ⟨hml, hty⟩ := hE k hk
    refine ⟨by simp only [maskB, List.length_flatten, List.map_replicate, List.sum_replicate_nat, hml], ?_⟩
    intro d pos hlen hpos ctx
    by_cases hc : ∃ a, e = .sc .char a
    · obtain ⟨a, rfl⟩ := hc
      cases hk
      rw [Nat.mul_one] at hlen ⊢
      have hsl := sread_length_of_le d pos m hlen
      have hmask : maskB cfg (.arr (.sc .char a) (.fixed m)) = List.replicate m 0xFF := by
        simp only [maskB, Scalar.size, Option.getD_some, List.flatten_replicate_replicate, Nat.mul_one]
      refine ⟨.bytes (sread d pos m), ?_, .chars hsl, by rw [write_arr_chars, hmask, andBytes_ff m _ hsl]⟩
      rw [read_arr_fixed, readArray_char]
      split
      · rename_i h0; subst h0; rw [sread_zero]; rfl
      · rw [readExact_of_le d pos m hlen]; rfl
    · have hne : ∀ a, e ≠ .sc .char a := fun a h => hc ⟨a, h⟩
      obtain ⟨vs, h1, h2, h3⟩ := tyRun_N cfg al e k d _ hml
        (fun ha => by subst ha; exact size_sAlign_dvd_B cfg e hS.2 hT.unif (hT.p2 rfl) k hk) (hty d) m ctx pos hlen hpos
      refine ⟨.list vs, ?_, .arr hne h2, ?_⟩
      · rw [read_arr_fixed]
        exact readArray_of_readN_B cfg e hS.2 hne ctx d m pos vs _ h1
      · rw [write_arr_list, if_neg (by rw [hasTyNB_length cfg e m vs h2]; exact fun h => h rfl), h3]
        simp only [maskB]

theorem struct_tail {al : Bool} {n e r sa pos : Nat} (htot : n = alignTo al e sa) (hn : n = e + r)
    (hpad : al = true → padNat (pos + e) sa = padNat e sa) :
    (if al = true then pos + e + padNat (pos + e) sa else pos + e) = pos + n ∧
      ∀ body : Bytes, (if al = true then body ++ zeros (padNat (pos + e) sa) else body) = body ++ zeros r := by
  cases al with
  | false =>
    simp only [alignTo, Bool.false_eq_true, if_false] at htot ⊢
    have : r = 0 := by omega
    subst this
    exact ⟨by omega, fun _ => (List.append_nil _).symm⟩
  | true =>
    simp only [alignTo, if_true, hpad rfl] at htot ⊢
    have : padNat e sa = r := by omega
    exact ⟨by omega, fun _ => by rw [this]⟩

theorem struct_ok (cfg : Cfg) (al' : Bool) (fs : Fields) (hH : FieldsHyps cfg al' fs) (hF : IdleFaithful cfg al' fs) :
    TyFaithful cfg al' (.struct al' fs) := by
  intro n hn
  have hsz : ∃ sa offs, structLayout cfg al' fs = .ok (some n, sa, offs) := by
    unfold structLayout LState.init
    simp only [Ty.size] at hn
    split at hn
    · rename_i sz sa offs h; exact ⟨sa, offs, by rw [h, hn]⟩
    · cases hn
  obtain ⟨sa, offs, hlay⟩ := hsz
  obtain ⟨e, htot, hmlen, hrun⟩ := hF LState.init n sa offs hlay (lidle_of_rem _ rfl fs) 0 rfl
  rw [Nat.zero_add] at htot hrun
  obtain ⟨r, hr⟩ := Nat.exists_eq_add_of_le (htot ▸ le_alignTo al' e sa)
  have hmask : maskB cfg (.struct al' fs) = fieldsMaskB cfg fs offs 0 none ++ zeros r := by
    simp only [maskB, hlay, hmlen, hr, Nat.add_sub_cancel_left]
  rw [hmask]
  refine ⟨by rw [List.length_append, hmlen, length_zeros, hr], fun d pos hlen hpos ctx => ?_⟩
  have hle : pos + e ≤ d.length := Nat.le_trans (Nat.add_le_add_left (hr ▸ Nat.le_add_right e r) pos) hlen
  have hle2 : pos + e + r ≤ d.length := by rw [Nat.add_assoc, ← hr]; exact hlen
  obtain ⟨vs, szs, hrr, hvs, out, bbF, fl, hwr, hfl, hout⟩ := hrun d pos BitBuf.empty hle
    (fun ha => allAlignDvd_of_sAlign cfg al' fs (hH.p2 ha) pos (hpos ha)) (ridle_of_rem _ rfl fs) []
  rw [Nat.add_zero] at hrr hwr hout
  rw [Nat.zero_add] at hrr
  have hol : (out ++ fl).length = e := by rw [hout, andBytes_window_length d pos e _ hmlen hle]
  obtain ⟨t1, t2⟩ := struct_tail (pos := pos) htot hr fun ha => by
    rw [(layout_final cfg al' fs _ _ sa offs hlay).1]; exact padNat_struct cfg al' fs (hH.p2 ha) pos e (hpos ha)
  refine ⟨.record vs, ?_, .struct hvs, ?_⟩
  · rw [read_struct, hlay]
    simp only [Except.bind, hrr, t1]
  · rw [write_struct, hlay]
    simp only [Except.bind, hwr, hfl, hol, t2]
    rw [hr, andBytes_window d pos e r _ _ hmlen hle, andBytes_zeros r _ (sread_length_of_le d _ r hle2), ← hout]

namespace TyHyps

theorem elem {cfg al e len} (h : TyHyps cfg al (.arr e len)) : TyHyps cfg al e := by
  obtain ⟨h1, h2, h3, h4⟩ := h
  simp only [Ty.fragSB, Bool.and_eq_true] at h1
  exact ⟨h1.2, h2, h3, h4⟩

theorem fields {cfg al al' fs} (h : TyHyps cfg al (.struct al' fs)) : al' = al ∧ FieldsHyps cfg al fs := by
  obtain ⟨h1, h2, h3, h4⟩ := h
  simp only [Ty.uniformAlign, Bool.and_eq_true, beq_iff_eq] at h2
  exact ⟨h2.1, h1, h2.2, h3, h4⟩

end TyHyps

mutual
theorem ty_ok (cfg : Cfg) (al : Bool) : ∀ ty : Ty, TyHyps cfg al ty → TyFaithful cfg al ty
  | .sc s a, h => sc_ok cfg al s a h.frag
  | .enum b a f, h => enum_ok cfg al b a f h.frag
  | .ptr t, h => ptr_ok cfg al t h.frag
  | .arr e len, h => arr_ok cfg al e len h (ty_ok cfg al e h.elem)
  | .struct _ fs, h => h.fields.1 ▸ struct_ok cfg al fs h.fields.2 (idle_ok cfg al fs h.fields.2)
  | .union _ _, h => by have := h.frag; simp [Ty.fragSB] at this
theorem idle_ok (cfg : Cfg) (al : Bool) : ∀ fs : Fields, FieldsHyps cfg al fs → IdleFaithful cfg al fs
  | .nil, _ => idle_nil cfg al
  | .cons _ _ ty none rest, h => idle_cons_nb h (ty_ok cfg al ty h.head) (idle_ok cfg al rest h.tail)
  | .cons _ _ _ (some 0) _, h => by have := h.frag; simp [Fields.fragSB] at this
  | .cons _ _ _ (some (_ + 1)) rest, h => idle_cons_bit h (idle_ok cfg al rest h.tail) (pend_ok cfg al rest h.tail)
theorem pend_ok (cfg : Cfg) (al : Bool) : ∀ fs : Fields, FieldsHyps cfg al fs → PendFaithful cfg al fs
  | .nil, _ => pend_nil cfg al
  | .cons _ _ ty none rest, h =>
    pend_cons h (idle_cons_nb h (ty_ok cfg al ty h.head) (idle_ok cfg al rest h.tail)) (idle_ok cfg al rest h.tail)
      (pend_ok cfg al rest h.tail)
  | .cons _ _ _ (some 0) _, h => by have := h.frag; simp [Fields.fragSB] at this
  | .cons _ _ _ (some (_ + 1)) rest, h =>
    pend_cons h (idle_cons_bit h (idle_ok cfg al rest h.tail) (pend_ok cfg al rest h.tail)) (idle_ok cfg al rest h.tail)
      (pend_ok cfg al rest h.tail)
end

/-- from "given enough input" (`ty_ok`) to any successful parse: fragment SB is plain, so the parse can be replayed on an
    extended input, where `ty_ok` determines it -/
theorem fidelity (cfg : Cfg) (al : Bool) (ty : Ty) (hT : TyHyps cfg al ty) (n : Nat) (hsz : ty.size cfg = some n) (ctx : Ctx)
    (d : Bytes) (pos : Nat) (hpos : al = true → sAlign cfg ty ∣ pos) (v : Val) (p : Nat)
    (hr : read cfg ty ctx d pos = .ok (v, p)) :
    p = pos + n ∧ HasTyB cfg v ty ∧ (maskB cfg ty).length = n ∧
      (p ≤ d.length → write cfg ty v pos = .ok (andBytes (sread d pos n) (maskB cfg ty))) := by
  obtain ⟨hml, hf⟩ := ty_ok cfg al ty hT n hsz
  have hext := Core.read_extend cfg ty (fragSB_plain cfg ty hT.frag) ctx d pos v p hr (d ++ zeros (pos + n))
    (List.prefix_append _ _)
  obtain ⟨v', hr', hv', _⟩ := hf (d ++ zeros (pos + n)) pos (by rw [List.length_append, length_zeros]; omega) hpos ctx
  rw [hext] at hr'
  cases hr'
  refine ⟨rfl, hv', hml, fun hlen => ?_⟩
  obtain ⟨v'', hr'', _, hw''⟩ := hf d pos hlen hpos ctx
  rw [hr] at hr''
  cases hr''
  exact hw''

theorem TyHyps.packed {cfg : Cfg} {ty : Ty} (hS : ty.fragSB cfg = true) (hu : ty.uniformAlign false = true) :
    TyHyps cfg false ty := ⟨hS, hu, nofun, nofun⟩

theorem fidelity_mid (cfg : Cfg) (al : Bool) (ty : Ty) (hT : TyHyps cfg al ty) (hsz : ∃ k, ty.size cfg = some k) (ctx : Ctx)
    (pre w post : Bytes) (n : Nat) (hw : w.length = n) (hpos : al = true → sAlign cfg ty ∣ pre.length) (v : Val)
    (hr : read cfg ty ctx (pre ++ w ++ post) pre.length = .ok (v, pre.length + n)) :
    ty.size cfg = some n ∧ (maskB cfg ty).length = n ∧
    ∃ bs, write cfg ty v pre.length = .ok bs ∧ bs.length = n ∧ bs = andBytes w (maskB cfg ty) ∧
      ∀ (i : Nat) (h1 : i < bs.length) (h2 : i < w.length) (h3 : i < (maskB cfg ty).length),
        bs[i] = w[i] &&& (maskB cfg ty)[i] := by
  obtain ⟨k, hk⟩ := hsz
  obtain ⟨hp, _, hml, hwr⟩ := fidelity cfg al ty hT k hk ctx _ _ hpos v _ hr
  cases Nat.add_left_cancel hp
  subst hw
  have hwr := hwr (by simp only [List.length_append]; omega)
  rw [sread_mid] at hwr
  exact ⟨hk, hml, _, hwr, by rw [andBytes_length, hml, Nat.min_self], rfl, andBytes_getElem w _⟩

def IdleF (cfg : Cfg) (fs : Fields) : Prop :=
  Fields.fragSB cfg fs = true → Fields.uniformAlign false fs = true → Fields.defErr cfg fs = none →
  ∀ st total sa offs, Fields.layout cfg false fs st = .ok (some total, sa, offs) → LIdle st fs →
  ∀ o, st.offset = some o →
    o ≤ total ∧ (fieldsMaskB cfg fs offs o none).length = total - o ∧
    ∀ (ctx : Ctx) (d : Bytes) (start : Nat) (bbR : BitBuf), start + total ≤ d.length → RIdle bbR fs →
      ∃ vs szs, readFields cfg false fs offs start bbR ctx d (start + o) = .ok (vs, szs, start + total) ∧
        HasTysB cfg vs fs ∧
        ∃ out bbF fl, writeFields cfg false fs offs vs start BitBuf.empty (start + o) = .ok (out, bbF) ∧
          flushBits cfg bbF = .ok fl ∧
          out ++ fl = andBytes (sread d (start + o) (total - o)) (fieldsMaskB cfg fs offs o none)

structure PendL (st : LState) (ft : Scalar) (fsz k : Nat) : Prop where
  isInt : Scalar.isInt ft = true
  size : ft.size = some fsz
  lty : st.bitsType = some ft
  lrem : st.bitsRemaining = ((8 * fsz - k : Nat) : Int)
  lt : k < 8 * fsz
  loff : st.offset = st.bitsFieldOffset.map (· + fsz)

def PendF (cfg : Cfg) (fs : Fields) : Prop :=
  Fields.fragSB cfg fs = true → Fields.uniformAlign false fs = true → Fields.defErr cfg fs = none →
  ∀ st total sa offs, Fields.layout cfg false fs st = .ok (some total, sa, offs) →
  ∀ ft fsz k, PendL st ft fsz k → ∀ uo, st.offset = some (uo + fsz) → ∀ M : Nat,
    uo + fsz ≤ total ∧ (fieldsMaskB cfg fs offs (uo + fsz) (some ⟨fsz, k, M⟩)).length = total - uo ∧
    ∀ (ctx : Ctx) (d : Bytes) (start : Nat) (bbR bbW : BitBuf) (U : Int), start + total ≤ d.length →
      U % ((2 ^ (8 * fsz) : Nat) : Int) = (decodeNat cfg.endian (sread d (start + uo) fsz) : Int) →
      bbR.ty = some ft → ReadInv cfg.endian (8 * fsz) U k bbR →
      bbW.ty = some ft → bbW.remaining = 8 * fsz - k →
      bbW.buffer = ((decodeNat cfg.endian (sread d (start + uo) fsz) &&& M : Nat) : Int) →
      ∃ vs szs, readFields cfg false fs offs start bbR ctx d (start + (uo + fsz)) = .ok (vs, szs, start + total) ∧
        HasTysB cfg vs fs ∧
        ∃ out bbF fl, writeFields cfg false fs offs vs start bbW (start + uo) = .ok (out, bbF) ∧
          flushBits cfg bbF = .ok fl ∧
          out ++ fl = andBytes (sread d (start + uo) (total - uo)) (fieldsMaskB cfg fs offs (uo + fsz) (some ⟨fsz, k, M⟩))

theorem f_idle (cfg : Cfg) : ∀ fs : Fields, IdleF cfg fs := fun fs hS hU _ st total sa offs hlay hli o ho => by
  obtain ⟨n, htot, hml, hrun⟩ := idle_ok cfg false fs ⟨hS, hU, nofun, nofun⟩ st total sa offs hlay hli o ho
  cases (show total = o + n from htot)
  rw [Nat.add_sub_cancel_left]
  exact ⟨Nat.le_add_right _ _, hml, fun ctx d start bbR hlen hri => hrun d start bbR hlen nofun hri ctx⟩

theorem f_pend (cfg : Cfg) : ∀ fs : Fields, PendF cfg fs :=
  fun fs hS hU _ st total sa offs hlay ft fsz k hP uo ho M => by
  have hb : st.bitsFieldOffset = some uo := by
    have h := hP.loff
    rw [ho] at h
    cases hx : st.bitsFieldOffset with
    | none => rw [hx] at h; cases h
    | some x =>
      rw [hx] at h
      cases Nat.add_right_cancel (Option.some.inj h)
      rfl
  obtain ⟨n, hle, htot, hml, hrun⟩ := pend_ok cfg false fs ⟨hS, hU, nofun, nofun⟩ st total sa offs hlay ft fsz k uo
    ⟨hP.isInt, hP.size, hP.lty, hP.lrem, hP.lt, ho, hb, nofun⟩ M
  cases (show total = uo + n from htot)
  rw [Nat.add_sub_cancel_left]
  exact ⟨Nat.add_le_add_left hle uo, hml, fun ctx d start bbR bbW U hlen hUF hRty hR hWty hWrem hWbuf =>
    hrun d start bbR bbW hlen nofun nofun ⟨hRty, ⟨U, hUF, hR⟩, hWty, hWrem, hWbuf⟩ ctx⟩

/-- `e` is the offset behind the last member (the structure's tail padding is not part of the loop) -/
def IdleFA (cfg : Cfg) (al : Bool) (fs : Fields) : Prop :=
  FHyps cfg al fs → ∀ st total sa offs, Fields.layout cfg al fs st = .ok (some total, sa, offs) → LIdle st fs →
  ∀ o, st.offset = some o →
    ∃ e, o ≤ e ∧ total = alignTo al e sa ∧ (fieldsMaskB cfg fs offs o none).length = e - o ∧
    ∀ (ctx : Ctx) (d : Bytes) (start : Nat) (bbR : BitBuf), start + e ≤ d.length →
      (al = true → allAlignDvd cfg start fs) → RIdle bbR fs →
      ∃ vs szs, readFields cfg al fs offs start bbR ctx d (start + o) = .ok (vs, szs, start + e) ∧
        HasTysB cfg vs fs ∧
        ∃ out bbF fl, writeFields cfg al fs offs vs start BitBuf.empty (start + o) = .ok (out, bbF) ∧
          flushBits cfg bbF = .ok fl ∧
          out ++ fl = andBytes (sread d (start + o) (e - o)) (fieldsMaskB cfg fs offs o none)

def PendFA (cfg : Cfg) (al : Bool) (fs : Fields) : Prop :=
  FHyps cfg al fs → ∀ st total sa offs, Fields.layout cfg al fs st = .ok (some total, sa, offs) →
  ∀ ft fsz k uo, PendLA al st ft fsz k uo → ∀ M : Nat,
    ∃ e, uo + fsz ≤ e ∧ total = alignTo al e sa ∧
      (fieldsMaskB cfg fs offs (uo + fsz) (some ⟨fsz, k, M⟩)).length = e - uo ∧
    ∀ (ctx : Ctx) (d : Bytes) (start : Nat) (bbR bbW : BitBuf) (U : Int), start + e ≤ d.length →
      (al = true → allAlignDvd cfg start fs) → (al = true → fsz ∣ start) →
      U % ((2 ^ (8 * fsz) : Nat) : Int) = (decodeNat cfg.endian (sread d (start + uo) fsz) : Int) →
      bbR.ty = some ft → ReadInv cfg.endian (8 * fsz) U k bbR →
      bbW.ty = some ft → bbW.remaining = 8 * fsz - k →
      bbW.buffer = ((decodeNat cfg.endian (sread d (start + uo) fsz) &&& M : Nat) : Int) →
      ∃ vs szs, readFields cfg al fs offs start bbR ctx d (start + (uo + fsz)) = .ok (vs, szs, start + e) ∧
        HasTysB cfg vs fs ∧
        ∃ out bbF fl, writeFields cfg al fs offs vs start bbW (start + uo) = .ok (out, bbF) ∧
          flushBits cfg bbF = .ok fl ∧
          out ++ fl = andBytes (sread d (start + uo) (e - uo)) (fieldsMaskB cfg fs offs (uo + fsz) (some ⟨fsz, k, M⟩))

theorem fA_idle (cfg : Cfg) (al : Bool) : ∀ fs : Fields, IdleFA cfg al fs := fun fs hH st total sa offs hlay hli o ho => by
  obtain ⟨n, htot, hml, hrun⟩ := idle_ok cfg al fs ⟨hH.frag, hH.unif, fun _ => hH.p2, hH.nat⟩ st total sa offs hlay hli o ho
  refine ⟨o + n, Nat.le_add_right _ _, htot, ?_⟩
  rw [Nat.add_sub_cancel_left]
  exact ⟨hml, fun ctx d start bbR hlen hdv hri => hrun d start bbR hlen hdv hri ctx⟩

theorem fA_pend (cfg : Cfg) (al : Bool) : ∀ fs : Fields, PendFA cfg al fs :=
  fun fs hH st total sa offs hlay ft fsz k uo hP M => by
  obtain ⟨n, hle, htot, hml, hrun⟩ := pend_ok cfg al fs ⟨hH.frag, hH.unif, fun _ => hH.p2, hH.nat⟩ st total sa offs hlay
    ft fsz k uo hP M
  refine ⟨uo + n, Nat.add_le_add_left hle uo, htot, ?_⟩
  rw [Nat.add_sub_cancel_left]
  exact ⟨hml, fun ctx d start bbR bbW U hlen hdv hds hUF hRty hR hWty hWrem hWbuf =>
    hrun d start bbR bbW hlen hdv hds ⟨hRty, ⟨U, hUF, hR⟩, hWty, hWrem, hWbuf⟩ ctx⟩

theorem zeros_zero : zeros 0 = [] := rfl

end Cstruct.C02B.Lemmas
