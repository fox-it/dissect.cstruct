/-
  The union case of `write` walks the order of `C11DumpOrder.lean`; which member `writeUnion` writes.
-/
import Proofs.Lemmas.C11DumpOrder
import Proofs.Lemmas.C11

namespace Cstruct.C11.DumpLemmas
open Cstruct Cstruct.Union Cstruct.Core

theorem foldIdx_zip (cfg : Cfg) : ∀ (fs : Fields) (vs : Vals) (c : Nat) (acc : List (Nat × Nat)), vs.length = fs.length →
    foldIdx (fun (x : (String × Bool × Ty × Option Nat) × Val) i acc => insertDesc ((x.1.2.2.1.size cfg).getD 0) i acc)
      (fs.toList.zip vs.toList) c acc = foldKeys (memberKeys cfg fs) c acc
  | .nil, _, _, _, _ => rfl
  | .cons .., .nil, _, _, h => nomatch h
  | .cons _ _ _ _ r, .cons _ vr, c, _, h => foldIdx_zip cfg r vr (c + 1) _ (Nat.succ.inj h)

theorem codeOrder_eq (cfg : Cfg) (fs : Fields) (vs : Vals) (h : vs.length = fs.length) :
    Lemmas.codeOrder cfg fs vs = foldKeys (memberKeys cfg fs) 0 [] := by
  rw [← foldIdx_zip cfg fs vs 0 [] h, ← range_foldl_eq]
  unfold Lemmas.codeOrder
  congr 1
  funext acc i
  cases (fs.toList.zip vs.toList)[i]? with
  | none => rfl
  | some x => rfl

theorem readMembers_length (cfg : Cfg) (buf : Bytes) : ∀ (fs : Fields) (ctx : Ctx) (vs : Vals),
    readMembers cfg fs ctx buf = .ok vs → vs.length = fs.length
  | .nil, ctx, vs, h => by
    rw [Core.Lemmas.readMembers_nil] at h
    cases h
    rfl
  | .cons name an ty bits rest, ctx, vs, h => by
    obtain ⟨v, p, vs', _, hm, rfl⟩ := Lemmas.readMembers_cons_ok h
    exact congrArg (· + 1) (readMembers_length cfg buf rest _ vs' hm)

theorem nthTy_toList : ∀ (fs : Fields) (i : Nat), nthTy fs i = (fs.toList[i]?).map (·.2.2.1)
  | .nil, _ => rfl
  | .cons .., 0 => rfl
  | .cons _ _ _ _ r, i + 1 => nthTy_toList r i

theorem memberKeys_toList (cfg : Cfg) : ∀ (fs : Fields) (i : Nat), (memberKeys cfg fs)[i]? =
    (fs.toList[i]?).map (fun x => ((x.2.2.1.size cfg).getD 0, isStructLike x.2.2.1 && x.2.1))
  | .nil, _ => rfl
  | .cons .., 0 => rfl
  | .cons _ _ _ _ r, i + 1 => memberKeys_toList cfg r i

theorem writeUnion_anon (cfg : Cfg) (fs : Fields) (vs : Vals) (j : Nat) (rest : List Nat) (anon : Option Nat)
    (sz pos : Nat) (hj : anonK (memberKeys cfg fs) j = true) :
    writeUnion cfg fs vs (j :: rest) anon sz pos = writeUnion cfg fs vs rest (some j) sz pos := by
  rw [anonK, memberKeys_toList] at hj
  rw [Lemmas.writeUnion_cons]
  cases hx : fs.toList[j]? with
  | none => rw [hx] at hj; cases hj
  | some x =>
    rw [hx] at hj
    exact if_pos (Bool.and_eq_true_iff.mp hj)

theorem writeUnion_regular (cfg : Cfg) (fs : Fields) (vs : Vals) (j : Nat) (t : Ty) (rest : List Nat)
    (anon : Option Nat) (sz pos : Nat) (ht : nthTy fs j = some t) (hj : anonK (memberKeys cfg fs) j = false) :
    writeUnion cfg fs vs (j :: rest) anon sz pos =
      match writeMemberRaw cfg fs vs j pos with
      | .error e => .error e
      | .ok body =>
        if body.isEmpty then
          match anon with
          | some j => writeMember cfg fs vs j sz pos
          | none => .ok (zeros sz)
        else .ok (body ++ zeros (sz - body.length)) := by
  rw [anonK, memberKeys_toList] at hj
  rw [nthTy_toList] at ht
  rw [Lemmas.writeUnion_cons]
  cases hx : fs.toList[j]? with
  | none => rw [hx] at ht; cases ht
  | some x =>
    rw [hx] at hj
    exact if_neg (fun h => Bool.false_ne_true (hj.symm.trans (Bool.and_eq_true_iff.mpr h)))

theorem writeUnion_first_regular (cfg : Cfg) (fs : Fields) (vs : Vals) (sz pos : Nat) (i : Nat) (t : Ty) (body : Bytes)
    (ht : nthTy fs i = some t) (hw : writeMemberRaw cfg fs vs i pos = .ok body) (hne : body ≠ []) (L : List Nat) :
    ∀ (anon : Option Nat), L.find? (fun j => !anonK (memberKeys cfg fs) j) = some i →
      writeUnion cfg fs vs L anon sz pos = .ok (body ++ zeros (sz - body.length)) := by
  induction L with
  | nil => intro _ h; cases h
  | cons j rest ih =>
    intro anon h
    rw [List.find?_cons] at h
    cases hj : anonK (memberKeys cfg fs) j with
    | true =>
      rw [hj] at h
      rw [writeUnion_anon cfg fs vs j rest anon sz pos hj]
      exact ih (some j) h
    | false =>
      rw [hj] at h
      obtain rfl : j = i := Option.some.inj h
      rw [writeUnion_regular cfg fs vs j t rest anon sz pos ht hj, hw]
      cases body with
      | nil => exact absurd rfl hne
      | cons _ _ => rfl

theorem writeUnion_allAnon (cfg : Cfg) (fs : Fields) (vs : Vals) (sz pos : Nat) (L : List Nat) :
    ∀ (anon : Option Nat), L.find? (fun j => !anonK (memberKeys cfg fs) j) = none →
      writeUnion cfg fs vs L anon sz pos =
        (match L.getLast?.or anon with
         | some j => writeMember cfg fs vs j sz pos
         | none => .ok (zeros sz)) := by
  induction L with
  | nil =>
    intro anon _
    rw [Lemmas.writeUnion_nil]
    cases anon <;> rfl
  | cons j rest ih =>
    intro anon h
    rw [List.find?_cons] at h
    cases hj : anonK (memberKeys cfg fs) j with
    | false => rw [hj] at h; cases h
    | true =>
      rw [hj] at h
      rw [writeUnion_anon cfg fs vs j rest anon sz pos hj, ih (some j) h]
      cases rest with
      | nil => rfl
      | cons c r' =>
        rw [List.getLast?_cons_cons]
        cases hl : (c :: r').getLast? with
        | none => exact absurd hl (by simp)
        | some q => rfl

theorem firstLargestRegular_key (ks : List (Nat × Bool)) : ∀ (c : Nat) (best : Option (Nat × Nat)) (s i : Nat),
    firstLargestRegular ks c best = some (s, i) → best = some (s, i) ∨ ∃ a, ks[i - c]? = some (s, a) ∧ c ≤ i := by
  induction ks with
  | nil => intro c best s i h; exact Or.inl h
  | cons y r ih =>
    intro c best s i h
    obtain ⟨s', a'⟩ := y
    -- whatever candidate the scan goes on with: it is `best` or the head `(s', c)`
    have hstep : ∃ b, firstLargestRegular ((s', a') :: r) c best = firstLargestRegular r (c + 1) b ∧
        (b = best ∨ b = some (s', c)) := by
      cases a' with
      | true => exact ⟨best, rfl, Or.inl rfl⟩
      | false =>
        cases best with
        | none => exact ⟨_, rfl, Or.inr rfl⟩
        | some q =>
          show ∃ b, (if s' > q.1 then _ else _) = _ ∧ _
          split
          · exact ⟨_, rfl, Or.inr rfl⟩
          · exact ⟨_, rfl, Or.inl rfl⟩
    obtain ⟨b, hb, hb'⟩ := hstep
    rw [hb] at h
    rcases ih (c + 1) b s i h with h1 | ⟨a, h1, h2⟩
    · rcases hb' with rfl | rfl
      · exact Or.inl h1
      · cases h1
        exact Or.inr ⟨a', by rw [Nat.sub_self]; rfl, Nat.le_refl _⟩
    · refine Or.inr ⟨a, ?_, Nat.le_of_succ_le h2⟩
      rw [show i - c = (i - (c + 1)) + 1 from (Nat.add_sub_add_right i 1 c).symm.trans (Nat.sub_add_comm h2)]
      exact h1

theorem write_union_written (cfg : Cfg) (al : Bool) (fs : Fields) (buf : Bytes) (vs : Vals) (pos sz : Nat)
    (hsz : (Ty.union al fs).size cfg = some sz) (hlen : vs.length = fs.length) (k : Nat) (t : Ty)
    (hk : writtenMember cfg fs = some k) (ht : nthTy fs k = some t) (body : Bytes)
    (hw : writeMemberRaw cfg fs vs k pos = .ok body) (hb : (t.size cfg).getD 0 ≠ 0 → body ≠ []) :
    write cfg (.union al fs) (.union buf vs) pos = .ok (body ++ zeros (sz - body.length)) := by
  rw [Lemmas.write_union_eq cfg al fs buf vs pos sz hsz, codeOrder_eq cfg fs vs hlen]
  have hfind : ((foldKeys (memberKeys cfg fs) 0 []).map (·.2)).find? (fun j => !anonK (memberKeys cfg fs) j) =
      (firstLargestRegular (memberKeys cfg fs) 0 none).map (·.2) := by
    rw [List.find?_map]
    exact congrArg _ (find_foldKeys (memberKeys cfg fs) (memberKeys cfg fs) 0 [] rfl List.Pairwise.nil)
  have hlast : (foldKeys (memberKeys cfg fs) 0 []).getLast? = lastSmallest (memberKeys cfg fs) 0 none :=
    getLast_foldKeys (memberKeys cfg fs) 0 [] List.Pairwise.nil
  unfold writtenMember at hk
  cases hf : firstLargestRegular (memberKeys cfg fs) 0 none with
  | some q =>
    obtain ⟨s, i⟩ := q
    rw [hf] at hk hfind
    simp only at hk
    split at hk
    · cases hk
    · rename_i hs
      cases hk
      -- the key found with member `k` is the size of its type
      have hsize : (t.size cfg).getD 0 = s := by
        rcases firstLargestRegular_key _ 0 none s k hf with h | ⟨a, h1, _⟩
        · cases h
        · rw [Nat.sub_zero, memberKeys_toList] at h1
          rw [nthTy_toList] at ht
          cases hx : fs.toList[k]? with
          | none => rw [hx] at ht; cases ht
          | some x =>
            rw [hx] at ht h1
            cases ht
            exact congrArg Prod.fst (Option.some.inj h1)
      exact writeUnion_first_regular cfg fs vs sz pos k t body ht hw (hb (hsize ▸ hs)) _ none hfind
  | none =>
    rw [hf] at hk hfind
    rw [writeUnion_allAnon cfg fs vs sz pos _ none hfind, List.getLast?_map, hlast]
    cases hl : lastSmallest (memberKeys cfg fs) 0 none with
    | none => rw [hl] at hk; cases hk
    | some q =>
      rw [hl] at hk
      cases hk
      exact (Lemmas.writeMember_eq ..).trans (by rw [hw])

end Cstruct.C11.DumpLemmas
