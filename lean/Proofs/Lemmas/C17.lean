/-
  Helper lemmas for `Proofs/C17.lean` (structure instances): `veq` is reflexive and symmetric, field-wise equality,
  `setNth` is `List.set`, the positional part of `__init__`.
-/
import CstructModel.Instance
namespace Cstruct.C17.Lemmas
open Cstruct Cstruct.Instance

mutual
theorem veq_refl : ∀ x : Val, veq x x = true
  | .int a => beq_self_eq_true a
  | .flt a => beq_self_eq_true a
  | .bytes a => beq_self_eq_true a
  | .wstr a => beq_self_eq_true a
  | .enum a => beq_self_eq_true a
  | .ptr a => beq_self_eq_true a
  | .void => rfl
  | .list a => vseq_refl a
  | .record a => vseq_refl a
  | .union _ a => vseq_refl a
theorem vseq_refl : ∀ x : Vals, vseq x x = true
  | .nil => rfl
  | .cons a r => by rw [vseq, veq_refl a, vseq_refl r]; rfl
end

-- outside the pairs of constructors listed, `veq` is `false` in both directions
mutual
theorem veq_symm : ∀ x y : Val, veq x y = veq y x
  | .int _, y => by cases y with | int _ | enum _ | ptr _ => exact BEq.comm | _ => rfl
  | .enum _, y => by cases y with | int _ | enum _ => exact BEq.comm | _ => rfl
  | .ptr _, y => by cases y with | int _ | ptr _ => exact BEq.comm | _ => rfl
  | .flt _, y => by cases y with | flt _ => exact BEq.comm | _ => rfl
  | .bytes _, y => by cases y with | bytes _ => exact BEq.comm | _ => rfl
  | .wstr _, y => by cases y with | wstr _ => exact BEq.comm | _ => rfl
  | .void, y => by cases y <;> rfl
  | .list a, y => by cases y with | list b => exact vseq_symm a b | _ => rfl
  | .record a, y => by cases y with | record b => exact vseq_symm a b | _ => rfl
  | .union _ a, y => by cases y with | union _ b => exact vseq_symm a b | _ => rfl
theorem vseq_symm : ∀ x y : Vals, vseq x y = vseq y x
  | .nil, .nil => rfl
  | .nil, .cons _ _ => rfl
  | .cons _ _, .nil => rfl
  | .cons a r, .cons b s => by rw [vseq, vseq, veq_symm a b, vseq_symm r s]
end

theorem zip_all_iff : ∀ (l1 l2 : List Val) (hlen : l1.length = l2.length),
    ((l1.zip l2).all (fun (x, y) => veq x y) = true) ↔
      ∀ i (h : i < l1.length), veq l1[i] (l2[i]'(hlen ▸ h)) = true
  | [], [], _ => by simp
  | [], _ :: _, h => by simp at h
  | _ :: _, [], h => by simp at h
  | a :: r, b :: s, h => by
    have ih := zip_all_iff r s (by simpa using h)
    simp only [List.zip_cons_cons, List.all_cons, Bool.and_eq_true, ih, List.length_cons]
    constructor
    · rintro ⟨h0, h1⟩ i hi
      cases i with
      | zero => exact h0
      | succ i => exact h1 i (by omega)
    · intro hh
      exact ⟨hh 0 (by omega), fun i hi => hh (i + 1) (by omega)⟩

theorem zip_all_refl : ∀ l : List Val, (l.zip l).all (fun (x, y) => veq x y) = true
  | [] => rfl
  | a :: r => by simp only [List.zip_cons_cons, List.all_cons, veq_refl a, zip_all_refl r, Bool.and_self]

theorem zip_all_symm : ∀ l1 l2 : List Val,
    (l1.zip l2).all (fun (x, y) => veq x y) = (l2.zip l1).all (fun (x, y) => veq x y)
  | [], [] => rfl
  | [], _ :: _ => rfl
  | _ :: _, [] => rfl
  | a :: r, b :: s => by
    simp only [List.zip_cons_cons, List.all_cons, veq_symm a b, zip_all_symm r s]

theorem setNth_eq_set : ∀ (l : List Val) (k : Nat) (v : Val), setNth l k v = l.set k v
  | [], _, _ => rfl
  | _ :: _, 0, _ => rfl
  | a :: r, k + 1, v => by simp only [setNth, List.set_cons_succ, setNth_eq_set r k v]

theorem fold_set_inst (f : Nat → Val) : ∀ (l : List Nat) (x : Inst),
    l.foldl (fun (x : Inst) i => x.set i (f i)) x =
      { cls := x.cls, names := x.names, vals := l.foldl (fun vs i => setNth vs i (f i)) x.vals }
  | [], x => rfl
  | i :: l, x => by
    simp only [List.foldl_cons]
    rw [fold_set_inst f l]
    rfl

theorem fold_kw_inst (names : List String) : ∀ (kw : List (String × Val)) (x : Inst),
    kw.foldl (fun (x : Inst) (kv : String × Val) =>
        match indexOf names kv.1 with | some i => x.set i kv.2 | none => x) x =
      { cls := x.cls, names := x.names,
        vals := kw.foldl (fun vs (k, v) => match indexOf names k with | some i => setNth vs i v | none => vs) x.vals }
  | [], x => rfl
  | (k, v) :: kw, x => by
    simp only [List.foldl_cons]
    rw [fold_kw_inst names kw]
    cases indexOf names k <;> rfl

theorem fold_set_length (f : Nat → Val) (d : List Val) : ∀ m,
    ((List.range m).foldl (fun vs i => setNth vs i (f i)) d).length = d.length := by
  intro m
  induction m with
  | zero => rfl
  | succ m ih =>
    rw [List.range_succ, List.foldl_append]
    simp only [List.foldl_cons, List.foldl_nil, setNth_eq_set, List.length_set]
    simpa only [setNth_eq_set] using ih

theorem fold_set_get (f : Nat → Val) (d : List Val) : ∀ m, m ≤ d.length → ∀ i,
    ((List.range m).foldl (fun vs i => setNth vs i (f i)) d)[i]? = if i < m then some (f i) else d[i]?
  | 0, _, i => by rw [if_neg (Nat.not_lt_zero i)]; rfl
  | m + 1, hm, i => by
    rw [List.range_succ, List.foldl_append, List.foldl_cons, List.foldl_nil, setNth_eq_set, List.getElem?_set,
      fold_set_length, fold_set_get f d m (Nat.le_of_succ_le hm)]
    by_cases h1 : m = i
    · subst h1
      rw [if_pos rfl, if_pos (show m < d.length from hm), if_pos (Nat.lt_succ_self _)]
    · rw [if_neg h1]
      by_cases h4 : i < m
      · rw [if_pos h4, if_pos (Nat.lt_succ_of_lt h4)]
      · rw [if_neg h4, if_neg (by omega)]

end Cstruct.C17.Lemmas
