/-
  The reader, one equation per branch (`read`, `readN`, `readFields`), `Except` plumbing, and the extension theorem
  `read_extend`.
-/
import Proofs.Spec.Core
namespace Cstruct.Core.Lemmas
open Cstruct Cstruct.Core

theorem bind_ok {ε α β} {x : Except ε α} {f : α → Except ε β} {b : β} (h : x.bind f = .ok b) :
    ∃ a, x = .ok a ∧ f a = .ok b := by
  cases x with
  | error e => simp [Except.bind] at h
  | ok a => exact ⟨a, rfl, h⟩

theorem bind_ok_iff {ε α β} {x : Except ε α} {f : α → Except ε β} {b : β} :
    x.bind f = .ok b ↔ ∃ a, x = .ok a ∧ f a = .ok b := by
  constructor
  · exact bind_ok
  · rintro ⟨a, rfl, h⟩; exact h

theorem ok_bind {ε α β} (a : α) (f : α → Except ε β) : (Except.ok a).bind f = f a := rfl

theorem bind_ok_fst {ε α β γ : Type} {x : Except ε (α × β)} {f : α → γ} {c : γ} {b : β}
    (h : (x.bind fun (a, b) => .ok (f a, b)) = .ok (c, b)) : ∃ a, x = .ok (a, b) ∧ c = f a := by
  obtain ⟨⟨a, b'⟩, h1, h2⟩ := bind_ok h
  cases h2
  exact ⟨a, h1, rfl⟩

theorem bind_ok_offs {x : Except Err (Option Nat × Nat × List (Option Nat))} {foff : Option Nat} {sz sa offs}
    (h : (x.bind fun (sz, sa, offs) => .ok (sz, sa, foff :: offs)) = .ok (sz, sa, offs)) :
    ∃ offs', x = .ok (sz, sa, offs') ∧ offs = foff :: offs' := by
  obtain ⟨⟨sz', sa', offs'⟩, h1, h2⟩ := bind_ok h
  cases h2
  exact ⟨offs', h1, rfl⟩

theorem map_ok {ε α β} {x : Except ε α} {f : α → β} {b : β} (h : x.map f = .ok b) :
    ∃ a, x = .ok a ∧ f a = b := by
  cases x with
  | error e => simp [Except.map] at h
  | ok a => simp [Except.map] at h; exact ⟨a, rfl, h⟩

/-! ### Unfolding the reader

  Each equation restates one branch of a reader with `Except.bind` and the helper definitions of this section in place
  of the nested `match`es of the model: the same case tree under other names. Where the discriminants are variables,
  `rfl` sees that only once smart unfolding no longer keeps it from opening a `match` that cannot be evaluated. -/

def wrapInt (f : Int → Val) : Except Err (Val × Nat) → Except Err (Val × Nat)
  | .ok (.int v, p) => .ok (f v, p)
  | .ok _ => .error .typeErr
  | .error e => .error e

/-- the position at which a field is read: seek to the layout offset if there is one, else pad in aligned mode -/
def fieldPos (cfg : Cfg) (al : Bool) (ty : Ty) (foff : Option Nat) (start pos : Nat) : Nat :=
  let offset1 := match foff with | some fo => start + fo | none => pos
  if al ∧ foff.isNone then offset1 + padNat offset1 (ty.alignment cfg) else offset1

def isBitW : Option Nat → Bool | some (_ + 1) => true | _ => false

/-- `BitBuffer.read`'s "load a new unit when exhausted or the storage type changes" -/
def loadUnit (cfg : Cfg) (ft : Scalar) (bb : BitBuf) (data : Bytes) (off : Nat) : Except Err (BitBuf × Nat) :=
  if bb.remaining = 0 ∨ bb.ty ≠ some ft then
    match ft.size with
    | none => .error .value
    | some fsz =>
      match readScalar cfg ft data off with
      | .error e => .error e
      | .ok (u, p) =>
        match unitInt cfg u with
        | some i => .ok ({ ty := some ft, buffer := i, remaining := fsz * 8 }, p)
        | none => .error .typeErr
  else .ok (bb, off)

def bitVal (ty : Ty) (v : Int) : Val := match ty with | .enum _ _ _ => .enum v | _ => .int v

section
set_option smartUnfolding false

theorem read_sc (cfg : Cfg) (s a ctx data pos) : read cfg (.sc s a) ctx data pos = readScalar cfg s data pos := by
  rw [read]

theorem read_enum (cfg : Cfg) (b a f ctx data pos) :
    read cfg (.enum b a f) ctx data pos = wrapInt .enum (readScalar cfg b data pos) := by
  rw [read]; rfl

theorem read_ptr (cfg : Cfg) (t ctx data pos) :
    read cfg (.ptr t) ctx data pos = wrapInt .ptr (readScalar cfg cfg.ptr data pos) := by
  rw [read]; rfl

theorem read_arr_fixed (cfg : Cfg) (e n ctx data pos) :
    read cfg (.arr e (.fixed n)) ctx data pos = readArray cfg e n ctx data pos := by
  rw [read]

theorem read_arr_null (cfg : Cfg) (e ctx data pos) :
    read cfg (.arr e .nullTerm) ctx data pos = read0 cfg e ctx data pos := by
  rw [read]

theorem read_arr_expr (cfg : Cfg) (e toks ctx data pos) :
    read cfg (.arr e (.expr toks)) ctx data pos =
      (evalLen cfg toks ctx).bind fun n => readArray cfg e n ctx data pos := by
  rw [read]; cases evalLen cfg toks ctx <;> rfl

theorem read_struct (cfg : Cfg) (al fs ctx data pos) :
    read cfg (.struct al fs) ctx data pos =
      (structLayout cfg al fs).bind fun (_, salign, offs) =>
        (readFields cfg al fs offs pos BitBuf.empty [] data pos).bind fun (vs, _, p) =>
          .ok (.record vs, if al then p + padNat p salign else p) := by
  rw [read]; rfl

theorem readMembers_nil (cfg : Cfg) (ctx buf) : readMembers cfg .nil ctx buf = .ok .nil := by
  rw [readMembers]

theorem readMembers_cons (cfg : Cfg) (name an ty bits rest ctx buf) :
    readMembers cfg (.cons name an ty bits rest) ctx buf =
      (read cfg ty ctx buf 0).bind fun (v, _) =>
        (readMembers cfg rest (ctx.set name v) buf).bind fun vs => .ok (.cons v vs) := by
  rw [readMembers]
  cases read cfg ty ctx buf 0 with
  | error e => rfl
  | ok r =>
    obtain ⟨v, p⟩ := r
    simp only [Except.bind]
    cases readMembers cfg rest (ctx.set name v) buf <;> rfl

theorem readN_zero (cfg : Cfg) (t ctx data pos) : readN cfg t 0 ctx data pos = .ok (.nil, pos) := by
  rw [readN]

theorem readN_succ (cfg : Cfg) (t n ctx data pos) :
    readN cfg t (n + 1) ctx data pos =
      (read cfg t ctx data pos).bind fun (v, p) =>
        (readN cfg t n ctx data p).bind fun (vs, p') => .ok (.cons v vs, p') := by
  rw [readN]; rfl

theorem readFields_nil (cfg : Cfg) (al offs start bb ctx data pos) :
    readFields cfg al .nil offs start bb ctx data pos = .ok (.nil, [], pos) := by
  rw [readFields.eq_def]

theorem readFields_cons_nobits (cfg : Cfg) (al name an ty bits rest offs start bb ctx data pos)
    (hb : isBitW bits = false) :
    readFields cfg al (.cons name an ty bits rest) offs start bb ctx data pos =
      (read cfg ty ctx data (fieldPos cfg al ty offs.head?.join start pos)).bind fun (v, p1) =>
        (readFields cfg al rest (offs.drop 1) start BitBuf.empty (ctx.set name v) data p1).bind fun (vs, szs, p') =>
          .ok (.cons v vs, (name, p1 - fieldPos cfg al ty offs.head?.join start pos) :: szs, p') := by
  rw [readFields.eq_def]
  rcases bits with _ | _ | b
  · cases offs <;> rfl
  · cases offs <;> rfl
  · cases hb

theorem readFields_cons_bits (cfg : Cfg) (al name an ty b rest offs start bb ctx data pos) :
    readFields cfg al (.cons name an ty (some (b + 1)) rest) offs start bb ctx data pos =
      match ty.bitBase with
      | none => .error .typeErr
      | some ft =>
        (loadUnit cfg ft bb data (fieldPos cfg al ty offs.head?.join start pos)).bind fun (bb1, p1) =>
          match bb1.take cfg.endian (b + 1) with
          | none => .error .value
          | some (v, bb2) =>
            (readFields cfg al rest (offs.drop 1) start bb2 (ctx.set name (bitVal ty v)) data p1).bind
              fun (vs, szs, p') => .ok (.cons (bitVal ty v) vs, szs, p') := by
  rw [readFields.eq_def]
  cases offs <;> rfl

end

theorem sread_append (d t : Bytes) (pos n : Nat) (h : (sread d pos n).length = n) :
    sread (d ++ t) pos n = sread d pos n := by
  unfold sread at *
  by_cases hp : pos ≤ d.length
  · rw [List.drop_append_of_le_length hp]
    have hn : n ≤ (d.drop pos).length := by
      rw [List.length_take] at h; omega
    rw [List.take_append_of_le_length hn]
  · have hd : d.drop pos = [] := List.drop_eq_nil_of_le (by omega)
    rw [hd] at h ⊢
    simp at h
    subst h
    simp

theorem sread_length (d : Bytes) (pos n : Nat) : (sread d pos n).length = min n (d.length - pos) := by
  unfold sread
  rw [List.length_take, List.length_drop]

theorem readExact_ok {d : Bytes} {pos n : Nat} {r} (h : readExact d pos n = .ok r) :
    (sread d pos n).length = n ∧ r = (sread d pos n, pos + n) := by
  unfold readExact at h
  simp only [] at h
  split at h
  · cases h
  · rename_i hl
    simp only [ne_eq, Decidable.not_not] at hl
    cases h; exact ⟨hl, rfl⟩

theorem readExact_of_len {d : Bytes} {pos n : Nat} (h : (sread d pos n).length = n) :
    readExact d pos n = .ok (sread d pos n, pos + n) := by
  unfold readExact
  simp [h]

theorem readExact_append {d : Bytes} {pos n : Nat} {r} (t : Bytes) (h : readExact d pos n = .ok r) :
    readExact (d ++ t) pos n = .ok r := by
  obtain ⟨hl, rfl⟩ := readExact_ok h
  have := sread_append d t pos n hl
  rw [← this] at hl ⊢
  exact readExact_of_len hl

theorem lebReadLoop_append (a t : Bytes) : ∀ (res sh : Nat) r, lebReadLoop a res sh = some r →
    lebReadLoop (a ++ t) res sh = some (r.1, r.2.1, r.2.2.1, r.2.2.2 ++ t) := by
  induction a with
  | nil => intro res sh r h; simp [lebReadLoop] at h
  | cons b a ih =>
    intro res sh r h
    simp only [List.cons_append, lebReadLoop] at h ⊢
    split at h
    · rename_i hc; simp only [hc, if_true]; cases h; rfl
    · rename_i hc; simp only [hc, if_false]; exact ih _ _ _ h

theorem lebReadLoop_length (a : Bytes) : ∀ (res sh : Nat) r, lebReadLoop a res sh = some r →
    r.2.2.2.length < a.length := by
  induction a with
  | nil => intro res sh r h; simp [lebReadLoop] at h
  | cons b a ih =>
    intro res sh r h
    simp only [lebReadLoop] at h
    split at h
    · cases h; simp
    · have := ih _ _ _ h; simp; omega

theorem lebRead_append (sg : Bool) (a t : Bytes) (v rest) (h : lebRead sg a = .ok (v, rest)) :
    lebRead sg (a ++ t) = .ok (v, rest ++ t) ∧ rest.length < a.length := by
  unfold lebRead at h ⊢
  cases hl : lebReadLoop a 0 0 with
  | none => rw [hl] at h; cases h
  | some r =>
    obtain ⟨res, sh, b, r'⟩ := r
    have hlen := lebReadLoop_length a 0 0 _ hl
    rw [lebReadLoop_append a t 0 0 _ hl]
    rw [hl] at h
    simp only [] at h ⊢
    split at h
    · rename_i hc; rw [if_pos hc]; cases h; exact ⟨rfl, hlen⟩
    · rename_i hc; rw [if_neg hc]; cases h; exact ⟨rfl, hlen⟩

theorem readScalar_append (cfg : Cfg) (s : Scalar) (d t : Bytes) (pos : Nat) (r) (h : readScalar cfg s d pos = .ok r) :
    readScalar cfg s (d ++ t) pos = .ok r := by
  cases s with
  | pint n sg | pflt n | aint n sg | char | wchar =>
    simp only [readScalar, bind, pure] at h ⊢
    obtain ⟨⟨bs, p⟩, h1, h2⟩ := bind_ok h
    rw [readExact_append t h1]; exact h2
  | void => exact h
  | leb sg =>
    simp only [readScalar] at h ⊢
    cases hl : lebRead sg (d.drop pos) with
    | error e => rw [hl] at h; cases h
    | ok vr =>
      obtain ⟨v, rest⟩ := vr
      rw [hl] at h
      simp only [] at h
      have hp : pos ≤ d.length := by
        apply Decidable.byContradiction
        intro hn
        have hd : d.drop pos = [] := List.drop_eq_nil_of_le (by omega)
        rw [hd] at hl
        simp [lebRead, lebReadLoop] at hl
      rw [List.drop_append_of_le_length hp]
      obtain ⟨h1, h2⟩ := lebRead_append sg _ t v rest hl
      rw [h1]
      simp only []
      cases h
      simp only [List.length_append, List.length_drop] at h2 ⊢
      congr 2
      omega

theorem ite_ok_congr {α : Type} {c : Prop} [Decidable c] {A B1 B2 r : α} (hB : B1 = r → B2 = r)
    (h : (if c then A else B1) = r) : (if c then A else B2) = r := by
  by_cases hc : c
  · rw [if_pos hc] at h ⊢; exact h
  · rw [if_neg hc] at h ⊢; exact hB h

theorem readScalarArray_append (cfg : Cfg) (s : Scalar) (n : Nat) (d t : Bytes) (pos : Nat) (x r)
    (hx : readScalarArray cfg s n d pos = some x) (h : x = .ok r) :
    readScalarArray cfg s n (d ++ t) pos = some (.ok r) := by
  subst h
  cases s with
  | pint k sg | pflt k =>
    simp only [readScalarArray, bind, pure, Option.some.injEq] at hx ⊢
    obtain ⟨⟨bs, p⟩, h1, h2⟩ := bind_ok hx
    rw [readExact_append t h1]; exact h2
  | char | wchar =>
    simp only [readScalarArray, bind, pure, Option.some.injEq] at hx ⊢
    split at hx
    · rename_i hc; rw [if_pos hc]; exact hx
    · rename_i hc; rw [if_neg hc]
      obtain ⟨⟨bs, p⟩, h1, h2⟩ := bind_ok hx
      rw [readExact_append t h1]; exact h2
  | aint k sg | leb sg | void => simp [readScalarArray] at hx

theorem readScalarArray_none_append (cfg : Cfg) (s : Scalar) (n : Nat) (d d' : Bytes) (pos : Nat)
    (hx : readScalarArray cfg s n d pos = none) : readScalarArray cfg s n d' pos = none := by
  cases s <;> simp [readScalarArray] at hx ⊢

theorem readScalar0_append (cfg : Cfg) (s : Scalar) (d t : Bytes) :
    ∀ (f f' pos : Nat) (acc r), f ≤ f' → readScalar0 cfg s d f pos acc = .ok r →
      readScalar0 cfg s (d ++ t) f' pos acc = .ok r := by
  intro f
  induction f with
  | zero => intro f' pos acc r _ h; simp [readScalar0] at h
  | succ f ih =>
    intro f' pos acc r hf h
    obtain ⟨f'', rfl⟩ : ∃ f'', f' = f'' + 1 := ⟨f' - 1, by omega⟩
    have hf' : f ≤ f'' := by omega
    cases s with
    | void => simp only [readScalar0] at h ⊢; exact h
    | char | wchar =>
      simp only [readScalar0] at h ⊢
      cases h1 : readExact d pos _ with
      | error e => rw [h1] at h; cases h
      | ok bp =>
        obtain ⟨bs, p⟩ := bp
        rw [h1] at h; rw [readExact_append t h1]
        exact ite_ok_congr (ih _ _ _ _ hf') h
    | pint k sg | pflt k | aint k sg | leb sg =>
      simp only [readScalar0] at h ⊢
      cases h1 : readScalar cfg _ d pos with
      | error e => rw [h1] at h; cases h
      | ok bp =>
        obtain ⟨v, p⟩ := bp
        rw [h1] at h; rw [readScalar_append cfg _ d t pos _ h1]
        exact ite_ok_congr (ih _ _ _ _ hf') h

theorem readScalarNullTerm_append (cfg : Cfg) (s : Scalar) (d t : Bytes) (pos : Nat) (r)
    (h : readScalarNullTerm cfg s d pos = .ok r) : readScalarNullTerm cfg s (d ++ t) pos = .ok r := by
  unfold readScalarNullTerm at h ⊢
  cases h1 : readScalar0 cfg s d (d.length - pos + 2) pos [] with
  | error e => rw [h1] at h; cases h
  | ok vp =>
    rw [h1] at h
    rw [readScalar0_append cfg s d t _ ((d ++ t).length - pos + 2) pos [] vp (by simp; omega) h1]
    exact h


/-- "a successful read of `e` on `d1` is the same on `d2`" -/
def ReadLe (cfg : Cfg) (e : Ty) (d1 d2 : Bytes) : Prop :=
  ∀ ctx pos r, read cfg e ctx d1 pos = .ok r → read cfg e ctx d2 pos = .ok r

theorem readLe_sc (cfg : Cfg) (s a) (d t : Bytes) : ReadLe cfg (.sc s a) d (d ++ t) := by
  intro ctx pos r h
  rw [read_sc] at h ⊢
  exact readScalar_append cfg s d t pos r h

theorem wrapInt_ok {f : Int → Val} {x : Except Err (Val × Nat)} {r} (h : wrapInt f x = .ok r) :
    ∃ v p, x = .ok (.int v, p) ∧ r = (f v, p) := by
  unfold wrapInt at h
  split at h
  · cases h; exact ⟨_, _, rfl, rfl⟩
  · cases h
  · cases h

theorem readLe_enum (cfg : Cfg) (b a f) (d t : Bytes) : ReadLe cfg (.enum b a f) d (d ++ t) := by
  intro ctx pos r h
  rw [read_enum] at h ⊢
  obtain ⟨v, p, h1, rfl⟩ := wrapInt_ok h
  rw [readScalar_append cfg b d t pos _ h1]; rfl

theorem readLe_ptr (cfg : Cfg) (ty) (d t : Bytes) : ReadLe cfg (.ptr ty) d (d ++ t) := by
  intro ctx pos r h
  rw [read_ptr] at h ⊢
  obtain ⟨v, p, h1, rfl⟩ := wrapInt_ok h
  rw [readScalar_append cfg _ d t pos _ h1]; rfl

theorem readN_le (cfg : Cfg) (e : Ty) (d1 d2 : Bytes) (hR : ReadLe cfg e d1 d2) :
    ∀ n ctx pos r, readN cfg e n ctx d1 pos = .ok r → readN cfg e n ctx d2 pos = .ok r := by
  intro n
  induction n with
  | zero => intro ctx pos r h; rw [readN_zero] at h ⊢; exact h
  | succ n ih =>
    intro ctx pos r h
    rw [readN_succ] at h ⊢
    obtain ⟨⟨v, p⟩, h1, h2⟩ := bind_ok h
    obtain ⟨⟨vs, p'⟩, h3, h4⟩ := bind_ok h2
    rw [hR _ _ _ h1]
    simp only [Except.bind]
    rw [ih _ _ _ h3]
    exact h4

theorem readArray_le (cfg : Cfg) (e : Ty) (d t : Bytes) (hR : ReadLe cfg e d (d ++ t)) :
    ∀ n ctx pos r, readArray cfg e n ctx d pos = .ok r → readArray cfg e n ctx (d ++ t) pos = .ok r := by
  intro n ctx pos r h
  cases e with
  | sc s a =>
    rw [readArray.eq_1] at h ⊢
    cases hx : readScalarArray cfg s n d pos with
    | some x =>
      rw [hx] at h; simp only [] at h
      rw [readScalarArray_append cfg s n d t pos x r hx h]
    | none =>
      rw [hx] at h; simp only [] at h
      rw [readScalarArray_none_append cfg s n d (d ++ t) pos hx]
      simp only []
      obtain ⟨⟨vs, p⟩, h1, h2⟩ := map_ok h
      rw [readN_le cfg _ d (d ++ t) hR _ _ _ _ h1]
      simp only [Except.map]; rw [← h2]
  | enum b a f =>
    rw [readArray.eq_2] at h ⊢
    cases hx : readScalarArray cfg b n d pos with
    | some x =>
      rw [hx] at h
      cases x with
      | error e => simp only [] at h; cases h
      | ok x =>
        rw [readScalarArray_append cfg b n d t pos _ x hx rfl]
        obtain ⟨xv, xp⟩ := x
        cases xv <;> exact h
    | none =>
      rw [hx] at h; simp only [] at h
      rw [readScalarArray_none_append cfg b n d (d ++ t) pos hx]
      simp only []
      cases h1 : readN cfg (.sc b a) n ctx d pos with
      | error e => rw [h1] at h; cases h
      | ok x =>
        rw [h1] at h
        rw [readN_le cfg _ d (d ++ t) (readLe_sc cfg b a d t) _ _ _ _ h1]
        exact h
  | ptr ty | arr e' len | struct al fs | union al fs =>
    rw [readArray.eq_3 _ _ _ _ _ _ (by intros; contradiction) (by intros; contradiction)] at h ⊢
    obtain ⟨⟨vs, p⟩, h1, h2⟩ := map_ok h
    rw [readN_le cfg _ d (d ++ t) hR _ _ _ _ h1]
    simp only [Except.map]; rw [← h2]

theorem read0_le (cfg : Cfg) (e : Ty) (d t : Bytes)
    (hp : (Ty.arr e .nullTerm).plain = true) :
    ∀ ctx pos r, read0 cfg e ctx d pos = .ok r → read0 cfg e ctx (d ++ t) pos = .ok r := by
  intro ctx pos r h
  cases e with
  | sc s a =>
    rw [read0.eq_1] at h ⊢
    exact readScalarNullTerm_append cfg s d t pos r h
  | enum b a f =>
    rw [read0.eq_2] at h ⊢
    cases h1 : readScalarNullTerm cfg b d pos with
    | error e => rw [h1] at h; cases h
    | ok x =>
      rw [h1] at h
      rw [readScalarNullTerm_append cfg b d t pos x h1]
      exact h
  | ptr ty | arr e' len | struct al fs | union al fs => simp [Ty.plain] at hp

theorem loadUnit_append (cfg : Cfg) (ft bb) (d t : Bytes) (off r) (h : loadUnit cfg ft bb d off = .ok r) :
    loadUnit cfg ft bb (d ++ t) off = .ok r := by
  unfold loadUnit at h ⊢
  split at h
  · rename_i hc; rw [if_pos hc]
    cases hs : ft.size with
    | none => rw [hs] at h; cases h
    | some fsz =>
      rw [hs] at h; simp only [] at h ⊢
      cases h1 : readScalar cfg ft d off with
      | error e => rw [h1] at h; cases h
      | ok x =>
        rw [h1] at h
        rw [readScalar_append cfg ft d t off x h1]
        exact h
  · rename_i hc; rw [if_neg hc]; exact h

mutual
theorem ext_read (cfg : Cfg) (d t : Bytes) : ∀ (ty : Ty), ty.plain = true → ReadLe cfg ty d (d ++ t)
  | .sc s a, _ => readLe_sc cfg s a d t
  | .enum b a f, _ => readLe_enum cfg b a f d t
  | .ptr ty, _ => readLe_ptr cfg ty d t
  | .arr e len, hp => by
    have hpe : e.plain = true := by
      simp only [Ty.plain, Bool.and_eq_true] at hp; exact hp.2
    have ih := ext_read cfg d t e hpe
    intro ctx pos r h
    cases len with
    | fixed n =>
      rw [read_arr_fixed] at h ⊢
      exact readArray_le cfg e d t ih n ctx pos r h
    | expr toks =>
      rw [read_arr_expr] at h ⊢
      obtain ⟨n, h1, h2⟩ := bind_ok h
      rw [h1]; simp only [Except.bind]
      exact readArray_le cfg e d t ih n ctx pos r h2
    | nullTerm =>
      rw [read_arr_null] at h ⊢
      exact read0_le cfg e d t hp ctx pos r h
    | eof => simp [Ty.plain] at hp
  | .struct al fs, hp => by
    intro ctx pos r h
    rw [read_struct] at h ⊢
    obtain ⟨⟨sz, salign, offs⟩, h1, h2⟩ := bind_ok h
    obtain ⟨⟨vs, szs, p⟩, h3, h4⟩ := bind_ok h2
    rw [h1]; simp only [Except.bind]
    have hpf : Fields.plain fs = true := by simpa [Ty.plain] using hp
    rw [ext_fields cfg d t fs hpf al offs pos BitBuf.empty [] pos _ h3]
    exact h4
  | .union al fs, hp => by simp [Ty.plain] at hp
theorem ext_fields (cfg : Cfg) (d t : Bytes) : ∀ (fs : Fields), Fields.plain fs = true →
    ∀ al offs start bb ctx pos r, readFields cfg al fs offs start bb ctx d pos = .ok r →
      readFields cfg al fs offs start bb ctx (d ++ t) pos = .ok r
  | .nil, _ => by
    intro al offs start bb ctx pos r h
    rw [readFields_nil] at h ⊢; exact h
  | .cons name an ty bits rest, hp => by
    intro al offs start bb ctx pos r h
    simp only [Fields.plain, Bool.and_eq_true] at hp
    have ih1 := ext_read cfg d t ty hp.1
    have ih2 := ext_fields cfg d t rest hp.2
    cases hb : isBitW bits with
    | false =>
      rw [readFields_cons_nobits _ _ _ _ _ _ _ _ _ _ _ _ _ hb] at h ⊢
      obtain ⟨⟨v, p1⟩, h1, h2⟩ := bind_ok h
      obtain ⟨⟨vs, szs, p'⟩, h3, h4⟩ := bind_ok h2
      rw [ih1 _ _ _ h1]; simp only [Except.bind]
      rw [ih2 _ _ _ _ _ _ _ h3]; exact h4
    | true =>
      obtain ⟨b, rfl⟩ : ∃ b, bits = some (b + 1) := by
        cases bits with
        | none => simp [isBitW] at hb
        | some b => cases b with
          | zero => simp [isBitW] at hb
          | succ b => exact ⟨b, rfl⟩
      rw [readFields_cons_bits] at h ⊢
      cases hbb : ty.bitBase with
      | none => rw [hbb] at h; cases h
      | some ft =>
        rw [hbb] at h; simp only [] at h ⊢
        obtain ⟨⟨bb1, p1⟩, h1, h2⟩ := bind_ok h
        rw [loadUnit_append cfg ft bb d t _ _ h1]; simp only [Except.bind]
        cases htk : bb1.take cfg.endian (b + 1) with
        | none => simp only [htk] at h2; cases h2
        | some vb =>
          obtain ⟨v, bb2⟩ := vb
          simp only [htk] at h2 ⊢
          obtain ⟨⟨vs, szs, p'⟩, h3, h4⟩ := bind_ok h2
          rw [ih2 _ _ _ _ _ _ _ h3]; exact h4
end

/-- **Extension theorem**: a successful parse of a plain type is unchanged when bytes are appended to the input. -/
theorem read_extend (cfg : Cfg) (ty : Ty) (hplain : ty.plain = true) (ctx : Ctx) (d1 : Bytes) (pos : Nat) (v : Val) (p : Nat)
    (hr : read cfg ty ctx d1 pos = .ok (v, p)) (d2 : Bytes) (hpre : d1 <+: d2) :
    read cfg ty ctx d2 pos = .ok (v, p) := by
  obtain ⟨t, rfl⟩ := hpre
  exact ext_read cfg d1 t ty hplain ctx pos _ hr

end Cstruct.Core.Lemmas
