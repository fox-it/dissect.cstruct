/-
  C20 — helper lemmas for the stub generator theorems: which lines a stub has at which level (for the declared
  names and the field annotations), the block invariant `Good`, the names the lines bind.
-/
import Proofs.Spec.C20

namespace Cstruct.Stubgen

def shift (l : ILine) : ILine := { l with indent := l.indent + 1 }

abbrev nb (ls : List ILine) : List ILine := ls.filter (fun l => l.line ≠ .blank)

theorem nb_append (a b : List ILine) : nb (a ++ b) = nb a ++ nb b := List.filter_append ..

theorem nb_indent1 (ls : List ILine) : nb (indent1 ls) = (nb ls).map shift := by
  induction ls with
  | nil => rfl
  | cons l r ih =>
    simp only [indent1, nb] at ih ⊢
    by_cases hl : l.line = .blank
    · simpa [hl] using ih
    · simpa [hl, shift] using ih

theorem mem_indent1 {l : ILine} {ls : List ILine} (h : l ∈ indent1 ls) :
    ∃ l0 ∈ ls, l.line = l0.line ∧ (l.line = .blank ∨ l.indent = l0.indent + 1) := by
  simp only [indent1, List.mem_map] at h
  obtain ⟨l0, hm, rfl⟩ := h
  refine ⟨l0, hm, ?_⟩
  by_cases hl : l0.line = .blank <;> simp [hl]

/-- a (possibly empty) run of non-blank lines that forms complete blocks at level `k` -/
def Good (k : Nat) (ls : List ILine) : Prop :=
  (∀ a, ls.head? = some a → a.indent = k) ∧ (∀ a ∈ ls, k ≤ a.indent) ∧ chainOK ls ∧
    (∀ a, ls.getLast? = some a → a.line.isClassHdr = false)

theorem chainOK_append : ∀ (A B : List ILine), chainOK A → chainOK B →
    (∀ a b, A.getLast? = some a → B.head? = some b → stepOK a b) → chainOK (A ++ B)
  | [], B, _, hB, _ => by simpa using hB
  | [a], B, _, hB, h => by
    cases B with
    | nil => simp [chainOK]
    | cons b r => exact ⟨h a b rfl rfl, hB⟩
  | a :: a' :: r, B, hA, hB, h => by
    refine ⟨hA.1, chainOK_append (a' :: r) B hA.2 hB ?_⟩
    intro x y hx hy
    exact h x y (by simpa [List.getLast?_cons_cons] using hx) hy

theorem good_nil (k : Nat) : Good k [] := by simp [Good, chainOK]

theorem good_single (k : Nat) (l : Line) (h : l.isClassHdr = false) : Good k [⟨k, l⟩] := by
  simp [Good, chainOK, h]

theorem good_append {k : Nat} {A B : List ILine} (hA : Good k A) (hB : Good k B) : Good k (A ++ B) := by
  cases A with
  | nil => simpa using hB
  | cons a A' =>
  cases B with
  | nil => simpa using hA
  | cons b B' =>
    obtain ⟨a1, a2, a3, a4⟩ := hA
    obtain ⟨b1, b2, b3, b4⟩ := hB
    refine ⟨?_, ?_, ?_, ?_⟩
    · intro x hx; exact a1 x (by simpa using hx)
    · intro x hx
      rcases List.mem_append.1 hx with h | h
      · exact a2 x h
      · exact b2 x h
    · apply chainOK_append _ _ a3 b3
      intro x y hx hy
      have hx1 := a4 x hx
      have hx2 := a2 x (List.mem_of_getLast? hx)
      have hy1 := b1 y hy
      -- the join: `A` ends in a line that is no header, at level `≥ k`; `B` starts at level `k`
      show (if x.line.isClassHdr = true then _ else y.indent ≤ x.indent)
      rw [hx1, if_neg Bool.false_ne_true, hy1]
      exact hx2
    · intro x hx
      apply b4 x
      rw [List.getLast?_append] at hx
      cases h : (b :: B').getLast? with
      | none => simp at h
      | some y => simpa [h] using hx

theorem good_hdr {k : Nat} {B : List ILine} (n b : String) (hB : Good (k + 1) B) (hne : B ≠ []) :
    Good k (⟨k, .classHdr n b⟩ :: B) := by
  cases B with
  | nil => exact absurd rfl hne
  | cons x B' =>
    obtain ⟨b1, b2, b3, b4⟩ := hB
    refine ⟨?_, ?_, ?_, ?_⟩
    · intro a ha; simp at ha; subst ha; rfl
    · intro a ha
      rcases List.mem_cons.1 ha with rfl | h
      · exact Nat.le_refl _
      · have := b2 a h; omega
    · refine ⟨?_, b3⟩
      have := b1 x rfl
      simp [stepOK, Line.isClassHdr, this]
    · intro a ha
      apply b4 a
      simpa [List.getLast?_cons_cons] using ha

theorem stepOK_shift (a b : ILine) : stepOK (shift a) (shift b) ↔ stepOK a b := by
  cases h : a.line.isClassHdr <;> simp [stepOK, shift, h]

theorem chainOK_shift : ∀ (A : List ILine), chainOK A → chainOK (A.map shift)
  | [], _ => by simp [chainOK]
  | [a], _ => by simp [chainOK]
  | a :: b :: r, h => ⟨(stepOK_shift a b).2 h.1, chainOK_shift (b :: r) h.2⟩

theorem good_shift {k : Nat} {A : List ILine} (hA : Good k A) : Good (k + 1) (A.map shift) := by
  obtain ⟨a1, a2, a3, a4⟩ := hA
  refine ⟨?_, ?_, chainOK_shift A a3, ?_⟩
  · intro a ha
    simp only [List.head?_map, Option.map_eq_some_iff] at ha
    obtain ⟨x, hx, rfl⟩ := ha
    simp [shift, a1 x hx]
  · intro a ha
    simp only [List.mem_map] at ha
    obtain ⟨x, hx, rfl⟩ := ha
    have := a2 x hx
    simp [shift]; omega
  · intro a ha
    simp only [List.getLast?_map, Option.map_eq_some_iff] at ha
    obtain ⟨x, hx, rfl⟩ := ha
    simpa [shift] using a4 x hx

theorem good_flat {k : Nat} : ∀ (ls : List ILine), (∀ a ∈ ls, a.indent = k ∧ a.line.isClassHdr = false) → Good k ls
  | [], _ => good_nil k
  | a :: r, h => by
    have ha := h a (List.mem_cons_self ..)
    have : Good k ([a] ++ r) := by
      apply good_append
      · obtain ⟨i, l⟩ := a
        simp only at ha
        rw [ha.1]; exact good_single k l ha.2
      · exact good_flat r (fun x hx => h x (List.mem_cons_of_mem _ hx))
    simpa using this

/-- the four `__init__` lines and the trailing blank line of a structure stub -/
def initLines (args : List (String × Hint)) : List ILine :=
  [⟨1, .overload⟩, ⟨1, .initFields args⟩, ⟨1, .overload⟩, ⟨1, .initFh⟩, ⟨0, .blank⟩]

theorem inlineStub_struct (keys : List String) (cp mp n b : String) (fs : SFields) :
    (STy.struct n b fs).inlineStub keys cp mp =
      ⟨0, .classHdr n (mp ++ b)⟩ :: (fs.body keys cp mp ++ initLines (fs.args keys cp mp)) := by
  rw [STy.inlineStub]; rfl

theorem inlineStub_arr (keys : List String) (cp mp n : String) (t : STy) :
    (STy.arr n t).inlineStub keys cp mp = t.inlineStub keys cp mp := by
  rw [STy.inlineStub]

theorem body_nil (keys : List String) (cp mp : String) : SFields.nil.body keys cp mp = [] := by
  rw [SFields.body]

theorem body_cons (keys : List String) (cp mp f : String) (t : STy) (rest : SFields) :
    (SFields.cons f t rest).body keys cp mp =
      (if inlined keys t then indent1 (t.inlineStub keys cp mp) else []) ++
        ⟨1, .field f (fieldHint keys cp mp t)⟩ :: rest.body keys cp mp := by
  rw [SFields.body]

theorem nb_tail4 (args : List (String × Hint)) :
    nb (initLines args) = [⟨1, .overload⟩, ⟨1, .initFields args⟩, ⟨1, .overload⟩, ⟨1, .initFh⟩] := by
  simp [nb, initLines]

theorem good_tail4 (args : List (String × Hint)) : Good 1 (nb (initLines args)) := by
  rw [nb_tail4]
  apply good_flat
  simp [Line.isClassHdr]

mutual
theorem inlineStub_good (keys : List String) (cp mp : String) : ∀ t : STy, Good 0 (nb (t.inlineStub keys cp mp))
  | .arr n t => by rw [inlineStub_arr]; exact inlineStub_good keys cp mp t
  | .struct n b fs => by
    rw [inlineStub_struct]
    have h1 := body_good keys cp mp fs
    have h2 := good_tail4 (fs.args keys cp mp)
    have h3 : nb (initLines (fs.args keys cp mp)) ≠ [] := by rw [nb_tail4]; simp
    have : nb (⟨0, .classHdr n (mp ++ b)⟩ :: (fs.body keys cp mp ++ initLines (fs.args keys cp mp))) =
        ⟨0, .classHdr n (mp ++ b)⟩ :: (nb (fs.body keys cp mp) ++ nb (initLines (fs.args keys cp mp))) := by
      simp [nb]
    rw [this]
    exact good_hdr _ _ (good_append h1 h2) (by simp [h3])
  | .leaf _ => by simp only [STy.inlineStub]; exact good_nil 0
  | .charArr _ => by simp only [STy.inlineStub]; exact good_nil 0
  | .wcharArr _ => by simp only [STy.inlineStub]; exact good_nil 0
  | .ptr _ _ => by simp only [STy.inlineStub]; exact good_nil 0
theorem body_good (keys : List String) (cp mp : String) : ∀ fs : SFields, Good 1 (nb (fs.body keys cp mp))
  | .nil => by rw [body_nil]; exact good_nil 1
  | .cons f t rest => by
    rw [body_cons, nb_append]
    apply good_append
    · split
      · rw [nb_indent1]; exact good_shift (inlineStub_good keys cp mp t)
      · exact good_nil 1
    · have : nb (⟨1, .field f (fieldHint keys cp mp t)⟩ :: rest.body keys cp mp) =
          [⟨1, .field f (fieldHint keys cp mp t)⟩] ++ nb (rest.body keys cp mp) := by simp [nb]
      rw [this]
      exact good_append (good_single 1 _ rfl) (body_good keys cp mp rest)
end

/-- the possible results of one loop iteration -/
inductive EntryShape (inp : Input) (keys defined : List String) (key : String) (td : TDef) : List ILine → Prop
  | aliasName (tgt : String) : declName defined key td = key → EntryShape inp keys defined key td [⟨0, .aliasName key tgt⟩]
  | aliasHint (h : Hint) : declName defined key td = key → EntryShape inp keys defined key td [⟨0, .aliasHint key h⟩]
  | enum (n b : String) (ms : List String) : td = .enum n b ms → declName defined key td = n →
      EntryShape inp keys defined key td (enumStub inp.modPrefix n b ms)
  | struct (n b : String) (fs : SFields) : td = .ty (.struct n b fs) → declName defined key td = n →
      EntryShape inp keys defined key td (structStub keys (inp.clsName ++ ".") inp.modPrefix n b fs)
  | generic (n b : String) : n ∈ td.names → declName defined key td = n →
      EntryShape inp keys defined key td (genericStub inp.modPrefix n b)

theorem entryStub_shape {inp : Input} {keys defined : List String} {key : String} {td : TDef} {stub : List ILine}
    (h : entryStub inp keys defined key td = .ok stub) : EntryShape inp keys defined key td stub := by
  unfold entryStub at h
  cases hn : td.name? with
  | none => rw [hn] at h; cases h
  | some n =>
    rw [hn] at h
    dsimp only at h
    -- `declName` makes the same three tests as the generator
    have hdn : declName defined key td =
        if (builtinKeys.contains n || isPtrOrArr td || defined.contains n) = true then key else n := by
      unfold declName; rw [hn]
    split at h
    · next hb => cases h; exact .aliasName _ (by rw [hdn, hb]; rfl)
    split at h
    · next hp => split at h <;> cases h; exact .aliasHint _ (by rw [hdn, hp, Bool.or_true]; rfl)
    split at h
    · next hd => cases h; exact .aliasName _ (by rw [hdn, hd, Bool.or_true]; rfl)
    · next hb hp hd =>
      rw [Bool.not_eq_true] at hb hp hd
      rw [hb, hp, hd] at hdn
      split at h <;> cases h <;> cases hn
      · exact .enum _ _ _ rfl hdn
      · exact .struct _ _ _ rfl hdn
      · exact .generic _ _ (List.mem_cons_self ..) hdn
      · exact .generic _ "" (List.mem_cons_self ..) hdn

theorem typedefLoop_ind (inp : Input) (keys : List String)
    (R : List (String × TDef) → List String → List ILine → Prop)
    (hnil : ∀ d, R [] d [])
    (hskip : ∀ key td rest d res, builtinKeys.contains key = true → R rest d res → R ((key, td) :: rest) d res)
    (hstep : ∀ key td rest d stub more, builtinKeys.contains key = false →
      entryStub inp keys d key td = .ok stub → R rest ((td.name?).getD "" :: d) more →
      R ((key, td) :: rest) d (indent1 stub ++ more)) :
    ∀ tds d res, typedefLoop inp keys tds d = .ok res → R tds d res
  | [], d, res, h => by
    rw [typedefLoop] at h
    cases h
    exact hnil d
  | (key, td) :: rest, d, res, h => by
    rw [typedefLoop] at h
    split at h
    · next hb => exact hskip key td rest d res hb (typedefLoop_ind inp keys R hnil hskip hstep rest d res h)
    · next hb =>
      cases h1 : entryStub inp keys d key td with
      | error e => simp [h1, bind, Except.bind] at h
      | ok stub =>
        cases h2 : typedefLoop inp keys rest ((td.name?).getD "" :: d) with
        | error e => simp [h1, h2, bind, Except.bind] at h
        | ok more =>
          simp [h1, h2, bind, Except.bind, pure, Except.pure] at h
          subst h
          exact hstep key td rest d stub more (by simpa using hb) h1
            (typedefLoop_ind inp keys R hnil hskip hstep rest _ more h2)

def Deep (l : ILine) : Prop := l.line = .blank ∨ 1 ≤ l.indent

/-- what the spec-side projections do: select from the lines at level 1 -/
def pick {α : Type} (g : Line → Option α) (ls : List ILine) : List α :=
  ls.filterMap fun l => if l.indent = 1 then g l.line else none

theorem declaredTop_eq_pick (ls : List ILine) : declaredTop ls = pick Line.topName? ls := rfl

def gField : Line → Option (String × Hint)
  | .field n h => some (n, h)
  | _ => none
def gInit : Line → Option (List (String × Hint))
  | .initFields a => some a
  | _ => none

theorem fieldDecls_eq_pick (ls : List ILine) : fieldDecls ls = pick gField ls := by
  unfold fieldDecls pick
  congr 1

theorem initArgs_eq_pick (ls : List ILine) : initArgs ls = pick gInit ls := by
  unfold initArgs pick
  congr 1

theorem pick_append {α : Type} (g : Line → Option α) (a b : List ILine) : pick g (a ++ b) = pick g a ++ pick g b :=
  List.filterMap_append ..

theorem pick_cons {α : Type} (g : Line → Option α) (l : ILine) (r : List ILine) :
    pick g (l :: r) = pick g [l] ++ pick g r := pick_append g [l] r

theorem pick_one {α : Type} (g : Line → Option α) (x : Line) : pick g [⟨1, x⟩] = (g x).toList := by
  cases h : g x <;> simp [pick, h]

theorem pick_indent1_deep {α : Type} (g : Line → Option α) (hg : g .blank = none) :
    ∀ (ls : List ILine), (∀ l ∈ ls, Deep l) → pick g (indent1 ls) = []
  | [], _ => rfl
  | l :: r, h => by
    have ih := pick_indent1_deep g hg r (fun x hx => h x (List.mem_cons_of_mem _ hx))
    have hl := h l (List.mem_cons_self ..)
    simp only [indent1, pick, List.map_cons] at ih ⊢
    rw [List.filterMap_cons, ih]
    by_cases hb : l.line = .blank
    · simp [hb, hg]
    · have : 1 ≤ l.indent := by rcases hl with h | h; exact absurd h hb; exact h
      have : ¬ (l.indent = 0) := by omega
      simp [hb, this]

/-- a header line at level 0 followed by deeper lines: after `indent1` only the header is at level 1 -/
theorem pick_indent1_hdr {α : Type} (g : Line → Option α) (hg : g .blank = none) (x : Line) (hx : x ≠ .blank)
    (rest : List ILine) (hr : ∀ l ∈ rest, Deep l) : pick g (indent1 (⟨0, x⟩ :: rest)) = (g x).toList := by
  have h1 : indent1 (⟨0, x⟩ :: rest) = [⟨1, x⟩] ++ indent1 rest := by simp [indent1, hx]
  rw [h1, pick_append, pick_indent1_deep g hg rest hr, pick_one, List.append_nil]

theorem indent1_deep (ls : List ILine) : ∀ l ∈ indent1 ls, Deep l := by
  intro l hl
  obtain ⟨l0, _, _, h⟩ := mem_indent1 hl
  rcases h with h | h
  · exact .inl h
  · exact .inr (by omega)

theorem tail4_deep (args : List (String × Hint)) : ∀ l ∈ initLines args, Deep l := by
  simp [initLines, Deep]

theorem body_deep (keys : List String) (cp mp : String) : ∀ (fs : SFields), ∀ l ∈ fs.body keys cp mp, Deep l
  | .nil => by simp [body_nil]
  | .cons f t rest => by
    intro l hl
    rw [body_cons] at hl
    rcases List.mem_append.1 hl with h | h
    · split at h
      · exact indent1_deep _ l h
      · simp at h
    · rcases List.mem_cons.1 h with rfl | h
      · exact .inr (Nat.le_refl 1)
      · exact body_deep keys cp mp rest l h

theorem inlineStub_shape (keys : List String) (cp mp : String) : ∀ (t : STy),
    t.inlineStub keys cp mp = [] ∨
      ∃ n b rest, t.inlineStub keys cp mp = ⟨0, .classHdr n b⟩ :: rest ∧ ∀ l ∈ rest, Deep l
  | .arr n t => by rw [inlineStub_arr]; exact inlineStub_shape keys cp mp t
  | .struct n b fs => by
    right
    refine ⟨n, mp ++ b, _, inlineStub_struct keys cp mp n b fs, ?_⟩
    intro l hl
    rcases List.mem_append.1 hl with h | h
    · exact body_deep keys cp mp fs l h
    · exact tail4_deep _ l h
  | .leaf _ => by simp [STy.inlineStub]
  | .charArr _ => by simp [STy.inlineStub]
  | .wcharArr _ => by simp [STy.inlineStub]
  | .ptr _ _ => by simp [STy.inlineStub]

theorem pick_indent1_inlineStub {α : Type} (g : Line → Option α) (hg : g .blank = none)
    (hh : ∀ n b, g (.classHdr n b) = none) (keys : List String) (cp mp : String) (t : STy) :
    pick g (indent1 (t.inlineStub keys cp mp)) = [] := by
  rcases inlineStub_shape keys cp mp t with h | ⟨n, b, rest, h, hr⟩
  · rw [h]; rfl
  · rw [h, pick_indent1_hdr g hg _ (by simp) rest hr, hh]; rfl

/-- an inline stub contributes nothing at level 1: its header is one level deeper after `indent1`, the rest deeper still -/
theorem pick_body {α : Type} (g : Line → Option α) (hg : g .blank = none) (hh : ∀ n b, g (.classHdr n b) = none)
    (keys : List String) (cp mp : String) :
    ∀ fs : SFields, pick g (fs.body keys cp mp) = (fs.args keys cp mp).filterMap fun a => g (.field a.1 a.2)
  | .nil => by rw [body_nil]; rfl
  | .cons f t rest => by
    rw [body_cons, pick_append, pick_cons, pick_body g hg hh keys cp mp rest]
    have : pick g (if inlined keys t then indent1 (t.inlineStub keys cp mp) else []) = [] := by
      split
      · exact pick_indent1_inlineStub g hg hh keys cp mp t
      · rfl
    rw [this, pick_one, SFields.args, List.filterMap_cons]
    cases g (.field f (fieldHint keys cp mp t)) <;> rfl

theorem pick_structStub {α : Type} (g : Line → Option α) (keys : List String) (cp mp n b : String) (fs : SFields) :
    pick g (structStub keys cp mp n b fs) = pick g (fs.body keys cp mp) ++ pick g (initLines (fs.args keys cp mp)) := by
  rw [structStub, inlineStub_struct]
  exact pick_append g _ _

theorem fieldDecls_structStub (keys : List String) (cp mp n b : String) (fs : SFields) :
    fieldDecls (structStub keys cp mp n b fs) = fs.args keys cp mp := by
  rw [fieldDecls_eq_pick, pick_structStub, pick_body gField rfl (fun _ _ => rfl)]
  exact (List.append_nil _).trans List.filterMap_some

theorem initArgs_structStub (keys : List String) (cp mp n b : String) (fs : SFields) :
    initArgs (structStub keys cp mp n b fs) = [fs.args keys cp mp] := by
  rw [initArgs_eq_pick, pick_structStub, pick_body gInit rfl (fun _ _ => rfl)]
  exact congrArg (· ++ [fs.args keys cp mp]) (List.filterMap_eq_nil_iff.2 fun _ _ => rfl)

theorem hint_denotes (p mp : String) : ∀ t : STy, HintDenotes (hint p mp t) t
  | .leaf n => by simp only [hint]; exact .leaf p n
  | .struct n b fs => by simp only [hint]; exact .struct p n b fs
  | .charArr n => by simp only [hint]; exact .charArr mp n
  | .wcharArr n => by simp only [hint]; exact .wcharArr mp n
  | .ptr n t => by simp only [hint]; exact .ptr mp n _ t (hint_denotes p mp t)
  | .arr n t => by simp only [hint]; exact .arr mp n _ t (hint_denotes p mp t)

def constLines (inp : Input) : List ILine := inp.consts.map fun p => ⟨1, .constDecl p.1 p.2⟩

def bodyOrEllipsis (body : List ILine) : List ILine := if body.isEmpty then [⟨1, .ellipsis⟩] else body

theorem generate_ok {inp : Input} {ls : List ILine} (h : generate inp = .ok ls) :
    ∃ tbody, typedefLoop inp (inp.typedefs.map (·.1)) inp.typedefs [] = .ok tbody ∧
      ls = ⟨0, .classHdr inp.clsName (inp.modPrefix ++ "cstruct")⟩ :: bodyOrEllipsis (constLines inp ++ tbody) := by
  unfold generate at h
  cases h1 : typedefLoop inp (inp.typedefs.map (·.1)) inp.typedefs [] with
  | error e => simp [h1, bind, Except.bind] at h
  | ok tbody =>
    simp only [h1, bind, Except.bind, pure, Except.pure, Except.ok.injEq] at h
    refine ⟨tbody, rfl, ?_⟩
    rw [← h]
    rfl

theorem pick_top_entry {inp : Input} {keys d : List String} {key : String} {td : TDef} {stub : List ILine}
    (hs : EntryShape inp keys d key td stub) : pick Line.topName? (indent1 stub) = [declName d key td] := by
  have hnil : ∀ l ∈ ([] : List ILine), Deep l := fun _ h => nomatch h
  cases hs with
  | aliasName tgt hd => rw [pick_indent1_hdr _ rfl _ (by simp) [] hnil, hd]; rfl
  | aliasHint hh hd => rw [pick_indent1_hdr _ rfl _ (by simp) [] hnil, hd]; rfl
  | enum n b ms htd hd =>
    rw [show enumStub inp.modPrefix n b ms =
        ⟨0, .classHdr n (inp.modPrefix ++ b)⟩ :: ((ms.map fun k => ⟨1, .member k⟩) ++ [⟨0, .blank⟩]) from rfl,
      pick_indent1_hdr _ rfl _ (by simp), hd]
    · rfl
    · intro l hl
      rcases List.mem_append.1 hl with h | h
      · obtain ⟨a, _, rfl⟩ := List.mem_map.1 h
        exact .inr (Nat.le_refl 1)
      · cases List.mem_singleton.1 h; exact .inl rfl
  | struct n b fs htd hd =>
    rw [structStub, inlineStub_struct, pick_indent1_hdr _ rfl _ (by simp), hd]
    · rfl
    · intro l hl
      rcases List.mem_append.1 hl with h | h
      · exact body_deep _ _ _ fs l h
      · exact tail4_deep _ l h
  | generic n b hn hd =>
    rw [genericStub, pick_indent1_hdr _ rfl _ (by simp), hd]
    · rfl
    · intro l hl
      cases List.mem_singleton.1 hl; exact .inl rfl

theorem declaredTop_loop (inp : Input) (keys : List String) :
    ∀ tds d res, typedefLoop inp keys tds d = .ok res →
      declaredTop res = expectedNamesFrom (tds.filter fun p => !(builtinKeys.contains p.1)) d := by
  apply typedefLoop_ind
  · intro d; rfl
  · intro key td rest d res hb ih
    have hb' : key ∈ builtinKeys := by simpa using hb
    simpa [List.filter_cons, hb'] using ih
  · intro key td rest d stub more hb hs ih
    have hb' : ¬ key ∈ builtinKeys := by simpa using hb
    rw [declaredTop_eq_pick, pick_append, pick_top_entry (entryStub_shape hs), ← declaredTop_eq_pick, ih]
    simp [hb', expectedNamesFrom]

theorem pick_bodyOrEllipsis (body : List ILine) :
    pick Line.topName? (bodyOrEllipsis body) = pick Line.topName? body := by
  cases body <;> rfl

theorem pick_constLines_aux : ∀ cs : List (String × String),
    pick Line.topName? (cs.map fun p => (⟨1, .constDecl p.1 p.2⟩ : ILine)) = cs.map (·.1)
  | [] => rfl
  | c :: r => by rw [List.map_cons, pick_cons, pick_constLines_aux r]; rfl

theorem pick_constLines (inp : Input) : pick Line.topName? (constLines inp) = inp.consts.map (·.1) :=
  pick_constLines_aux inp.consts

theorem expectedNamesFrom_canonical : ∀ (l : List (String × TDef)) (d : List String),
    canonicalFrom l d = true → expectedNamesFrom l d = l.map (·.1)
  | [], _, _ => rfl
  | (key, td) :: rest, d, h => by
    simp only [canonicalFrom, Bool.and_eq_true, beq_iff_eq] at h
    simp only [expectedNamesFrom, List.map_cons, h.1, expectedNamesFrom_canonical rest _ h.2]

theorem expectedTypeNames_canonical (inp : Input) (hc : Canonical inp) :
    expectedTypeNames inp = (userTypedefs inp).map (·.1) :=
  expectedNamesFrom_canonical _ _ hc

theorem declName_cases (d : List String) (key : String) (td : TDef) :
    declName d key td = key ∨ td.name? = some (declName d key td) := by
  unfold declName
  cases h : td.name? with
  | none => exact .inl rfl
  | some n =>
    simp only
    split
    · exact .inl rfl
    · exact .inr rfl

theorem expectedNamesFrom_mem : ∀ (l : List (String × TDef)) (d : List String), ∀ n ∈ expectedNamesFrom l d,
    n ∈ l.map (·.1) ∨ n ∈ l.filterMap (fun p => p.2.name?)
  | [], _, n, h => by simp [expectedNamesFrom] at h
  | (key, td) :: rest, d, n, h => by
    simp only [expectedNamesFrom, List.mem_cons] at h
    rcases h with rfl | h
    · rcases declName_cases d key td with h | h
      · left; rw [h]; simp
      · right; simp only [List.mem_filterMap]; exact ⟨(key, td), List.mem_cons_self .., h⟩
    · rcases expectedNamesFrom_mem rest _ n h with h | h
      · left; simp only [List.map_cons, List.mem_cons]; exact .inr h
      · right
        simp only [List.mem_filterMap] at h ⊢
        obtain ⟨p, hp, hn⟩ := h
        exact ⟨p, List.mem_cons_of_mem _ hp, hn⟩

theorem entry_good {inp : Input} {keys d : List String} {key : String} {td : TDef} {stub : List ILine}
    (hs : EntryShape inp keys d key td stub) (he : ∀ n b ms, td = .enum n b ms → ms ≠ []) :
    Good 0 (nb stub) ∧ nb stub ≠ [] := by
  cases hs with
  | aliasName tgt hd =>
    have : nb [(⟨0, .aliasName key tgt⟩ : ILine)] = [⟨0, .aliasName key tgt⟩] := by simp [nb]
    rw [this]; exact ⟨good_single 0 _ rfl, by simp⟩
  | aliasHint hh hd =>
    have : nb [(⟨0, .aliasHint key hh⟩ : ILine)] = [⟨0, .aliasHint key hh⟩] := by simp [nb]
    rw [this]; exact ⟨good_single 0 _ rfl, by simp⟩
  | enum n b ms htd hd =>
    have : nb (enumStub inp.modPrefix n b ms) =
        ⟨0, .classHdr n (inp.modPrefix ++ b)⟩ :: (ms.map fun k => ⟨1, .member k⟩) := by
      have e1 : enumStub inp.modPrefix n b ms =
          [⟨0, .classHdr n (inp.modPrefix ++ b)⟩] ++ ((ms.map fun k => ⟨1, .member k⟩) ++ [⟨0, .blank⟩]) := rfl
      have e2 : nb (ms.map fun k => (⟨1, .member k⟩ : ILine)) = ms.map fun k => ⟨1, .member k⟩ := by
        unfold nb
        rw [List.filter_eq_self]
        intro a ha
        obtain ⟨k, _, rfl⟩ := List.mem_map.1 ha
        simp
      rw [e1, nb_append, nb_append, e2]
      simp [nb]
    rw [this]
    refine ⟨good_hdr _ _ (good_flat _ ?_) ?_, by simp⟩
    · intro a ha
      obtain ⟨k, _, rfl⟩ := List.mem_map.1 ha
      exact ⟨rfl, rfl⟩
    · simpa using he n b ms htd
  | struct n b fs htd hd =>
    refine ⟨inlineStub_good _ _ _ (.struct n b fs), ?_⟩
    rw [structStub, inlineStub_struct]
    simp [nb]
  | generic n b hn hd =>
    have : nb (genericStub inp.modPrefix n b) = [⟨0, .generic n (inp.modPrefix ++ b)⟩] := by
      simp [nb, genericStub]
    rw [this]; exact ⟨good_single 0 _ rfl, by simp⟩

theorem loop_good (inp : Input) (keys : List String) :
    ∀ tds d res, typedefLoop inp keys tds d = .ok res →
      (∀ p ∈ tds, ∀ n b ms, p.2 = .enum n b ms → ms ≠ []) → Good 1 (nb res) ∧ (res = [] ∨ nb res ≠ []) := by
  apply typedefLoop_ind
  · intro d _; exact ⟨good_nil 1, .inl rfl⟩
  · intro key td rest d res _ ih he
    exact ih (fun p hp => he p (List.mem_cons_of_mem _ hp))
  · intro key td rest d stub more _ hs ih he
    have h1 := entry_good (entryStub_shape hs) (he (key, td) (List.mem_cons_self ..))
    have h2 := ih (fun p hp => he p (List.mem_cons_of_mem _ hp))
    rw [nb_append, nb_indent1]
    refine ⟨good_append (good_shift h1.1) h2.1, .inr ?_⟩
    have := h1.2
    simp [this]

theorem enumsNonEmpty_mem {inp : Input} (he : EnumsNonEmpty inp) :
    ∀ p ∈ inp.typedefs, ∀ n b ms, p.2 = .enum n b ms → ms ≠ [] := by
  intro p hp n b ms h
  have := (List.all_eq_true.1 he) p hp
  rw [h] at this
  simpa using this

theorem nb_constLines (inp : Input) : nb (constLines inp) = constLines inp := by
  unfold constLines nb
  rw [List.filter_eq_self]
  intro a ha
  obtain ⟨c, _, rfl⟩ := List.mem_map.1 ha
  simp

theorem good_constLines (inp : Input) : Good 1 (constLines inp) := by
  apply good_flat
  intro a ha
  obtain ⟨c, _, rfl⟩ := List.mem_map.1 ha
  exact ⟨rfl, rfl⟩

theorem body_good_ne {inp : Input} {tbody : List ILine} (h : Good 1 (nb tbody)) (hne : tbody = [] ∨ nb tbody ≠ []) :
    Good 1 (nb (bodyOrEllipsis (constLines inp ++ tbody))) ∧ nb (bodyOrEllipsis (constLines inp ++ tbody)) ≠ [] := by
  unfold bodyOrEllipsis
  split
  · next hem =>
    have : nb [(⟨1, .ellipsis⟩ : ILine)] = [⟨1, .ellipsis⟩] := by simp [nb]
    rw [this]; exact ⟨good_single 1 _ rfl, by simp⟩
  · next hem =>
    rw [nb_append, nb_constLines]
    refine ⟨good_append (good_constLines inp) h, ?_⟩
    intro hnil
    rw [List.append_eq_nil_iff] at hnil
    rcases hne with h0 | h0
    · apply hem; simp [hnil.1, h0]
    · exact h0 hnil.2

theorem args_names (keys : List String) (cp mp : String) :
    ∀ fs : SFields, ∀ n ∈ (fs.args keys cp mp).map (·.1), n ∈ fs.names
  | .nil => by simp [SFields.args]
  | .cons f t rest => by
    intro n hn
    simp only [SFields.args, List.map_cons, List.mem_cons] at hn
    rw [SFields.names]
    rcases hn with rfl | hn
    · exact List.mem_cons_self ..
    · exact List.mem_cons_of_mem _ (List.mem_append_right _ (args_names keys cp mp rest n hn))

mutual
theorem inlineStub_names (keys : List String) (cp mp : String) :
    ∀ t : STy, ∀ l ∈ t.inlineStub keys cp mp, ∀ n ∈ boundNames l.line, n ∈ t.names
  | .arr a t => by
    intro l hl n hn
    rw [inlineStub_arr] at hl
    rw [STy.names]
    exact inlineStub_names keys cp mp t l hl n hn
  | .struct s b fs => by
    intro l hl n hn
    rw [inlineStub_struct] at hl
    rw [STy.names]
    rcases List.mem_cons.1 hl with rfl | hl
    · simp only [boundNames, List.mem_singleton] at hn
      rw [hn]; exact List.mem_cons_self ..
    · apply List.mem_cons_of_mem
      rcases List.mem_append.1 hl with hl | hl
      · exact body_names keys cp mp fs l hl n hn
      · simp only [initLines, List.mem_cons, List.not_mem_nil, or_false] at hl
        rcases hl with rfl | rfl | rfl | rfl | rfl
        · simp [boundNames] at hn
        · exact args_names keys cp mp fs n hn
        · simp [boundNames] at hn
        · simp [boundNames] at hn
        · simp [boundNames] at hn
  | .leaf _ => by simp [STy.inlineStub]
  | .charArr _ => by simp [STy.inlineStub]
  | .wcharArr _ => by simp [STy.inlineStub]
  | .ptr _ _ => by simp [STy.inlineStub]
theorem body_names (keys : List String) (cp mp : String) :
    ∀ fs : SFields, ∀ l ∈ fs.body keys cp mp, ∀ n ∈ boundNames l.line, n ∈ fs.names
  | .nil => by simp [body_nil]
  | .cons f t rest => by
    intro l hl n hn
    rw [body_cons] at hl
    rw [SFields.names]
    rcases List.mem_append.1 hl with hl | hl
    · split at hl
      · obtain ⟨l0, hl0, hline, _⟩ := mem_indent1 hl
        rw [hline] at hn
        exact List.mem_cons_of_mem _ (List.mem_append_left _ (inlineStub_names keys cp mp t l0 hl0 n hn))
      · simp at hl
    · rcases List.mem_cons.1 hl with rfl | hl
      · simp only [boundNames, List.mem_singleton] at hn
        rw [hn]; exact List.mem_cons_self ..
      · exact List.mem_cons_of_mem _ (List.mem_append_right _ (body_names keys cp mp rest l hl n hn))
end

theorem entry_names {inp : Input} {keys d : List String} {key : String} {td : TDef} {stub : List ILine}
    (hs : EntryShape inp keys d key td stub) :
    ∀ l ∈ stub, ∀ n ∈ boundNames l.line, n = key ∨ n ∈ td.names := by
  intro l hl n hn
  cases hs with
  | aliasName tgt hd =>
    simp only [List.mem_singleton] at hl; subst hl
    simp only [boundNames, List.mem_singleton] at hn
    exact .inl hn
  | aliasHint hh hd =>
    simp only [List.mem_singleton] at hl; subst hl
    simp only [boundNames, List.mem_singleton] at hn
    exact .inl hn
  | enum m b ms htd hd =>
    right
    subst htd
    have e1 : enumStub inp.modPrefix m b ms =
        [⟨0, .classHdr m (inp.modPrefix ++ b)⟩] ++ ((ms.map fun k => ⟨1, .member k⟩) ++ [⟨0, .blank⟩]) := rfl
    rw [e1] at hl
    simp only [TDef.names]
    rcases List.mem_append.1 hl with hl | hl
    · simp only [List.mem_singleton] at hl; subst hl
      simp only [boundNames, List.mem_singleton] at hn
      rw [hn]; exact List.mem_cons_self ..
    · rcases List.mem_append.1 hl with hl | hl
      · obtain ⟨k, hk, rfl⟩ := List.mem_map.1 hl
        simp only [boundNames, List.mem_singleton] at hn
        rw [hn]; exact List.mem_cons_of_mem _ hk
      · simp only [List.mem_singleton] at hl; subst hl
        simp [boundNames] at hn
  | struct m b fs htd hd =>
    right
    subst htd
    simp only [TDef.names]
    exact List.mem_cons_of_mem _ (inlineStub_names keys _ _ (.struct m b fs) l hl n hn)
  | generic m b hm hd =>
    right
    simp only [genericStub, List.mem_cons, List.not_mem_nil, or_false] at hl
    rcases hl with rfl | rfl
    · simp only [boundNames, List.mem_singleton] at hn
      rw [hn]; exact hm
    · simp [boundNames] at hn

theorem loop_names (inp : Input) (keys : List String) :
    ∀ tds d res, typedefLoop inp keys tds d = .ok res →
      ∀ l ∈ res, ∀ n ∈ boundNames l.line, ∃ p ∈ tds, n = p.1 ∨ n ∈ p.2.names := by
  apply typedefLoop_ind
  · intro d l hl; simp at hl
  · intro key td rest d res _ ih l hl n hn
    obtain ⟨p, hp, h⟩ := ih l hl n hn
    exact ⟨p, List.mem_cons_of_mem _ hp, h⟩
  · intro key td rest d stub more _ hs ih l hl n hn
    rcases List.mem_append.1 hl with hl | hl
    · obtain ⟨l0, hl0, hline, _⟩ := mem_indent1 hl
      rw [hline] at hn
      exact ⟨(key, td), List.mem_cons_self .., entry_names (entryStub_shape hs) l0 hl0 n hn⟩
    · obtain ⟨p, hp, h⟩ := ih l hl n hn
      exact ⟨p, List.mem_cons_of_mem _ hp, h⟩

end Cstruct.Stubgen
