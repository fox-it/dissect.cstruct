/-
  `Fields.layout` one member at a time from an arbitrary layout state (`Proofs/Lemmas/LayoutEq.lean` in the vocabulary of
  the window proofs); without bit-fields the offsets have the closed form `offsG`.
-/
import Proofs.Lemmas.CoreLayout
namespace Cstruct.Core.Lemmas
open Cstruct Cstruct.Core

theorem isBitW_true {bits : Option Nat} (h : isBitW bits = true) : ∃ b, bits = some (b + 1) := by
  rcases bits with _ | _ | b
  · cases h
  · cases h
  · exact ⟨b, rfl⟩

theorem noBits_bits {bits : Option Nat} (h : (match bits with | some (_ + 1) => false | _ => true) = true) :
    isBitW bits = false := by
  rcases bits with _ | _ | b
  · rfl
  · rfl
  · cases h

/-- the layout offset of a member given the running offset -/
def offOf (cfg : Cfg) (al : Bool) (ty : Ty) (so : Option Nat) : Option Nat := so.map (alignTo al · (ty.alignment cfg))

/-- the running offset after a member -/
def nextOf (cfg : Cfg) (al : Bool) (ty : Ty) (so : Option Nat) : Option Nat :=
  (offOf cfg al ty so).bind fun o => (ty.size cfg).map (o + ·)

theorem offOf_some {cfg : Cfg} {al : Bool} {ty : Ty} {so : Option Nat} {o' : Nat} (h : offOf cfg al ty so = some o') :
    ∃ o, so = some o ∧ o' = alignTo al o (ty.alignment cfg) := by
  cases so with
  | none => cases h
  | some o => cases h; exact ⟨o, rfl, rfl⟩

theorem nextOf_some {cfg : Cfg} {al : Bool} {ty : Ty} {so : Option Nat} {o' : Nat} (h : nextOf cfg al ty so = some o') :
    ∃ o k, so = some o ∧ ty.size cfg = some k ∧ o' = alignTo al o (ty.alignment cfg) + k := by
  cases so with
  | none => cases h
  | some o =>
    cases hk : ty.size cfg with
    | none => simp [nextOf, offOf, hk] at h
    | some k =>
      simp only [nextOf, offOf, hk, Option.map_some, Option.bind_some, Option.some.injEq] at h
      exact ⟨o, k, rfl, rfl, h.symm⟩

theorem layout_nil_any (cfg : Cfg) (al : Bool) (st : LState) :
    Fields.layout cfg al .nil st = .ok (st.offset.map (alignTo al · st.alignment), st.alignment, []) := by
  rw [Fields.layout]
  cases st.offset <;> cases al <;> rfl

/-- `Layout.stAfterBit` at the aligned offset and the alignment of a bit-field of type `ty` -/
def stBit (cfg : Cfg) (al : Bool) (ty : Ty) (ft : Scalar) (fsz w : Nat) (nu : Bool) (st : LState) : LState :=
  Layout.stAfterBit st ft fsz w (offOf cfg al ty st.offset) (max st.alignment (ty.alignment cfg)) nu

theorem offOf_eq (cfg : Cfg) (al : Bool) (ty : Ty) (so : Option Nat) :
    Layout.offOf al (ty.alignment cfg) so = offOf cfg al ty so := by
  cases so <;> cases al <;> rfl

theorem layout_nb_ok {cfg : Cfg} {al : Bool} {n : String} {an : Bool} {ty : Ty} {bits : Option Nat} {rest : Fields}
    {st : LState} {sz : Option Nat} {sa : Nat} {offs : List (Option Nat)} (hb : isBitW bits = false)
    (h : Fields.layout cfg al (.cons n an ty bits rest) st = .ok (sz, sa, offs)) :
    ∃ offs', offs = offOf cfg al ty st.offset :: offs' ∧
      Fields.layout cfg al rest (mkSt (nextOf cfg al ty st.offset) (max st.alignment (ty.alignment cfg))) = .ok (sz, sa, offs') := by
  rw [layout_cons_nobits cfg al n an ty bits rest st hb] at h
  obtain ⟨⟨sz', sa', offs'⟩, h1, h2⟩ := bind_ok h
  cases h2
  exact ⟨offs', rfl, h1⟩

theorem layout_bit_ok {cfg : Cfg} {al : Bool} {n : String} {an : Bool} {ty : Ty} {b : Nat} {rest : Fields}
    {st : LState} {sz : Option Nat} {sa : Nat} {offs : List (Option Nat)}
    (h : Fields.layout cfg al (.cons n an ty (some (b + 1)) rest) st = .ok (sz, sa, offs)) :
    ∃ ft fsz nu offs', ty.bitBase = some ft ∧ ft.size = some fsz ∧ Layout.third st ft (offOf cfg al ty st.offset) = .ok nu ∧
      offs = (if nu then offOf cfg al ty st.offset else none) :: offs' ∧
      Fields.layout cfg al rest (stBit cfg al ty ft fsz (b + 1) nu st) = .ok (sz, sa, offs') := by
  obtain ⟨st', foff, offs', hs, hr, rfl⟩ := Layout.layout_cons_ok h
  obtain ⟨ft, fsz, nu, hbase, hsz, hth, rfl, rfl⟩ := Layout.stepL_bits_ok hs
  rw [offOf_eq] at hth hr ⊢
  exact ⟨ft, fsz, nu, offs', hbase, hsz, hth, rfl, hr⟩

theorem layout_align (cfg : Cfg) (al : Bool) : ∀ (fs : Fields) (st : LState) (sz : Option Nat) (sa : Nat)
    (offs : List (Option Nat)), Fields.layout cfg al fs st = .ok (sz, sa, offs) → sa = Fields.maxAlign cfg fs st.alignment
  | .nil, st, sz, sa, offs, h => by
    rw [layout_nil_any] at h
    cases h; rfl
  | .cons n an ty bits rest, st, sz, sa, offs, h => by
    cases hb : isBitW bits with
    | false =>
      obtain ⟨offs', _, h1⟩ := layout_nb_ok hb h
      exact layout_align cfg al rest _ sz sa offs' h1
    | true =>
      obtain ⟨b, rfl⟩ := isBitW_true hb
      obtain ⟨ft, fsz, nu, offs', _, _, _, _, h1⟩ := layout_bit_ok h
      rw [layout_align cfg al rest _ sz sa offs' h1]
      cases nu <;> rfl

theorem structLayout_align (cfg : Cfg) (al : Bool) (fs : Fields) (sz sa offs)
    (h : structLayout cfg al fs = .ok (sz, sa, offs)) : sa = Fields.maxAlign cfg fs 0 :=
  layout_align cfg al fs LState.init sz sa offs h

theorem struct_size_of_layout {cfg : Cfg} {al : Bool} {fs : Fields} {sz sa offs}
    (h : structLayout cfg al fs = .ok (sz, sa, offs)) : (Ty.struct al fs).size cfg = sz := by
  simp only [Ty.size]
  unfold structLayout LState.init at h
  rw [h]

def offsG (cfg : Cfg) (al : Bool) : Fields → Option Nat → List (Option Nat)
  | .nil, _ => []
  | .cons _ _ ty _ r, so => offOf cfg al ty so :: offsG cfg al r (nextOf cfg al ty so)

theorem layoutG (cfg : Cfg) (al : Bool) : ∀ (fs : Fields), Fields.noBits fs = true → ∀ (so : Option Nat) (a : Nat),
    ∃ sz, Fields.layout cfg al fs (mkSt so a) = .ok (sz, Fields.maxAlign cfg fs a, offsG cfg al fs so)
  | .nil, _, so, a => ⟨_, layout_nil_any cfg al _⟩
  | .cons n an ty bits r, h, so, a => by
    simp only [Fields.noBits, Bool.and_eq_true] at h
    obtain ⟨sz, hl⟩ := layoutG cfg al r h.2 (nextOf cfg al ty so) (max a (ty.alignment cfg))
    exact ⟨sz, by rw [layout_cons_nobits cfg al n an ty bits r _ (noBits_bits h.1.1)]; exact hl ▸ rfl⟩

end Cstruct.Core.Lemmas
