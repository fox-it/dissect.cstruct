/-
  The leaves of fragment D (`Proofs/CoreDyn.lean`): what the scalar writer emits for an integer, a LEB128 number or a
  `wchar` parses back (`ScRT`), `wchar` arrays, and the null-terminated readers (`readScalar0`) run forward on
  "elements ++ terminator". Where written bytes sit in the reader's input is said by `At`.
-/
import Proofs.Spec.CoreDyn
import Proofs.Lemmas.CoreRW
import Proofs.Lemmas.C05Wchar
namespace Cstruct.Core.Lemmas
open Cstruct Cstruct.Core
open Cstruct.C05.Lemmas (encUnits encUnits_cons encUnits_length encodeWchar_ok u8_small)

/-- the input `d` holds the bytes `bs` at position `pos` -/
def At (d : Bytes) (pos : Nat) (bs : Bytes) : Prop :=
  ∃ pre post, d = pre ++ bs ++ post ∧ pre.length = pos

theorem At.mid {pre bs post : Bytes} {pos : Nat} (h : pre.length = pos) : At (pre ++ bs ++ post) pos bs :=
  ⟨pre, post, rfl, h⟩

theorem At.left {d : Bytes} {pos : Nat} {a b : Bytes} (h : At d pos (a ++ b)) : At d pos a := by
  obtain ⟨pre, post, rfl, hp⟩ := h
  exact ⟨pre, b ++ post, by simp only [List.append_assoc], hp⟩

theorem At.right {d : Bytes} {pos : Nat} {a b : Bytes} (h : At d pos (a ++ b)) : At d (pos + a.length) b := by
  obtain ⟨pre, post, rfl, hp⟩ := h
  exact ⟨pre ++ a, post, by simp only [List.append_assoc], by rw [List.length_append, hp]⟩

theorem At.le {d : Bytes} {pos : Nat} {bs : Bytes} (h : At d pos bs) : pos + bs.length ≤ d.length := by
  obtain ⟨pre, post, rfl, rfl⟩ := h
  simp only [List.length_append]; omega

theorem At.readExact {d : Bytes} {pos : Nat} {bs : Bytes} (h : At d pos bs) {n : Nat} (hn : bs.length = n) :
    readExact d pos n = .ok (bs, pos + n) := by
  obtain ⟨pre, post, rfl, hp⟩ := h
  exact readExact_mid pre bs post pos n hp hn

/-- `bs` is an encoding of `v`: wherever the input holds `bs`, the scalar reader returns `v` and stops behind it -/
def ScRT (cfg : Cfg) (s : Scalar) (v : Val) (bs : Bytes) : Prop :=
  ∀ (d : Bytes) (pos : Nat), At d pos bs → readScalar cfg s d pos = .ok (v, pos + bs.length)

theorem scrt_int (cfg : Cfg) (s : Scalar) (v : Int) (hi : Scalar.isInt s = true) (hf : intFits s v = true) :
    ∃ bs, writeScalar cfg s (.int v) = .ok bs ∧ ScRT cfg s (.int v) bs ∧ s.size = some bs.length := by
  cases s with
  | pint n sg | aint n sg =>
    obtain ⟨bs, h1, h2, h3⟩ := C05.c05_int_roundtrip cfg.endian n sg v hf
    refine ⟨bs, by simp only [writeScalar, h1], fun d pos hd => ?_, by rw [h2]; rfl⟩
    simp only [readScalar, bind, pure, hd.readExact h2, Except.bind, Except.pure, h3, h2]
  | pflt n | char | wchar | leb sg | void => cases hi

theorem scrt_flt (cfg : Cfg) (n b : Nat) (hb : b < 2 ^ (8 * n)) :
    ∃ bs, writeScalar cfg (.pflt n) (.flt b) = .ok bs ∧ ScRT cfg (.pflt n) (.flt b) bs ∧ bs.length = n := by
  have hl : (encodeBits cfg.endian n b).length = n := C05.Lemmas.encBytes_length _ _ _
  refine ⟨encodeBits cfg.endian n b, by simp only [writeScalar, if_pos hb], fun d pos hd => ?_, hl⟩
  simp only [readScalar, bind, pure, hd.readExact hl, Except.bind, Except.pure, hl]
  rw [show encodeBits cfg.endian n b = C05.Lemmas.encBytes cfg.endian n b from rfl,
    C05.Lemmas.decodeNat_encBytes cfg.endian n b hb]

theorem scrt_char (cfg : Cfg) (b : UInt8) : ScRT cfg .char (.bytes [b]) [b] := fun d pos hd => by
  simp only [readScalar, bind, pure, hd.readExact (n := 1) rfl, Except.bind, Except.pure, List.length_cons, List.length_nil]

theorem scrt_void (cfg : Cfg) : ScRT cfg .void .void [] := fun _ _ _ => rfl

theorem scrt_leb (cfg : Cfg) (sg : Bool) (v : Int) (hv : sg = false → 0 ≤ v) :
    ∃ bs, writeScalar cfg (.leb sg) (.int v) = .ok bs ∧ ScRT cfg (.leb sg) (.int v) bs ∧ 1 ≤ bs.length := by
  refine ⟨lebWriteLoop sg v, ?_, ?_, ?_⟩
  · simp only [writeScalar, lebWrite]
    rw [if_neg]
    intro ⟨h1, h2⟩
    cases sg with
    | true => exact h2 rfl
    | false => have := hv rfl; omega
  · rintro d pos ⟨pre, post, rfl, hp⟩
    simp only [readScalar]
    have hd : (pre ++ lebWriteLoop sg v ++ post).drop pos = lebWriteLoop sg v ++ post := by
      rw [List.append_assoc, ← hp, List.drop_left]
    rw [hd, C05.Lemmas.leb_roundtrip_read sg v post hv]
    simp only [List.length_append, Except.ok.injEq, Prod.mk.injEq, true_and]
    omega
  · obtain ⟨init, last, h, _⟩ := C05.Lemmas.leb_shape sg v
    rw [h]; simp

theorem int_size_pos (s : Scalar) (v : Int) (hi : Scalar.isInt s = true) (hf : intFits s v = true) (hv : v ≠ 0) (k : Nat)
    (hk : s.size = some k) : 1 ≤ k := by
  have key : ∀ n sg, fits n sg v = true → 1 ≤ n := by
    intro n sg hf
    cases n with
    | succ n => omega
    | zero =>
      exfalso
      simp only [fits] at hf
      cases sg <;> simp at hf <;> omega
  cases s with
  | pint n sg => simp only [Scalar.size, Option.some.injEq] at hk; subst hk; exact key _ sg hf
  | aint n sg => simp only [Scalar.size, Option.some.injEq] at hk; subst hk; exact key _ sg hf
  | pflt n => cases hi
  | char => cases hi
  | wchar => cases hi
  | leb sg => cases hi
  | void => cases hi

theorem utf16Ok_single (u : Nat) (h : isSurrogate u = false) : utf16Ok [u] = true := by
  simp only [isSurrogate, Bool.and_eq_false_iff, decide_eq_false_iff_not] at h
  have h1 : isHigh u = false := by
    simp only [isHigh, Bool.and_eq_false_iff, decide_eq_false_iff_not]; omega
  have h2 : isLow u = false := by
    simp only [isLow, Bool.and_eq_false_iff, decide_eq_false_iff_not]; omega
  simp [utf16Ok, h1, h2]

theorem scrt_wchar (cfg : Cfg) (u : Nat) (hu : u < 65536) (hs : isSurrogate u = false) :
    ∃ bs, writeScalar cfg .wchar (.wstr [u]) = .ok bs ∧ ScRT cfg .wchar (.wstr [u]) bs ∧ bs.length = 2 := by
  have hall : ∀ x ∈ [u], x < 65536 := by intro x hx; simp at hx; omega
  obtain ⟨bs, h1, h2, h3⟩ := C05.Lemmas.wchar_roundtrip cfg.endian [u] hall (utf16Ok_single u hs)
  simp only [List.length_cons, List.length_nil] at h2
  refine ⟨bs, h1, ?_, h2⟩
  intro d pos hd
  simp only [readScalar, bind, pure, hd.readExact h2, Except.bind, h3, Except.pure, h2]

theorem readArray_wchar (cfg : Cfg) (a n : Nat) (ctx : Ctx) (data : Bytes) (pos : Nat) :
    readArray cfg (.sc .wchar a) n ctx data pos =
      if n = 0 then .ok (.wstr [], pos) else
        (readExact data pos (2 * n)).bind fun r => (decodeWchar cfg.endian r.1).bind fun v => .ok (v, r.2) := by
  rw [readArray.eq_1]
  simp only [readScalarArray, bind, pure]
  split
  · rfl
  · cases readExact data pos (2 * n) with
    | error e => rfl
    | ok r =>
      simp only [Except.bind]
      cases decodeWchar cfg.endian r.1 <;> rfl

/-- `Wchar._read_array` on the encoding of a well-formed string of `n` units -/
theorem wchars_rt (cfg : Cfg) (a n : Nat) (us : List Nat) (hl : us.length = n) (hu : ∀ u ∈ us, u < 65536)
    (hok : utf16Ok us = true) :
    ∃ bs, encodeWchar cfg.endian us = .ok bs ∧ bs.length = n * 2 ∧
      ∀ (ctx : Ctx) (d : Bytes) (pos : Nat), At d pos bs →
        readArray cfg (.sc .wchar a) n ctx d pos = .ok (.wstr us, pos + bs.length) := by
  obtain ⟨bs, h1, h2, h3⟩ := C05.Lemmas.wchar_roundtrip cfg.endian us hu hok
  rw [hl] at h2
  refine ⟨bs, h1, by omega, ?_⟩
  intro ctx d pos hd
  rw [readArray_wchar]
  split
  · rename_i h0
    subst h0
    cases us with
    | cons _ _ => simp at hl
    | nil =>
      cases bs with
      | nil => simp
      | cons _ _ => simp at h2
  · rw [hd.readExact h2]
    simp only [Except.bind, h3, h2]

theorem write_arr_bytes (cfg : Cfg) (a len b pos) :
    write cfg (.arr (.sc .char a) len) (.bytes b) pos = .ok (match len with | .nullTerm => b ++ [0] | _ => b) := by
  cases len <;> (rw [write.eq_def])

theorem write_arr_wstr (cfg : Cfg) (a len us pos) :
    write cfg (.arr (.sc .wchar a) len) (.wstr us) pos =
      encodeWchar cfg.endian (match len with | .nullTerm => us ++ [0] | _ => us) := by
  cases len <;> (rw [write.eq_def])

theorem write_arr_null_list (cfg : Cfg) (e vs pos) :
    write cfg (.arr e .nullTerm) (.list vs) pos = writeN cfg e (vs.snoc (e.default cfg)) pos := by
  rw [write.eq_def]
  cases e with
  | sc s a => cases s <;> rfl
  | _ => rfl

theorem write_arr_expr_list (cfg : Cfg) (e toks vs pos) :
    write cfg (.arr e (.expr toks)) (.list vs) pos = writeN cfg e vs pos := by
  rw [write.eq_def]
  cases e with
  | sc s a => cases s <;> rfl
  | _ => rfl

theorem writeN_snoc_ok (cfg : Cfg) (t : Ty) (d : Val) : ∀ (vs : Vals) (pos : Nat) (body last : Bytes),
    writeN cfg t vs pos = .ok body → write cfg t d (pos + body.length) = .ok last →
      writeN cfg t (vs.snoc d) pos = .ok (body ++ last)
  | .nil, pos, body, last, h1, h2 => by
    rw [writeN_nil] at h1
    cases h1
    simp only [Vals.snoc, List.length_nil, Nat.add_zero] at h2 ⊢
    rw [writeN_cons, h2]
    simp only [Except.bind, writeN_nil, List.append_nil, List.nil_append]
  | .cons a r, pos, body, last, h1, h2 => by
    rw [writeN_cons] at h1
    obtain ⟨x, h3, h4⟩ := bind_ok h1
    obtain ⟨y, h5, h6⟩ := bind_ok h4
    cases h6
    simp only [Vals.snoc]
    rw [writeN_cons, h3]
    simp only [Except.bind]
    rw [List.length_append, ← Nat.add_assoc] at h2
    rw [writeN_snoc_ok cfg t d r _ y last h5 h2]
    simp only [List.append_assoc]

/-- one turn of `_read_0` of the scalar `s`: on the bytes `c` it reads the element `v`, which is not the terminator, and
    goes on behind them -/
def Elem0 (cfg : Cfg) (s : Scalar) (v : Val) (c : Bytes) : Prop :=
  1 ≤ c.length ∧ ∀ (d : Bytes) (pos fuel : Nat) (acc : List Val), At d pos c →
    readScalar0 cfg s d (fuel + 1) pos acc = readScalar0 cfg s d fuel (pos + c.length) (v :: acc)

/-- on the bytes `z` a turn of `_read_0` reads the terminator and stops behind it -/
def Term0 (cfg : Cfg) (s : Scalar) (z : Bytes) : Prop :=
  ∀ (d : Bytes) (pos fuel : Nat) (acc : List Val), At d pos z →
    readScalar0 cfg s d (fuel + 1) pos acc = .ok (acc.reverse, pos + z.length)

/-- `body` is the concatenation of one chunk per element of `vs`, each read back by one turn of `_read_0` -/
inductive Chunks (cfg : Cfg) (s : Scalar) : List Val → Bytes → Prop
  | nil : Chunks cfg s [] []
  | cons {v c vs body} : Elem0 cfg s v c → Chunks cfg s vs body → Chunks cfg s (v :: vs) (c ++ body)

theorem chunks_length {cfg : Cfg} {s : Scalar} {vs : List Val} {body : Bytes} (h : Chunks cfg s vs body) :
    vs.length ≤ body.length := by
  induction h with
  | nil => simp
  | cons h1 _ ih => simp only [List.length_cons, List.length_append]; have := h1.1; omega

theorem readScalar0_chunks {cfg : Cfg} {s : Scalar} {z : Bytes} (hz : Term0 cfg s z) {vs : List Val} {body : Bytes}
    (h : Chunks cfg s vs body) : ∀ (d : Bytes) (pos fuel : Nat) (acc : List Val), At d pos (body ++ z) →
      vs.length + 1 ≤ fuel → readScalar0 cfg s d fuel pos acc = .ok (acc.reverse ++ vs, pos + (body ++ z).length) := by
  induction h with
  | nil =>
    intro d pos fuel acc hd hf
    obtain ⟨f, rfl⟩ : ∃ f, fuel = f + 1 := ⟨fuel - 1, by simp at hf; omega⟩
    rw [hz d pos f acc hd]
    simp
  | @cons v c vs body hc _ ih =>
    intro d pos fuel acc hd hf
    obtain ⟨f, rfl⟩ : ∃ f, fuel = f + 1 := ⟨fuel - 1, by simp at hf; omega⟩
    rw [List.append_assoc] at hd
    rw [hc.2 d pos f acc hd.left, ih d _ f _ hd.right (by simp only [List.length_cons] at hf; omega)]
    simp only [List.reverse_cons, List.append_assoc, List.singleton_append, List.length_append, Nat.add_assoc]

theorem readScalar0_nullTerm {cfg : Cfg} {s : Scalar} {z : Bytes} (hz : Term0 cfg s z) {vs : List Val} {body : Bytes}
    (h : Chunks cfg s vs body) {d : Bytes} {pos : Nat} (hd : At d pos (body ++ z)) :
    readScalar0 cfg s d (d.length - pos + 2) pos [] = .ok (vs, pos + (body ++ z).length) := by
  have h1 := chunks_length h
  have h2 := hd.le
  rw [readScalar0_chunks hz h d pos _ [] hd (by simp only [List.length_append] at h2; omega)]
  rfl

/-- scalars read through the generic branch of `_read_0` that yield integers -/
def Scalar.intLike : Scalar → Bool
  | .pint _ _ => true | .aint _ _ => true | .leb _ => true | _ => false

theorem readScalar0_int_step (cfg : Cfg) (s : Scalar) (hs : Scalar.intLike s = true) (data : Bytes) (fuel pos : Nat)
    (acc : List Val) (i : Int) (p : Nat) (h : readScalar cfg s data pos = .ok (.int i, p)) :
    readScalar0 cfg s data (fuel + 1) pos acc =
      if i = 0 then .ok (acc.reverse, p) else readScalar0 cfg s data fuel p (.int i :: acc) := by
  cases s with
  | pint n sg => simp only [readScalar0, h, decide_eq_true_eq]
  | aint n sg => simp only [readScalar0, h, decide_eq_true_eq]
  | leb sg => simp only [readScalar0, h, decide_eq_true_eq]
  | pflt n => cases hs
  | char => cases hs
  | wchar => cases hs
  | void => cases hs

theorem elem0_int {cfg : Cfg} {s : Scalar} (hs : Scalar.intLike s = true) {i : Int} {c : Bytes} (hi : i ≠ 0)
    (hc : ScRT cfg s (.int i) c) (hl : 1 ≤ c.length) : Elem0 cfg s (.int i) c :=
  ⟨hl, fun d pos fuel acc hd => by rw [readScalar0_int_step cfg s hs d fuel pos acc i _ (hc d pos hd), if_neg hi]⟩

theorem term0_int {cfg : Cfg} {s : Scalar} (hs : Scalar.intLike s = true) {z : Bytes} (hz : ScRT cfg s (.int 0) z) :
    Term0 cfg s z :=
  fun d pos fuel acc hd => by rw [readScalar0_int_step cfg s hs d fuel pos acc 0 _ (hz d pos hd), if_pos rfl]

theorem mapEnum_ofList_ints (is : List Int) :
    (Vals.ofList (is.map Val.int)).mapEnum = Vals.ofList (is.map Val.enum) := by
  induction is with
  | nil => rfl
  | cons i r ih => simp only [List.map_cons, Vals.ofList, Vals.mapEnum, ih]

theorem readScalarNullTerm_ints (cfg : Cfg) (s : Scalar) (hs : Scalar.intLike s = true) (z : Bytes)
    (hz : ScRT cfg s (.int 0) z) (is : List Int) (body : Bytes) (hc : Chunks cfg s (is.map .int) body) (d : Bytes)
    (pos : Nat) (hd : At d pos (body ++ z)) :
    readScalarNullTerm cfg s d pos = .ok (.list (Vals.ofList (is.map .int)), pos + (body ++ z).length) := by
  unfold readScalarNullTerm
  rw [readScalar0_nullTerm (term0_int hs hz) hc hd]
  cases s <;> first | rfl | cases hs

theorem read0_sc (cfg : Cfg) (s a ctx data pos) :
    read0 cfg (.sc s a) ctx data pos = readScalarNullTerm cfg s data pos := by
  rw [read0.eq_1]

theorem readScalar0_char_succ (cfg : Cfg) (d : Bytes) (fuel pos : Nat) (acc : List Val) :
    readScalar0 cfg .char d (fuel + 1) pos acc =
      match readExact d pos 1 with
      | .error e => .error e
      | .ok (bs, p) => if bs = [0] then .ok (acc.reverse, p) else readScalar0 cfg .char d fuel p (.bytes bs :: acc) := by
  simp only [readScalar0]
  cases readExact d pos 1 with
  | error e => rfl
  | ok r => rfl

theorem joinBytes_singletons : ∀ b : Bytes, joinBytes (b.map fun x => Val.bytes [x]) = b := by
  intro b
  induction b with
  | nil => rfl
  | cons x r ih => simp only [List.map_cons, joinBytes, ih, List.singleton_append]

theorem chunks_chars (cfg : Cfg) : ∀ (b : Bytes), (∀ x ∈ b, x ≠ 0) →
    Chunks cfg .char (b.map fun x => Val.bytes [x]) b
  | [], _ => .nil
  | x :: r, hnz => by
    refine .cons (c := [x]) ⟨Nat.le_refl 1, fun d pos fuel acc hd => ?_⟩
      (chunks_chars cfg r fun y hy => hnz y (List.mem_cons_of_mem _ hy))
    have hx : x ≠ 0 := hnz x (List.mem_cons_self ..)
    rw [readScalar0_char_succ, hd.readExact (n := 1) rfl]
    simp only [List.cons.injEq, and_true, hx, if_false, List.length_cons, List.length_nil]

theorem readScalarNullTerm_chars (cfg : Cfg) (b : Bytes) (hnz : ∀ x ∈ b, x ≠ 0) (d : Bytes) (pos : Nat)
    (hd : At d pos (b ++ [0])) :
    readScalarNullTerm cfg .char d pos = .ok (.bytes b, pos + (b ++ [0]).length) := by
  have hz : Term0 cfg .char [0] := fun d pos fuel acc hd => by
    rw [readScalar0_char_succ, hd.readExact (n := 1) rfl]; rfl
  unfold readScalarNullTerm
  rw [readScalar0_nullTerm hz (chunks_chars cfg b hnz) hd]
  simp only [joinBytes_singletons]

/-- the two bytes of one UTF-16 code unit -/
def encUnit (e : Endian) (u : Nat) : Bytes :=
  match e with
  | .little => [UInt8.ofNat (u % 256), UInt8.ofNat (u / 256)]
  | .big => [UInt8.ofNat (u / 256), UInt8.ofNat (u % 256)]

theorem encUnit_length (e : Endian) (u : Nat) : (encUnit e u).length = 2 := by cases e <;> rfl

theorem encUnits_cons' (e : Endian) (u : Nat) (r : List Nat) : encUnits e (u :: r) = encUnit e u ++ encUnits e r := by
  rw [encUnits_cons]; cases e <;> rfl

theorem encUnits_append (e : Endian) (a b : List Nat) : encUnits e (a ++ b) = encUnits e a ++ encUnits e b := by
  simp only [encUnits, List.flatMap_append]

theorem encUnits_zero (e : Endian) : encUnits e [0] = [0, 0] := by cases e <;> rfl

theorem encUnit_ne_zero (e : Endian) (u : Nat) (hu : u < 65536) (h0 : u ≠ 0) : encUnit e u ≠ [0, 0] := by
  intro h
  have hd : (UInt8.ofNat (u / 256)).toNat = u / 256 := u8_small _ (by omega)
  have hm : (UInt8.ofNat (u % 256)).toNat = u % 256 := u8_small _ (by omega)
  cases e with
  | little =>
    simp only [encUnit, List.cons.injEq, and_true] at h
    rw [h.1] at hm; rw [h.2] at hd
    simp at hm hd; omega
  | big =>
    simp only [encUnit, List.cons.injEq, and_true] at h
    rw [h.1] at hd; rw [h.2] at hm
    simp at hm hd; omega

theorem readScalar0_wchar_succ (cfg : Cfg) (d : Bytes) (fuel pos : Nat) (acc : List Val) :
    readScalar0 cfg .wchar d (fuel + 1) pos acc =
      match readExact d pos 2 with
      | .error e => .error e
      | .ok (bs, p) => if bs = [0, 0] then .ok (acc.reverse, p) else readScalar0 cfg .wchar d fuel p (.bytes bs :: acc) := by
  simp only [readScalar0]
  cases readExact d pos 2 with
  | error e => rfl
  | ok r => rfl

theorem chunks_wchars (cfg : Cfg) : ∀ (us : List Nat), (∀ u ∈ us, u < 65536 ∧ u ≠ 0) →
    Chunks cfg .wchar (us.map fun u => Val.bytes (encUnit cfg.endian u)) (encUnits cfg.endian us)
  | [], _ => .nil
  | u :: r, hnz => by
    have hu := hnz u (List.mem_cons_self ..)
    have hl := encUnit_length cfg.endian u
    rw [encUnits_cons']
    refine .cons ⟨by omega, fun d pos fuel acc hd => ?_⟩ (chunks_wchars cfg r fun y hy => hnz y (List.mem_cons_of_mem _ hy))
    rw [readScalar0_wchar_succ, hd.readExact hl]
    simp only [encUnit_ne_zero cfg.endian u hu.1 hu.2, if_false, hl]

theorem joinBytes_units (e : Endian) : ∀ us : List Nat,
    joinBytes (us.map fun u => Val.bytes (encUnit e u)) = encUnits e us := by
  intro us
  induction us with
  | nil => rfl
  | cons u r ih => rw [List.map_cons, joinBytes, ih, encUnits_cons']

theorem readScalarNullTerm_wchars (cfg : Cfg) (us : List Nat) (hnz : ∀ u ∈ us, u < 65536 ∧ u ≠ 0)
    (hok : utf16Ok us = true) (d : Bytes) (pos : Nat) (hd : At d pos (encUnits cfg.endian us ++ [0, 0])) :
    readScalarNullTerm cfg .wchar d pos = .ok (.wstr us, pos + (encUnits cfg.endian us ++ [0, 0]).length) := by
  have hz : Term0 cfg .wchar [0, 0] := fun d pos fuel acc hd => by
    rw [readScalar0_wchar_succ, hd.readExact (n := 2) rfl]; rfl
  unfold readScalarNullTerm
  rw [readScalar0_nullTerm hz (chunks_wchars cfg us hnz) hd]
  obtain ⟨bs, h1, _, h3⟩ := C05.Lemmas.wchar_roundtrip cfg.endian us (fun u hu => (hnz u hu).1) hok
  rw [encodeWchar_ok cfg.endian us hok] at h1
  cases h1
  simp only [joinBytes_units, h3, Except.map]

end Cstruct.Core.Lemmas
