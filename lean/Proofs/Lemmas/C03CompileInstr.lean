/-
  The loop body of `_generate_fields` inverted (`GenStep`); the validator on the statements of `align_to_field`, on a
  sub-read and on a bit read; the generated code starts with `bit_reader.reset()` only inside a bit run.
-/
import Proofs.Lemmas.C03CompileLayout

namespace Cstruct.Compiler
open Cstruct Cstruct.Core.Lemmas

def NoReset (p : Plan) : Prop := p.head? ≠ some .bitsReset

theorem NoReset.append {p q : Plan} (hp : NoReset p) (hq : NoReset q) : NoReset (p ++ q) := by
  cases p with
  | nil => exact hq
  | cons i p => exact hp

theorem NoReset.nil : NoReset [] := by simp [NoReset]

theorem NoReset.append_left {p : Plan} (q : Plan) (hp : NoReset p) (hne : p ≠ []) : NoReset (p ++ q) := by
  cases p with
  | nil => exact absurd rfl hne
  | cons i p => exact hp

theorem noReset_cons {i : Instr} (h : i ≠ .bitsReset) (p : Plan) : NoReset (i :: p) := by
  simp [NoReset, h]

theorem alignToField_noReset (cfg : Cfg) (al : Bool) (f : CField) (cur : Option Nat) :
    NoReset (alignToField cfg al f cur).1 := by
  unfold alignToField
  cases f.off with
  | none => cases al <;> simp [NoReset]
  | some o => simp only; split <;> simp [NoReset]

theorem flush_noReset (cfg : Cfg) (al : Bool) (st : GState) (fl : Plan) (h : flush cfg al st = .ok fl) : NoReset fl := by
  unfold flush at h
  split at h
  · cases h; exact NoReset.nil
  · split at h
    · cases h
    · rename_i blk hg
      obtain ⟨size, fmt, slots, rfl⟩ := genPacked_block cfg al _ _ hg
      cases h
      refine NoReset.append (NoReset.append ?_ ?_) (noReset_cons (by simp) _)
      · split
        · split <;> simp [NoReset]
        · exact NoReset.nil
      · split <;> simp [NoReset]

theorem advance_fields (st : GState) (isB : Bool) (size : Option Nat) (et : Ty) :
    (advance st isB size et).prevBits = st.prevBits ∧ (advance st isB size et).block = st.block ∧
      (advance st isB size et).blockOff = st.blockOff ∧ (advance st isB size et).bitsRem = st.bitsRem ∧
      (advance st isB size et).prevBitsTy = st.prevBitsTy := by
  unfold advance
  simp only
  split <;> split <;> (try split) <;> exact ⟨rfl, rfl, rfl, rfl, rfl⟩

theorem advance_prevBits (st : GState) (isB : Bool) (size : Option Nat) (et : Ty) :
    (advance st isB size et).prevBits = st.prevBits := (advance_fields st isB size et).1

theorem advance_block (st : GState) (isB : Bool) (size : Option Nat) (et : Ty) :
    (advance st isB size et).block = st.block := (advance_fields st isB size et).2.1

theorem advance_blockOff (st : GState) (isB : Bool) (size : Option Nat) (et : Ty) :
    (advance st isB size et).blockOff = st.blockOff := (advance_fields st isB size et).2.2.1

theorem advance_bitsRem (st : GState) (isB : Bool) (size : Option Nat) (et : Ty) :
    (advance st isB size et).bitsRem = st.bitsRem := (advance_fields st isB size et).2.2.2.1

theorem advance_prevBitsTy (st : GState) (isB : Bool) (size : Option Nat) (et : Ty) :
    (advance st isB size et).prevBitsTy = st.prevBitsTy := (advance_fields st isB size et).2.2.2.2

theorem blockState_prevBits (al : Bool) (st : GState) (f : CField) : (blockState al st f).prevBits = st.prevBits := by
  unfold blockState
  simp only
  split <;> split <;> rfl

theorem afterPre_of_not (st : GState) (isB : Bool) (h : st.prevBits = false) : afterPre st isB = st := by
  unfold afterPre; simp [h]

theorem preOf_of_not (st : GState) (isB : Bool) (h : st.prevBits = false) : preOf st isB = [] := by
  unfold preOf; simp [h]

/-- the three branches of the loop body of `_generate_fields` -/
inductive GenStep (cfg : Cfg) (al : Bool) (name : String) (ty : Ty) (bits : Option Nat) (rest : Fields)
    (offs : List (Option Nat)) (st0 : GState) (plan : Plan) : Prop
  /-- a member that reads itself: structure, array of structures, multi-dimensional or dynamic array -/
  | sub (fl p : Plan) :
      (isStructTy (fieldType ty) = true ∨ isSubArray (fieldType ty) ((fieldType ty).size cfg) = true) →
      flush cfg al (afterPre st0 (isBitsField bits)) = .ok fl →
      genFields cfg al rest (offs.drop 1)
        (advance { (afterPre st0 (isBitsField bits)) with block := [], cur := (alignToField cfg al ⟨name, ty, hdOff offs⟩ (afterPre st0 (isBitsField bits)).cur).2 }
          (isBitsField bits) ((fieldType ty).size cfg) (elementType (fieldType ty))) = .ok p →
      plan = preOf st0 (isBitsField bits) ++ fl ++
        (alignToField cfg al ⟨name, ty, hdOff offs⟩ (afterPre st0 (isBitsField bits)).cur).1 ++ [.sub name] ++ p →
      GenStep cfg al name ty bits rest offs st0 plan
  /-- a bit-field -/
  | bits (sz : Nat) (fl p : Plan) :
      ¬ (isStructTy (fieldType ty) = true ∨ isSubArray (fieldType ty) ((fieldType ty).size cfg) = true) →
      isBitsField bits = true → (fieldType ty).size cfg = some sz →
      flush cfg al (bitsState (afterPre st0 true) (fieldType ty) sz (bits.getD 0)) = .ok fl →
      genFields cfg al rest (offs.drop 1)
        (advance { (bitsState (afterPre st0 true) (fieldType ty) sz (bits.getD 0)) with block := [], cur := (alignToField cfg al ⟨name, ty, hdOff offs⟩ (bitsState (afterPre st0 true) (fieldType ty) sz (bits.getD 0)).cur).2 }
          true (some sz) (elementType (fieldType ty))) = .ok p →
      plan = preOf st0 true ++ fl ++
        (alignToField cfg al ⟨name, ty, hdOff offs⟩ (bitsState (afterPre st0 true) (fieldType ty) sz (bits.getD 0)).cur).1 ++
        [.bits name (bits.getD 0) (bitsViaOf ty)] ++ p →
      GenStep cfg al name ty bits rest offs st0 plan
  /-- a member that joins the pending block -/
  | block (fl p : Plan) :
      ¬ (isStructTy (fieldType ty) = true ∨ isSubArray (fieldType ty) ((fieldType ty).size cfg) = true) →
      isBitsField bits = false →
      (if al = true ∧ (hdOff offs).isNone = true then flush cfg al (afterPre st0 false) else .ok []) = .ok fl →
      genFields cfg al rest (offs.drop 1)
        (advance (blockState al (afterPre st0 false) ⟨name, ty, hdOff offs⟩) false ((fieldType ty).size cfg)
          (elementType (fieldType ty))) = .ok p →
      plan = preOf st0 false ++ fl ++ p →
      GenStep cfg al name ty bits rest offs st0 plan

theorem genFields_nil_ok {cfg : Cfg} {al : Bool} {offs : List (Option Nat)} {st : GState} {plan : Plan}
    (h : genFields cfg al .nil offs st = .ok plan) :
    ∃ fl, flush cfg al st = .ok fl ∧ plan = fl ++ (if al = true then [.alignCls] else []) := by
  rw [genFields] at h
  cases hfl : flush cfg al st with
  | error e => rw [hfl] at h; cases h
  | ok fl => rw [hfl] at h; cases h; exact ⟨fl, rfl, rfl⟩

theorem genFields_cons_ok {cfg : Cfg} {al : Bool} {name : String} {an : Bool} {ty : Ty} {bits : Option Nat} {rest : Fields}
    {offs : List (Option Nat)} {st0 : GState} {plan : Plan}
    (h : genFields cfg al (.cons name an ty bits rest) offs st0 = .ok plan) :
    unsupported (fieldType ty) = false ∧ ¬ (isPtrTy (elementType (fieldType ty)) = true ∧ ¬ isPacked cfg.ptr = true) ∧
      GenStep cfg al name ty bits rest offs st0 plan := by
  rw [genFields] at h
  dsimp only at h
  by_cases h1 : unsupported (fieldType ty) = true
  · rw [if_pos h1] at h; cases h
  rw [if_neg h1] at h
  by_cases h2 : isPtrTy (elementType (fieldType ty)) = true ∧ ¬ isPacked cfg.ptr = true
  · rw [if_pos h2] at h; cases h
  rw [if_neg h2] at h
  refine ⟨by simpa using h1, h2, ?_⟩
  by_cases h3 : isStructTy (fieldType ty) = true ∨ isSubArray (fieldType ty) ((fieldType ty).size cfg) = true
  · rw [if_pos h3] at h
    cases hfl : flush cfg al (afterPre st0 (isBitsField bits)) with
    | error e => rw [hfl] at h; cases h
    | ok fl =>
      rw [hfl] at h
      dsimp only at h
      split at h
      · cases h
      · rename_i p hp
        cases h
        exact .sub fl p h3 hfl hp rfl
  rw [if_neg h3] at h
  cases hB : isBitsField bits with
  | true =>
    rw [hB] at h
    simp only [if_true] at h
    cases hsz : (fieldType ty).size cfg with
    | none => rw [hsz] at h; cases h
    | some sz =>
      rw [hsz] at h
      dsimp only at h
      cases hfl : flush cfg al (bitsState (afterPre st0 true) (fieldType ty) sz (bits.getD 0)) with
      | error e => rw [hfl] at h; cases h
      | ok fl =>
        rw [hfl] at h
        dsimp only at h
        split at h
        · cases h
        · rename_i p hp
          cases h
          exact .bits sz fl p h3 hB hsz hfl hp rfl
  | false =>
    rw [hB] at h
    simp only [Bool.false_eq_true, if_false] at h
    split at h
    · cases h
    · rename_i fl hfl
      split at h
      · cases h
      · rename_i p hp
        cases h
        exact .block fl p h3 hB hfl hp rfl

theorem genFields_noReset (cfg : Cfg) (al : Bool) : ∀ (fs : Fields) (offs : List (Option Nat)) (gst : GState) (plan : Plan),
    genFields cfg al fs offs gst = .ok plan → gst.prevBits = false → NoReset plan
  | .nil, offs, gst, plan, h, _ => by
    obtain ⟨fl, hfl, rfl⟩ := genFields_nil_ok h
    exact NoReset.append (flush_noReset cfg al gst fl hfl) (by cases al <;> simp [NoReset])
  | .cons name an ty bits rest, offs, gst, plan, h, hpb => by
    obtain ⟨_, _, hstep⟩ := genFields_cons_ok h
    cases hstep with
    | sub fl p _ hfl _ hplan =>
      rw [hplan, preOf_of_not _ _ hpb, List.nil_append]
      exact NoReset.append_left _ (NoReset.append (NoReset.append (flush_noReset _ _ _ _ hfl)
        (alignToField_noReset _ _ _ _)) (noReset_cons (by simp) _)) (by simp)
    | bits sz fl p _ _ _ hfl _ hplan =>
      rw [hplan, preOf_of_not _ _ hpb, List.nil_append]
      exact NoReset.append_left _ (NoReset.append (NoReset.append (flush_noReset _ _ _ _ hfl)
        (alignToField_noReset _ _ _ _)) (noReset_cons (by simp) _)) (by simp)
    | block fl p _ _ hfl hp hplan =>
      rw [hplan, preOf_of_not _ _ hpb, List.nil_append]
      rw [afterPre_of_not _ _ hpb] at hfl hp
      refine NoReset.append ?_ (genFields_noReset cfg al rest _ _ p hp ?_)
      · split at hfl
        · exact flush_noReset _ _ _ _ hfl
        · cases hfl; exact NoReset.nil
      · rw [advance_prevBits, blockState_prevBits, hpb]

theorem isPow2b_of_IsP2 {a : Nat} (h : IsP2 a) : isPow2b a = true := by
  obtain ⟨k, rfl⟩ := h
  simp [isPow2b, Nat.log2_two_pow]

/-- the validator's state after the statements of `align_to_field` for a member with layout offset `o` -/
def afterAlign (al : Bool) (fa : Nat) (o : Option Nat) (st : VSt) : VSt :=
  match o with
  | some oo => { st with spos := some oo, lastAlign := none }
  | none =>
    if al = true ∧ fa ≠ 1 then { st with spos := none, lastAlign := some fa } else st

theorem posOK_afterAlign (al : Bool) (fa : Nat) (o : Option Nat) (st : VSt) (hla : st.lastAlign = none) :
    posOK al (afterAlign al fa o st) o fa = true := by
  unfold afterAlign posOK
  cases o with
  | some oo => simp
  | none =>
    cases al with
    | false => simp [hla]
    | true =>
      by_cases h1 : fa = 1
      · simp [h1, hla]
      · simp [h1]

theorem align_step (cfg : Cfg) (al : Bool) (salign : Nat) (name : String) (an : Bool) (ty : Ty) (bits : Option Nat)
    (rest : Fields) (o : Option Nat) (offs' : List (Option Nat)) (cur : Option Nat) (st : VSt) (p : Plan)
    (hnv : ¬ (isVoid ty = true ∧ bits.isNone = true)) (hla : st.lastAlign = none)
    (hcur : ∀ oo, o = some oo → cur = some oo → st.spos = some oo)
    (hal : al = true → ty.alignment cfg ∣ salign ∧ IsP2 (ty.alignment cfg)) :
    planOKAux cfg al salign ((alignToField cfg al ⟨name, ty, o⟩ cur).1 ++ p) (.cons name an ty bits rest) (o :: offs') st =
      planOKAux cfg al salign p (.cons name an ty bits rest) (o :: offs') (afterAlign al (ty.alignment cfg) o st) := by
  unfold alignToField afterAlign
  cases o with
  | some oo =>
    simp only
    by_cases hne : some oo ≠ cur
    · rw [if_pos hne]
      simp only [List.cons_append, List.nil_append]
      rw [planOKAux_seek (fs := .cons name an ty bits rest) hnv, if_pos (by rfl)]
    · have hc : cur = some oo := by
        cases cur with
        | none => exact absurd (by simp) hne
        | some c =>
          simp only [ne_eq, Option.some.injEq, Decidable.not_not] at hne
          rw [hne]
      have hs := hcur oo rfl hc
      rw [if_neg hne, List.nil_append]
      congr 1
      obtain ⟨sp, la, un, di⟩ := st
      simp only at hs hla
      subst hs; subst hla
      rfl
  | none =>
    simp only
    cases hal' : al with
    | false => simp
    | true =>
      obtain ⟨hdvd, hp2⟩ := hal hal'
      simp only [if_true, true_and, List.cons_append, List.nil_append]
      have hpos := hp2.pos
      rw [planOKAux_align (fs := .cons name an ty bits rest) hnv, if_neg (by simp [hla]; omega)]
      by_cases h1 : ty.alignment cfg = 1
      · rw [if_pos h1, if_neg (by simp [h1])]
      · rw [if_neg h1, if_pos h1, if_neg (by simp)]

theorem readsStruct_elementType : ∀ t : Ty, readsStruct t = isStructTy (elementType t)
  | .sc _ _ => rfl
  | .enum _ _ _ => rfl
  | .ptr _ => rfl
  | .struct _ _ => rfl
  | .union _ _ => rfl
  | .arr e _ => by rw [readsStruct, elementType]; exact readsStruct_elementType e

theorem readsStruct_eq (ty : Ty) : readsStruct ty = isStructTy (elementType (fieldType ty)) := by
  cases ty with
  | enum b a f => rfl
  | sc s a => rfl
  | ptr t => rfl
  | struct al fs => rfl
  | union al fs => rfl
  | arr e l => exact readsStruct_elementType _

theorem sub_instr (cfg : Cfg) (al : Bool) (salign : Nat) (name : String) (an : Bool) (ty : Ty) (rest : Fields)
    (o : Option Nat) (offs' : List (Option Nat)) (st : VSt) (p : Plan)
    (hnv : isVoid ty = false) (hd : st.dirty = false) (hpos : posOK al st o (ty.alignment cfg) = true) :
    planOKAux cfg al salign (.sub name :: p) (.cons name an ty none rest) (o :: offs') st =
      planOKAux cfg al salign p rest offs'
        { spos := subSpos (readsStruct ty) o st.spos (ty.size cfg), lastAlign := none, unit := none, dirty := false } := by
  rw [planOKAux_sub (noVoid_of_not hnv), hdOff, hd, hpos]
  simp only [beq_self_eq_true, Bool.not_false, Bool.and_self, Bool.true_and, List.drop_one, List.tail_cons]

theorem bitsVia_of (cfg : Cfg) (al : Bool) (ty : Ty) (bits : Option Nat) (hwf : memberWF cfg al ty bits = true)
    (ft : Scalar) (hb : ty.bitBase = some ft) : bitsVia ty (bitsViaOf ty) = some ft := by
  cases ty with
  | sc s a =>
    simp only [Ty.bitBase, Option.some.injEq] at hb
    subst hb
    cases s <;> simp [bitsVia, bitsViaOf]
  | enum b a fl =>
    simp only [Ty.bitBase, Option.some.injEq] at hb
    subst hb
    simp only [memberWF, Bool.and_eq_true] at hwf
    have hi : isIntBase b = true := hwf.1.2
    cases b <;> simp [isIntBase] at hi <;> simp [bitsVia, bitsViaOf]
  | _ => simp [Ty.bitBase] at hb

theorem bits_instr (cfg : Cfg) (al : Bool) (salign : Nat) (name : String) (an : Bool) (ty : Ty) (b : Nat) (rest : Fields)
    (o : Option Nat) (offs' : List (Option Nat)) (st : VSt) (p : Plan) (ft : Scalar) (fsz : Nat) (nu : Bool) (rem0 : Nat)
    (hvia : bitsVia ty (bitsViaOf ty) = some ft) (hbb : ty.bitBase = some ft) (hsz : ft.size = some fsz)
    (hpos : posOK al st o (ty.alignment cfg) = true)
    (hnu : unitNew st.unit ft = nu)
    (hrem : rem0 = if nu = true then fsz * 8 else unitRem st.unit)
    (hfit : b + 1 ≤ rem0) :
    planOKAux cfg al salign (.bits name (b + 1) (bitsViaOf ty) :: p) (.cons name an ty (some (b + 1)) rest) (o :: offs') st =
      planOKAux cfg al salign p rest offs'
        { spos := bitsSpos st.spos nu fsz, lastAlign := none, unit := some (ft, rem0 - (b + 1)), dirty := true } := by
  subst hnu
  subst hrem
  rw [planOKAux_bits hvia hbb hsz, hdOff, hpos, decide_eq_true hfit]
  have h0 : (b + 1 != 0) = true := by simp
  simp only [beq_self_eq_true, Bool.true_and, Nat.succ_eq_add_one, h0, Bool.and_self, List.drop_one, List.tail_cons]

end Cstruct.Compiler
