/-
  Element types that make progress (the class `consumes` of `Proofs/Spec/C07Null.lean`): how far the scalar,
  array and loop readers advance, given how far the element reader does.
-/
import Proofs.Lemmas.C07Null
namespace Cstruct.C07.Lemmas
open Cstruct Cstruct.C07 Cstruct.Core.Lemmas

def Str (cfg : Cfg) (t : Ty) : Prop := ∀ ctx d p v q, read cfg t ctx d p = .ok (v, q) → p < q ∧ p < d.length

def Adv (cfg : Cfg) (t : Ty) : Prop := ∀ ctx d, Advances (consumes cfg t = true) d.length (read cfg t ctx d)

theorem adv_sc (cfg : Cfg) (s a) : Adv cfg (.sc s a) := by
  intro ctx d p v q h
  rw [read_sc] at h
  obtain ⟨h1, h2⟩ := readScalar_advances cfg s d p v q h
  exact ⟨h1, fun hc => h2 (by simpa [consumes] using hc)⟩

theorem adv_enum (cfg : Cfg) (b a f) : Adv cfg (.enum b a f) := by
  intro ctx d p v q h
  rw [read_enum] at h
  obtain ⟨h1, h2⟩ := (readScalar_advances cfg b d).wrapInt .enum p v q h
  exact ⟨h1, fun hc => h2 (by simpa [consumes] using hc)⟩

theorem adv_ptr (cfg : Cfg) (t) : Adv cfg (.ptr t) := by
  intro ctx d p v q h
  rw [read_ptr] at h
  obtain ⟨h1, h2⟩ := (readScalar_advances cfg cfg.ptr d).wrapInt .ptr p v q h
  exact ⟨h1, fun hc => h2 (by simpa [consumes] using hc)⟩

theorem readN_adv {cfg : Cfg} {t : Ty} {ctx : Ctx} {d : Bytes} {c : Prop} {L : Nat} (hA : Advances c L (read cfg t ctx d)) :
    ∀ (n pos : Nat) (vs : Vals) (q : Nat), readN cfg t n ctx d pos = .ok (vs, q) →
      pos ≤ q ∧ (c → n ≠ 0 → pos < q ∧ pos < L)
  | 0, pos, vs, q, h => by rw [readN_zero] at h; cases h; exact ⟨Nat.le_refl _, fun _ h0 => absurd rfl h0⟩
  | n + 1, pos, vs, q, h => by
    rw [readN_succ] at h
    obtain ⟨⟨v, p1⟩, h1, h2⟩ := bind_ok h
    obtain ⟨⟨vs', q'⟩, h3, h4⟩ := bind_ok h2
    cases h4
    obtain ⟨a1, a2⟩ := hA _ _ _ h1
    obtain ⟨b1, _⟩ := readN_adv hA n _ _ _ h3
    exact ⟨by omega, fun hc _ => by have := a2 hc; omega⟩

theorem reads_fwd {rd : Nat → Except Err (Val × Nat)} {c : Prop} {L : Nat} (hA : Advances c L rd) {p vs p'}
    (h : Reads rd p vs p') : p ≤ p' := by
  induction h with
  | nil => exact Nat.le_refl _
  | cons h1 _ ih => exact Nat.le_trans (hA _ _ _ h1).1 ih

theorem stopsAt_adv {rd : Nat → Except Err (Val × Nat)} {term : Val → Bool} {c : Prop} {L : Nat} (hA : Advances c L rd)
    {p vs q} (h : StopsAt rd term p vs q) : p ≤ q ∧ (c → p < q ∧ p < L) := by
  obtain ⟨p', t, hr, _, hrd, _⟩ := h
  obtain ⟨a1, a2⟩ := hA _ _ _ hrd
  cases hr with
  | nil => exact ⟨a1, a2⟩
  | cons h1 h2 =>
    obtain ⟨b1, b2⟩ := hA _ _ _ h1
    have := reads_fwd hA h2
    exact ⟨by omega, fun hc => by have := b2 hc; omega⟩

theorem elemRead_advances {cfg : Cfg} {e : Ty} (hA : Adv cfg e) (ctx : Ctx) (d : Bytes) :
    Advances (consumes cfg e = true) d.length (elemRead cfg e ctx d) := by
  intro p v q h
  unfold elemRead at h
  split at h
  · split at h
    · rename_i bs q' h1
      cases h
      obtain ⟨rfl, _, _⟩ := readExact_span h1
      exact ⟨by omega, fun _ => by omega⟩
    · cases h
  · exact hA ctx d p v q h

theorem read0_loop_adv {cfg : Cfg} {e : Ty} (he : nullLoopElem e = true) (hA : Adv cfg e) {ctx : Ctx} {d : Bytes}
    {pos : Nat} {v : Val} {q : Nat} (h : read0 cfg e ctx d pos = .ok (v, q)) :
    pos ≤ q ∧ (consumes cfg e = true → pos < q ∧ pos < d.length) := by
  rw [read0_eq_loop cfg e ctx d pos he] at h
  obtain ⟨vs, h1, _⟩ := packRes_ok_iff.1 h
  exact stopsAt_adv (elemRead_advances hA ctx d) ((loop_ok_iff _ _ _ _).1 h1).1

theorem read0_sc_adv (cfg : Cfg) (s : Scalar) (a : Nat) {ctx : Ctx} {d : Bytes} {pos : Nat} {v : Val} {q : Nat}
    (h : read0 cfg (.sc s a) ctx d pos = .ok (v, q)) :
    pos ≤ q ∧ (consumes cfg (.sc s a) = true → pos < q ∧ pos < d.length) := by
  by_cases hv : s = .void
  · subst hv
    rw [read0.eq_1] at h
    cases h
    exact ⟨Nat.le_refl _, nofun⟩
  · exact read0_loop_adv (by cases s <;> first | rfl | exact absurd rfl hv) (adv_sc cfg s a) h

theorem read0_adv {cfg : Cfg} {e : Ty} (hA : Adv cfg e) {ctx : Ctx} {d : Bytes} {pos : Nat} {v : Val} {q : Nat}
    (h : read0 cfg e ctx d pos = .ok (v, q)) : pos ≤ q ∧ (consumes cfg e = true → pos < q ∧ pos < d.length) := by
  cases e with
  | sc s a => exact read0_sc_adv cfg s a h
  | enum b a f =>
    -- the loop of an enum is the loop of its base type
    rw [read0.eq_2] at h
    cases h1 : readScalarNullTerm cfg b d pos with
    | error e => rw [h1] at h; cases h
    | ok r =>
      obtain ⟨v', q'⟩ := r
      rw [h1] at h
      cases v' <;> cases h
      exact read0_sc_adv cfg b a (ctx := ctx) ((read0.eq_1 ..).trans h1)
  | struct al fs => exact read0_loop_adv rfl hA h
  | union al fs => exact read0_loop_adv rfl hA h
  | ptr t => rw [read0.eq_5] at h <;> first | cases h | (intros; contradiction)
  | arr e' l => rw [read0.eq_5] at h <;> first | cases h | (intros; contradiction)

theorem adv_loopElem {cfg : Cfg} {e : Ty} (hA : Adv cfg e) : Adv cfg (loopElem e) := by
  cases e <;> first | exact hA | exact adv_sc cfg _ _

theorem readArray_adv {cfg : Cfg} {e : Ty} (hA : Adv cfg e) {n : Nat} {ctx : Ctx} {d : Bytes} {pos : Nat} {v : Val}
    {q : Nat} (h : readArray cfg e n ctx d pos = .ok (v, q)) :
    pos ≤ q ∧ (consumes cfg e = true → n ≠ 0 → pos < q ∧ pos < d.length) := by
  rcases readArray_inv h with ⟨s, a, w, he, h1, _⟩ | ⟨vs, h1, _⟩
  · obtain ⟨_, k, hk, rfl, hle⟩ := readScalarArray_ok h1
    refine ⟨Nat.le_add_right _ _, fun hc hn => ?_⟩
    have : k ≠ 0 := by rcases he with rfl | ⟨f, rfl⟩ <;> simpa [consumes, hk] using hc
    have := Nat.mul_pos (Nat.pos_of_ne_zero this) (Nat.pos_of_ne_zero hn)
    omega
  · obtain ⟨h2, h3⟩ := readN_adv (adv_loopElem hA ctx d) n pos vs q h1
    exact ⟨h2, fun hc => h3 (by cases e <;> exact hc)⟩

theorem readWhileData_fwd {cfg : Cfg} {t : Ty} (hA : Adv cfg t) (ctx : Ctx) (d : Bytes) :
    ∀ (f pos : Nat) (vs : Vals) (q : Nat), readWhileData cfg t ctx d f pos = .ok (vs, q) → pos ≤ q
  | 0, pos, vs, q, h => by rw [readWhileData] at h; cases h
  | f + 1, pos, vs, q, h => by
    rw [readWhileData] at h
    split at h
    · cases h; exact Nat.le_refl _
    · cases h1 : read cfg t ctx d pos with
      | error e => rw [h1] at h; cases h
      | ok r =>
        obtain ⟨v, p1⟩ := r
        rw [h1] at h
        simp only [] at h
        cases h2 : readWhileData cfg t ctx d f p1 with
        | error e => rw [h2] at h; cases h
        | ok r2 =>
          rw [h2] at h
          cases h
          exact Nat.le_trans (hA _ _ _ _ _ h1).1 (readWhileData_fwd hA ctx d f p1 _ _ h2)

theorem readScalarArrayEOF_end {cfg : Cfg} {s : Scalar} {d : Bytes} {pos : Nat} {v : Val} {q : Nat}
    (h : readScalarArrayEOF cfg s d pos = some (.ok (v, q))) : q = max pos d.length := by
  cases s with
  | pint k sg | pflt k =>
    simp only [readScalarArrayEOF, Option.some.injEq] at h
    split at h
    · cases h
    · split at h <;> cases h
      rfl
  | char => cases h; rfl
  | wchar =>
    simp only [readScalarArrayEOF, Option.some.injEq] at h
    split at h
    · cases h
    · split at h <;> cases h
      rfl
  | aint k sg | leb sg | void => cases h

theorem readEOF_fwd {cfg : Cfg} {e : Ty} (hA : Adv cfg e) {ctx : Ctx} {d : Bytes} {pos : Nat} {v : Val} {q : Nat}
    (h : readEOF cfg e ctx d pos = .ok (v, q)) : pos ≤ q := by
  have bulk : ∀ {s w}, readScalarArrayEOF cfg s d pos = some (.ok (w, q)) → pos ≤ q :=
    fun hx => readScalarArrayEOF_end hx ▸ Nat.le_max_left _ _
  have other : ∀ {t}, Adv cfg t →
      ((readWhileData cfg t ctx d (d.length - pos + 1) pos).map fun (vs, p) => (Val.list vs, p)) = .ok (v, q) →
      pos ≤ q := by
    intro t hAt h
    obtain ⟨⟨vs, q'⟩, h1, h2⟩ := map_ok h
    cases h2
    exact readWhileData_fwd hAt ctx d _ _ _ _ h1
  cases e with
  | sc s a =>
    rw [readEOF.eq_1] at h
    cases hx : readScalarArrayEOF cfg s d pos with
    | some x => rw [hx] at h; subst h; exact bulk hx
    | none => rw [hx] at h; exact other hA h
  | enum b a f =>
    rw [readEOF.eq_2] at h
    cases hx : readScalarArrayEOF cfg b d pos with
    | some x =>
      rw [hx] at h
      cases x with
      | error e => cases h
      | ok x =>
        obtain ⟨w, p⟩ := x
        cases w <;> cases h
        exact bulk hx
    | none =>
      rw [hx] at h
      cases h1 : readWhileData cfg (.sc b a) ctx d (d.length - pos + 1) pos with
      | error e => rw [h1] at h; cases h
      | ok x => rw [h1] at h; cases h; exact readWhileData_fwd (adv_sc cfg b a) ctx d _ _ _ _ h1
  | ptr _ | arr _ _ | struct _ _ | union _ _ =>
    rw [readEOF.eq_3] at h
    · exact other hA h
    all_goals (intros; contradiction)

end Cstruct.C07.Lemmas
