/-
  The array readers and writers of the model: `readExact`, element counts, `readArray` as bulk read or element loop,
  `x[EOF]`, `writeN` over appended lists and `_write_0`.
-/
import Proofs.Spec.C07
import Proofs.Core
namespace Cstruct.C07.Lemmas
open Cstruct Cstruct.C07 Cstruct.Core.Lemmas

theorem readExact_err_of_lt {d : Bytes} {pos n : Nat} (h : d.length - pos < n) :
    readExact d pos n = .error .eof := by
  unfold readExact
  have : (sread d pos n).length ≠ n := by rw [sread_length]; omega
  simp [this]

theorem readExact_err {d : Bytes} {pos n : Nat} {e} (h : readExact d pos n = .error e) :
    e = .eof ∧ d.length - pos < n := by
  by_cases hl : n ≤ d.length - pos
  · rw [readExact_of_len (by rw [sread_length]; omega)] at h; cases h
  · rw [readExact_err_of_lt (by omega)] at h; cases h; exact ⟨rfl, by omega⟩

theorem splitEvery_length (k : Nat) : ∀ (n : Nat) (bs : Bytes), (splitEvery k n bs).length = n := by
  intro n
  induction n with
  | zero => intro bs; rfl
  | succ n ih => intro bs; simp only [splitEvery, List.length_cons, ih]

theorem ofList_length : ∀ l : List Val, (Vals.ofList l).length = l.length := by
  intro l
  induction l with
  | nil => rfl
  | cons a r ih => simp only [Vals.ofList, Vals.length, List.length_cons, ih]

theorem ofList_toList : ∀ l : List Val, (Vals.ofList l).toList = l := by
  intro l
  induction l with
  | nil => rfl
  | cons a r ih => simp only [Vals.ofList, Vals.toList, ih]

theorem vals_ofList_toList : ∀ vs : Vals, Vals.ofList vs.toList = vs := by
  intro vs
  induction vs using Vals.rec (motive_1 := fun _ => True) with
  | nil => rfl
  | cons v r _ ih => simp only [Vals.toList, Vals.ofList, ih]
  | _ => trivial

theorem mapEnum_length : ∀ vs : Vals, vs.mapEnum.length = vs.length := by
  intro vs
  induction vs using Vals.rec (motive_1 := fun _ => True) with
  | nil => rfl
  | cons v r _ ih =>
    cases v <;> simp only [Vals.mapEnum, Vals.length, ih]
  | _ => trivial

theorem unitsOf_length (e : Endian) : ∀ (n : Nat) (bs : Bytes), bs.length = 2 * n → (unitsOf e bs).length = n := by
  intro n
  induction n with
  | zero =>
    intro bs h
    have : bs = [] := List.eq_nil_of_length_eq_zero (by omega)
    subst this; rfl
  | succ n ih =>
    intro bs h
    match bs, h with
    | a :: b :: r, h =>
      simp only [unitsOf, List.length_cons]
      rw [ih r (by simp only [List.length_cons] at h; omega)]

theorem readN_length (cfg : Cfg) (t : Ty) (ctx : Ctx) (d : Bytes) :
    ∀ (n pos : Nat) (vs : Vals) (p : Nat), readN cfg t n ctx d pos = .ok (vs, p) → vs.length = n := by
  intro n
  induction n with
  | zero =>
    intro pos vs p h
    rw [readN_zero] at h
    cases h; rfl
  | succ n ih =>
    intro pos vs p h
    rw [readN_succ] at h
    obtain ⟨⟨v, p1⟩, _, h2⟩ := bind_ok h
    obtain ⟨⟨vs', p'⟩, h3, h4⟩ := bind_ok h2
    cases h4
    simp only [Vals.length, ih _ _ _ h3]

theorem readScalarArray_ok {cfg : Cfg} {s : Scalar} {n : Nat} {d : Bytes} {pos : Nat} {v : Val} {q : Nat}
    (h : readScalarArray cfg s n d pos = some (.ok (v, q))) :
    count v = n ∧ ∃ k, s.size = some k ∧ q = pos + k * n ∧ k * n ≤ d.length - pos := by
  cases s with
  | pint k sg =>
    obtain ⟨⟨bs, q'⟩, h1, h2⟩ := bind_ok (Option.some.inj h)
    cases h2
    obtain ⟨rfl, _, hle⟩ := readExact_span h1
    exact ⟨by simp only [count, Vals.ofInts, ofList_length, List.length_map, splitEvery_length], k, rfl, rfl, hle⟩
  | pflt k =>
    obtain ⟨⟨bs, q'⟩, h1, h2⟩ := bind_ok (Option.some.inj h)
    cases h2
    obtain ⟨rfl, _, hle⟩ := readExact_span h1
    exact ⟨by simp only [count, ofList_length, List.length_map, splitEvery_length], k, rfl, rfl, hle⟩
  | char =>
    simp only [readScalarArray, Option.some.injEq] at h
    split at h
    · rename_i h0; cases h; subst h0; exact ⟨rfl, 1, rfl, rfl, Nat.zero_le _⟩
    · obtain ⟨⟨bs, q'⟩, h1, h2⟩ := bind_ok h
      cases h2
      obtain ⟨rfl, hl, hle⟩ := readExact_span h1
      exact ⟨hl, 1, rfl, by rw [Nat.one_mul], by rw [Nat.one_mul]; exact hle⟩
  | wchar =>
    simp only [readScalarArray, Option.some.injEq] at h
    split at h
    · rename_i h0; cases h; subst h0; exact ⟨rfl, 2, rfl, rfl, Nat.zero_le _⟩
    · obtain ⟨⟨bs, q'⟩, h1, h2⟩ := bind_ok h
      obtain ⟨w, h3, h4⟩ := bind_ok h2
      cases h4
      obtain ⟨rfl, hl, hle⟩ := readExact_span h1
      refine ⟨?_, 2, rfl, rfl, hle⟩
      unfold decodeWchar at h3
      simp only [] at h3
      split at h3
      · cases h3
      · split at h3 <;> cases h3
        exact unitsOf_length _ _ _ hl
  | aint k sg => cases h
  | leb sg => cases h
  | void => cases h

theorem readArray_other (cfg : Cfg) (e : Ty) (n : Nat) (ctx : Ctx) (d : Bytes) (pos : Nat)
    (h1 : ∀ s a, e ≠ .sc s a) (h2 : ∀ b a f, e ≠ .enum b a f) :
    readArray cfg e n ctx d pos = (readN cfg e n ctx d pos).map fun (vs, p) => (.list vs, p) := by
  rw [readArray.eq_3 _ _ _ _ _ _ (by intro s a h; exact h1 s a h) (by intro b a f h; exact h2 b a f h)]

/-- the element type whose reader the array loops run: an array of enums is read through the base type -/
def loopElem : Ty → Ty
  | .enum b a _ => .sc b a
  | t => t

theorem readArray_inv {cfg : Cfg} {e : Ty} {n : Nat} {ctx : Ctx} {d : Bytes} {pos : Nat} {v : Val} {q : Nat}
    (h : readArray cfg e n ctx d pos = .ok (v, q)) :
    (∃ s a w, (e = .sc s a ∨ ∃ f, e = .enum s a f) ∧ readScalarArray cfg s n d pos = some (.ok (w, q)) ∧
      count v = count w) ∨
    (∃ vs, readN cfg (loopElem e) n ctx d pos = .ok (vs, q) ∧ count v = vs.length) := by
  have other : ((readN cfg e n ctx d pos).map fun (vs, p) => (Val.list vs, p)) = .ok (v, q) →
      ∃ vs, readN cfg e n ctx d pos = .ok (vs, q) ∧ count v = vs.length := by
    intro h
    obtain ⟨⟨vs, q'⟩, h1, h2⟩ := map_ok h
    cases h2
    exact ⟨vs, h1, rfl⟩
  cases e with
  | sc s a =>
    rw [readArray.eq_1] at h
    cases hx : readScalarArray cfg s n d pos with
    | some x => rw [hx] at h; subst h; exact .inl ⟨s, a, v, .inl rfl, hx, rfl⟩
    | none => rw [hx] at h; exact .inr (other h)
  | enum b a f =>
    rw [readArray.eq_2] at h
    cases hx : readScalarArray cfg b n d pos with
    | some x =>
      rw [hx] at h
      cases x with
      | error e => cases h
      | ok x =>
        obtain ⟨w, p⟩ := x
        cases w <;> cases h
        exact .inl ⟨b, a, _, .inr ⟨f, rfl⟩, hx, mapEnum_length _⟩
    | none =>
      rw [hx] at h
      cases h1 : readN cfg (.sc b a) n ctx d pos with
      | error e => rw [h1] at h; cases h
      | ok x => rw [h1] at h; cases h; exact .inr ⟨_, h1, mapEnum_length _⟩
  | ptr _ | arr _ _ | struct _ _ | union _ _ =>
    rw [readArray_other cfg _ n ctx d pos (by intros; nofun) (by intros; nofun)] at h
    exact .inr (other h)

theorem readArray_count (cfg : Cfg) (e : Ty) (n : Nat) (ctx : Ctx) (d : Bytes) (pos : Nat) (v : Val) (p : Nat)
    (h : readArray cfg e n ctx d pos = .ok (v, p)) : count v = n := by
  rcases readArray_inv h with ⟨s, a, w, _, h1, h2⟩ | ⟨vs, h1, h2⟩
  · exact h2.trans (readScalarArray_ok h1).1
  · exact h2.trans (readN_length cfg _ ctx d _ _ _ _ h1)

theorem readN_mem (cfg : Cfg) (t : Ty) (ctx : Ctx) (d : Bytes) :
    ∀ (n pos : Nat) (vs : Vals) (p : Nat), readN cfg t n ctx d pos = .ok (vs, p) →
      ∀ r ∈ vs.toList, ∃ pos' p', read cfg t ctx d pos' = .ok (r, p') := by
  intro n
  induction n with
  | zero =>
    intro pos vs p h
    rw [readN_zero] at h
    cases h
    intro r hr; simp [Vals.toList] at hr
  | succ n ih =>
    intro pos vs p h
    rw [readN_succ] at h
    obtain ⟨⟨v, p1⟩, h1, h2⟩ := bind_ok h
    obtain ⟨⟨vs', p'⟩, h3, h4⟩ := bind_ok h2
    cases h4
    intro r hr
    simp only [Vals.toList, List.mem_cons] at hr
    rcases hr with rfl | hr
    · exact ⟨_, _, h1⟩
    · exact ih _ _ _ h3 r hr

theorem writeN_ok_mem (cfg : Cfg) (t : Ty) (vs : Vals) : ∀ (pos : Nat) (bs : Bytes), writeN cfg t vs pos = .ok bs →
    ∀ v ∈ vs.toList, ∃ p b, write cfg t v p = .ok b := by
  induction vs using Vals.rec (motive_1 := fun _ => True) with
  | nil => intro pos bs _ v hv; cases hv
  | cons v r _ ih =>
    intro pos bs h w hw
    rw [writeN_cons] at h
    obtain ⟨a, h1, h2⟩ := bind_ok h
    obtain ⟨b, h3, _⟩ := bind_ok h2
    rcases List.mem_cons.1 hw with rfl | hw
    · exact ⟨pos, a, h1⟩
    · exact ih _ b h3 w hw
  | _ => trivial

theorem evalLen_ok (cfg : Cfg) (toks : List String) (ctx : Ctx) (x : Int)
    (hx : (Expr.Obj.evaluate ⟨toks⟩ { ctx := Ctx.ints ctx, consts := cfg.consts, sizeof := fun _ => .error .resolve }).2 = .ok x) :
    evalLen cfg toks ctx = .ok x.toNat := by
  unfold evalLen
  simp only [hx]

theorem readN_bulk_error {cfg : Cfg} {s : Scalar} {k : Nat} {dec : Bytes → Val} (hB : Bulk cfg s k dec) (a : Nat) (ctx : Ctx)
    (d : Bytes) : ∀ (n pos : Nat) (e : Err), readN cfg (.sc s a) n ctx d pos = .error e →
      e = .eof ∧ d.length - pos < k * n
  | 0, pos, e, h => by rw [readN_zero] at h; cases h
  | n + 1, pos, e, h => by
    rw [readN_succ, read_sc, hB.1] at h
    have hk : k * (n + 1) = k * n + k := Nat.mul_succ k n
    cases h1 : readExact d pos k with
    | error e1 =>
      rw [h1] at h
      cases h
      obtain ⟨rfl, hlt⟩ := readExact_err h1
      exact ⟨rfl, by rw [hk]; omega⟩
    | ok r =>
      rw [h1] at h
      obtain ⟨bs, q⟩ := r
      obtain ⟨rfl, _, hle⟩ := readExact_span h1
      simp only [Except.bind] at h
      cases h2 : readN cfg (.sc s a) n ctx d (pos + k) with
      | error e2 =>
        rw [h2] at h
        cases h
        obtain ⟨rfl, hlt⟩ := readN_bulk_error hB a ctx d n _ _ h2
        exact ⟨rfl, by rw [hk]; omega⟩
      | ok r2 => rw [h2] at h; cases h

theorem readArray_bulk {cfg : Cfg} {s : Scalar} {k : Nat} {dec : Bytes → Val} (hB : Bulk cfg s k dec) (a n : Nat) (ctx : Ctx)
    (d : Bytes) (pos : Nat) :
    readArray cfg (.sc s a) n ctx d pos = (readN cfg (.sc s a) n ctx d pos).map (fun (vs, p) => (Val.list vs, p)) := by
  rw [readArray.eq_1]
  cases h : readN cfg (.sc s a) n ctx d pos with
  | ok r =>
    obtain ⟨vs, p⟩ := r
    rw [readScalarArray_of_readN cfg _ a k _ hB ctx d n pos vs p h]
    rfl
  | error e =>
    obtain ⟨rfl, hlt⟩ := readN_bulk_error hB a ctx d n pos e h
    rw [hB.2, readExact_err_of_lt hlt]
    rfl

theorem read_arr_eof (cfg : Cfg) (e ctx data pos) :
    read cfg (.arr e .eof) ctx data pos = readEOF cfg e ctx data pos := by
  rw [read]

theorem readEOF_pint (cfg : Cfg) (k : Nat) (sg : Bool) (a : Nat) (ctx : Ctx) (d : Bytes) (pos : Nat) (hk : 0 < k) :
    readEOF cfg (.sc (.pint k sg) a) ctx d pos =
      if (d.length - pos) % k ≠ 0 then .error .eof
      else .ok (.list (Vals.ofInts ((splitEvery k ((d.length - pos) / k) (d.drop pos)).map (decodeInt cfg.endian sg))),
        max pos d.length) := by
  rw [readEOF.eq_1]
  have : k ≠ 0 := by omega
  simp only [readScalarArrayEOF, this, if_false, List.length_drop]

theorem write_arr_null_chars (cfg : Cfg) (a b pos) :
    write cfg (.arr (.sc .char a) .nullTerm) (.bytes b) pos = .ok (b ++ [0]) := by
  rw [write]

theorem default_pint (cfg : Cfg) (k sg a) : (Ty.sc (.pint k sg) a).default cfg = .int 0 := by
  rw [Ty.default]; rfl

theorem ofList_snoc : ∀ (l : List Val) (v : Val), (Vals.ofList l).snoc v = Vals.ofList (l ++ [v]) := by
  intro l v
  induction l with
  | nil => rfl
  | cons a r ih => simp only [Vals.ofList, Vals.snoc, List.cons_append, ih]

theorem writeN_app (cfg : Cfg) (t : Ty) : ∀ (l m : List Val) (pos : Nat),
    writeN cfg t (Vals.ofList (l ++ m)) pos =
      (writeN cfg t (Vals.ofList l) pos).bind fun a =>
        (writeN cfg t (Vals.ofList m) (pos + a.length)).bind fun b => .ok (a ++ b) := by
  intro l
  induction l with
  | nil =>
    intro m pos
    simp only [List.nil_append, Vals.ofList]
    rw [writeN_nil]
    simp only [Except.bind, List.length_nil, Nat.add_zero, List.nil_append]
    cases writeN cfg t (Vals.ofList m) pos <;> rfl
  | cons v l ih =>
    intro m pos
    simp only [List.cons_append, Vals.ofList]
    rw [writeN_cons, writeN_cons]
    cases write cfg t v pos with
    | error e => rfl
    | ok a =>
      simp only [Except.bind]
      rw [ih]
      cases writeN cfg t (Vals.ofList l) (pos + a.length) with
      | error e => rfl
      | ok b =>
        simp only [Except.bind, List.length_append, Nat.add_assoc]
        cases writeN cfg t (Vals.ofList m) (pos + (a.length + b.length)) with
        | error e => rfl
        | ok c => simp only [List.append_assoc]

theorem writeN_single (cfg : Cfg) (t : Ty) (v : Val) (pos : Nat) :
    writeN cfg t (Vals.ofList [v]) pos = write cfg t v pos := by
  simp only [Vals.ofList]
  rw [writeN_cons]
  cases write cfg t v pos with
  | error e => rfl
  | ok a => simp only [Except.bind]; rw [writeN_nil]; simp

theorem write_null_list (cfg : Cfg) (e : Ty) (vs : List Val) (pos : Nat) :
    write cfg (.arr e .nullTerm) (.list (Vals.ofList vs)) pos =
      (writeN cfg e (Vals.ofList vs) pos).bind fun body =>
        (write cfg e (e.default cfg) (pos + body.length)).bind fun t => .ok (body ++ t) := by
  rw [write_arr_null_list, ofList_snoc, writeN_app]
  simp only [writeN_single]

theorem write_pint_zero (cfg : Cfg) (k sg a pos last)
    (h : write cfg (.sc (.pint k sg) a) (.int 0) pos = .ok last) : encodeInt cfg.endian k sg 0 = some last := by
  rw [write_sc] at h
  simp only [writeScalar] at h
  split at h
  · cases h; assumption
  · cases h

end Cstruct.C07.Lemmas
