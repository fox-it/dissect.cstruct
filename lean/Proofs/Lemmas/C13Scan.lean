/-
  C13, definition parser — the scan of an admissible text is its expected token list (`scan_render`): the alternation `matchTok`
  yields the lexeme's token at each lexeme (`matchTok_lexeme`), blank runs yield nothing, and the look-behind flag matters only
  in front of a name list (`scan_flag`), so the induction has one uniform step.
-/
import Proofs.Lemmas.C13Recognisers
import Proofs.Lemmas.C13Adm

namespace Cstruct.DefParser.C13
open Cstruct.DefParser

/-- the look-behind flag after passing the characters `x` -/
def lastClose (ac : Bool) (x : List Char) : Bool :=
  match x.getLast? with
  | some c => c == '}'
  | none => ac

theorem lastClose_cons (ac : Bool) (c : Char) (x : List Char) : lastClose ac (c :: x) = lastClose (c == '}') x := by
  cases x with
  | nil => rfl
  | cons d x => rw [lastClose, lastClose, List.getLast?_cons_cons, List.getLast?_eq_some_getLast (List.cons_ne_nil d x)]

theorem scanAux_skip : ∀ (x : List Char) (ac : Bool) (rest : List Char),
    scanAux x.length ac (x ++ rest) = scanAux 0 (lastClose ac x) rest
  | [], _, _ => rfl
  | c :: x, ac, rest => by rw [lastClose_cons, List.cons_append, List.length_cons, scanAux, scanAux_skip x]

theorem scan_tok (ac : Bool) (t : Tok) (l rest r' : List Char) (hm : matchTok ac l = some (t, r'))
    (hl : l = t.value ++ rest) (hne : t.value ≠ []) :
    scanAux 0 ac l = t :: scanAux 0 (lastClose ac t.value) rest := by
  obtain ⟨c, v, hv⟩ := List.exists_cons_of_ne_nil hne
  rw [hv] at hl
  subst hl
  rw [hv, lastClose_cons, List.cons_append, scanAux, ← List.cons_append, hm]
  simp only [hv, List.length_cons, Nat.add_sub_cancel]
  rw [scanAux_skip]

theorem lastClose_blank (ac : Bool) (w : List Char) (hw : blank w = true) (hne : w ≠ []) : lastClose ac w = false := by
  rw [lastClose, List.getLast?_eq_some_getLast hne]
  exact beq_false_of_ne (ne_of_class (List.all_eq_true.mp hw _ (List.getLast_mem hne)) '}' (by decide))

theorem scan_blank (ac : Bool) (w y : List Char) (hw : blank w = true) (hne : w ≠ []) (hy : noHead isWsA y = true)
    (hm : matchTok ac (w ++ y) = none) : scanAux 0 ac (w ++ y) = scanAux 0 false y := by
  obtain ⟨c, w, rfl⟩ := List.exists_cons_of_ne_nil hne
  obtain ⟨hc, hw'⟩ := (blank_cons c w).mp hw
  rw [List.cons_append, scanAux, ← List.cons_append, hm]
  simp only [hc, if_true]
  rw [(tw_app isWsA w y hw' hy).1, scanAux_skip]
  cases w with
  | nil => rfl
  | cons d w => rw [lastClose_blank false (d :: w) hw' (List.cons_ne_nil d w)]

/-- what the scanner needs to know about the first character of a lexeme -/
structure FirstOK (x : Lexeme) (c : Char) : Prop where
  nblank : isWsA c = false
  ncolon : c ≠ ':'
  ncomma : c ≠ ','
  nlbr : c ≠ '['
  nsemi : x ≠ .semi → c ≠ ';'
  word : isWord c = true → x.startsWord = true

theorem firstOK_word (x : Lexeme) (c : Char) (h : isWord c = true) (hs : x.startsWord = true) : FirstOK x c :=
  ⟨isWsA_of_word c h, ne_of_class h _ (by decide), ne_of_class h _ (by decide), ne_of_class h _ (by decide),
   fun _ => ne_of_class h _ (by decide), fun _ => hs⟩

theorem firstOK_punct (x : Lexeme) (c : Char) (h : c = '{' ∨ c = '}' ∨ c = '*' ∨ c = '#') : FirstOK x c := by
  rcases h with rfl | rfl | rfl | rfl <;>
    exact ⟨by decide, by decide, by decide, by decide, fun _ => by decide, fun h => absurd h (by decide)⟩

theorem text_first (x : Lexeme) (hwf : x.wf = true) (hd : x.isDefs = false) : ∃ c t, x.text = c :: t ∧ FirstOK x c := by
  cases x with
  | typedef => exact ⟨'t', _, rfl, firstOK_word _ _ (by decide) rfl⟩
  | struct u => cases u <;> exact ⟨_, _, rfl, firstOK_word _ _ (by decide) rfl⟩
  | ident v =>
    cases v with
    | nil => cases hwf
    | cons c v =>
      simp only [Lexeme.wf, Bool.and_eq_true] at hwf
      exact ⟨c, v, rfl, firstOK_word _ _ (idStart_word c hwf.1.1) rfl⟩
  | lbrace => exact ⟨'{', [], rfl, firstOK_punct _ _ (.inl rfl)⟩
  | rbrace => exact ⟨'}', [], rfl, firstOK_punct _ _ (.inr (.inl rfl))⟩
  | semi => exact ⟨';', [], rfl, ⟨by decide, by decide, by decide, by decide, fun h => absurd rfl h, fun h => absurd h (by decide)⟩⟩
  | name pre w bits cnt =>
    simp only [Lexeme.wf, Bool.and_eq_true, isWordStr] at hwf
    obtain ⟨⟨⟨⟨hpre, -⟩, hwne, hw⟩, -⟩, -⟩ := hwf
    cases pre with
    | nil =>
      cases w with
      | nil => cases hwne
      | cons c w => exact ⟨c, _, rfl, firstOK_word _ _ (List.all_eq_true.mp hw c List.mem_cons_self) rfl⟩
    | cons p pre =>
      simp only [preOK, Bool.and_eq_true, beq_iff_eq] at hpre
      obtain ⟨rfl, -⟩ := hpre
      exact ⟨'*', _, rfl, firstOK_punct _ _ (.inr (.inr (.inl rfl)))⟩
  | defs lead first more => cases hd
  | enum fl ws1 nm ws2 ty vals => cases fl <;> exact ⟨_, _, rfl, firstOK_word _ _ (by decide) rfl⟩
  | define ws1 nm ws2 val => exact ⟨'#', _, rfl, firstOK_punct _ _ (.inr (.inr (.inr rfl)))⟩
  | config vals => exact ⟨'#', _, rfl, firstOK_punct _ _ (.inr (.inr (.inr rfl)))⟩

theorem render_first (rest : List (Lexeme × List Char)) (h : adm false rest = true) :
    render rest = [] ∨ ∃ y s rest' c t, rest = (y, s) :: rest' ∧ render rest = c :: t ∧ FirstOK y c := by
  cases rest with
  | nil => exact .inl rfl
  | cons p rest' =>
    obtain ⟨c, t, ht, hf⟩ := text_first p.1 (adm_cons false p.1 p.2 rest' h).1 (adm_not_defs p.1 p.2 rest' h)
    exact .inr ⟨p.1, p.2, rest', c, t ++ p.2 ++ render rest', rfl, by rw [render, ht]; rfl, hf⟩

theorem render_noHead (rest : List (Lexeme × List Char)) (h : adm false rest = true) : noHead isWsA (render rest) = true := by
  rcases render_first rest h with he | ⟨y, s, r', c, t, -, he, hf⟩
  · rw [he]; rfl
  · rw [he, noHead, hf.nblank]; rfl

theorem sep_next (s : List Char) (rest : List (Lexeme × List Char)) (hb : blank s = true) (h : adm false rest = true) :
    (s ++ render rest).dropWhile isWsA = render rest ∧ (render rest).head? ≠ some ':' ∧ (render rest).head? ≠ some ',' ∧
    (s ++ render rest).head? ≠ some '[' := by
  refine ⟨dropWhile_blank_first s _ hb (render_noHead rest h), ?_⟩
  have hs : s ≠ [] → (s ++ render rest).head? ≠ some '[' := fun hne => by
    obtain ⟨d, s', rfl⟩ := List.exists_cons_of_ne_nil hne
    exact fun e => ne_of_class ((blank_cons d s').mp hb).1 '[' (by decide) (Option.some.inj e)
  rcases render_first rest h with he | ⟨y, s', r', c, t, -, he, hf⟩
  · rw [he]
    refine ⟨nofun, nofun, ?_⟩
    cases s with
    | nil => exact nofun
    | cons d s' => exact hs (List.cons_ne_nil d s')
  · rw [he]
    refine ⟨fun e => hf.ncolon (Option.some.inj e), fun e => hf.ncomma (Option.some.inj e), ?_⟩
    cases s with
    | nil => exact fun e => hf.nlbr (Option.some.inj e)
    | cons d s' => exact hs (List.cons_ne_nil d s')

theorem noHead_word_sep (s Y : List Char) (hb : blank s = true) (hY : s = [] → noHead isWord Y = true) : noHead isWord (s ++ Y) = true := by
  cases s with
  | nil => exact hY rfl
  | cons d s' => rw [List.cons_append, noHead, word_of_wsA d ((blank_cons d s').mp hb).1]; rfl

/-- the patterns in front of NAME in the table fail at `l`.  Two ways to get there: the text starts with a character that is no
    word character and no `#` (`beforeName_nonword`), or with a word that is no keyword (`before_name_word`) -/
structure BeforeName (ac : Bool) (l : List Char) : Prop where
  config : matchConfig l = none
  define : matchDefine isWsA l = none
  typedef : matchTypedef isWsA l = none
  struct : matchStruct isWsA l = none
  enum : matchEnum isWsA l = none
  defs : matchDefs isWsA ac l = none

theorem beforeName_nonword (ac : Bool) (c : Char) (r : List Char) (hw : isWord c = false) (hh : c ≠ '#')
    (hd : matchDefs isWsA ac (c :: r) = none) : BeforeName ac (c :: r) :=
  have ne : ∀ d, isWord d = true → c ≠ d := fun d hd' => (ne_of_class hd' c hw).symm
  ⟨matchConfig_ne c r hh, matchDefine_ne _ c r hh, matchTypedef_ne _ c r (ne _ (by decide)),
    matchStruct_ne _ c r (ne _ (by decide)) (ne _ (by decide)), matchEnum_ne _ c r (ne _ (by decide)) (ne _ (by decide)), hd⟩

-- the table order behind DEFS: NAME, IDENTIFIER, BLOCK, LOOKUP, EOL; the first pattern that matches wins
theorem matchTok_name_of {ac : Bool} {l : List Char} (h : BeforeName ac l) {m : NameM} {v r : List Char}
    (hm : matchName isWsA l = some (m, v, r)) : matchTok ac l = some (⟨.name, v⟩, r) := by
  simp only [matchTok, h.config, h.define, h.typedef, h.struct, h.enum, h.defs, hm]

theorem matchTok_ident_of {ac : Bool} {l : List Char} (h : BeforeName ac l) (hn : matchName isWsA l = none) {v r : List Char}
    (hi : matchIdent l = some (v, r)) : matchTok ac l = some (⟨.ident, v⟩, r) := by
  simp only [matchTok, h.config, h.define, h.typedef, h.struct, h.enum, h.defs, hn, hi]

theorem matchTok_block_of {ac : Bool} {l : List Char} (h : BeforeName ac l) (hn : matchName isWsA l = none)
    (hi : matchIdent l = none) {v r : List Char} (hb : matchBlock l = some (v, r)) : matchTok ac l = some (⟨.block, v⟩, r) := by
  simp only [matchTok, h.config, h.define, h.typedef, h.struct, h.enum, h.defs, hn, hi, hb]

theorem matchTok_eol_of {ac : Bool} {l : List Char} (h : BeforeName ac l) (hn : matchName isWsA l = none)
    (hi : matchIdent l = none) (hb : matchBlock l = none) (hl : matchLookup isWsA l = none) {v r : List Char}
    (he : matchEol l = some (v, r)) : matchTok ac l = some (⟨.eol, v⟩, r) := by
  simp only [matchTok, h.config, h.define, h.typedef, h.struct, h.enum, h.defs, hn, hi, hb, hl, he]

theorem matchTok_none_of {ac : Bool} {l : List Char} (h : BeforeName ac l) (hn : matchName isWsA l = none)
    (hi : matchIdent l = none) (hb : matchBlock l = none) (hl : matchLookup isWsA l = none) (he : matchEol l = none) :
    matchTok ac l = none := by
  simp only [matchTok, h.config, h.define, h.typedef, h.struct, h.enum, h.defs, hn, hi, hb, hl, he]

theorem matchTok_blank (ac : Bool) (c : Char) (r : List Char) (hc : isWsA c = true)
    (hd : matchDefs isWsA ac (c :: r) = none) : matchTok ac (c :: r) = none := by
  have hw := word_of_wsA c hc
  have hi : isIdStart c = false := by
    cases h : isIdStart c with
    | false => rfl
    | true => rw [idStart_word c h] at hw; cases hw
  have ne : ∀ d, isWsA d = false → c ≠ d := ne_of_class hc
  exact matchTok_none_of (beforeName_nonword ac c r hw (ne _ (by decide)) hd) (matchName_nword _ c r (ne _ (by decide)) hw)
    (matchIdent_nstart c r hi) (matchBlock_ne c r (ne _ (by decide)) (ne _ (by decide))) (matchLookup_ne _ c r (ne _ (by decide)))
    (matchEol_ne c r (ne _ (by decide)))

theorem matchTok_typedef (ac : Bool) (c : Char) (r : List Char) (hc : isWsA c = true) :
    matchTok ac (kwTypedef ++ c :: r) = some (⟨.typedef, kwTypedef⟩, c :: r) := by
  simp [matchTok, matchConfig, matchDefine, matchTypedef, lit, kwTypedef, hc]

theorem matchTok_struct (ac : Bool) (u : Bool) (c : Char) (r : List Char) (hc : isWsA c = true ∨ c = '{') :
    matchTok ac ((Lexeme.struct u).text ++ c :: r) = some (⟨.struct, (Lexeme.struct u).text⟩, c :: r) := by
  have hc' : (isWsA c || c == '{') = true := by rcases hc with h | h <;> simp [h]
  cases u <;> simp [Lexeme.text, matchTok, matchConfig, matchDefine, matchTypedef, matchStruct, lit, kwStruct, kwUnion, hc']

theorem matchName_word_none {sp : Char → Bool} (_hs : SpOK sp) (v Y : List Char) (hne : v ≠ []) (hv : v.all isWord = true)
    (hY : noHead isWord Y = true) (h1 : (Y.dropWhile sp).head? ≠ some ':') (h2 : (Y.dropWhile sp).head? ≠ some ';')
    (h3 : Y.head? ≠ some '[') : matchName sp (v ++ Y) = none := by
  obtain ⟨c, v', rfl⟩ := List.exists_cons_of_ne_nil hne
  have hc : isWord c = true := by simp only [List.all_cons, Bool.and_eq_true] at hv; exact hv.1
  have hpre : namePre sp ((c :: v') ++ Y) = [] := namePre_ne sp c _ (ne_of_class hc _ (by decide))
  have hw := tw_app isWord (c :: v') Y hv hY
  have hb := nameBits_none sp Y h1
  have ht : nameTail sp Y = none := by
    unfold nameTail
    split
    · rename_i heq; rw [heq] at h2; exact absurd rfl h2
    · rfl
  have hcnt : nameCount sp Y = none := by
    unfold nameCount
    split
    · exact absurd rfl h3
    · rw [ht]
  unfold matchName
  simp only [hpre, List.length_nil, List.drop_zero, hw.1, hw.2, List.isEmpty_cons, Bool.false_eq_true, if_false, hb, hcnt]

theorem notKeyword (v : List Char) (h : isKeyword v = false) :
    v ≠ kwTypedef ∧ v ≠ kwStruct ∧ v ≠ kwUnion ∧ v ≠ kwEnum ∧ v ≠ kwFlag := by
  simp only [isKeyword, Bool.or_eq_false_iff, beq_eq_false_iff_ne] at h
  exact ⟨h.1.1.1.1, h.1.1.1.2, h.1.1.2, h.1.2, h.2⟩

theorem before_name_word (ac : Bool) (v Y : List Char) (hne : v ≠ []) (hv : v.all isWord = true) (hk : isKeyword v = false)
    (hY : noHead isWord Y = true) (hc : (Y.dropWhile isWsA).head? ≠ some ',') : BeforeName ac (v ++ Y) := by
  obtain ⟨k1, k2, k3, k4, k5⟩ := notKeyword v hk
  obtain ⟨c, v', rfl⟩ := List.exists_cons_of_ne_nil hne
  have hh : c ≠ '#' := ne_of_class (List.all_eq_true.mp hv c List.mem_cons_self) _ (by decide)
  exact ⟨matchConfig_ne c _ hh, matchDefine_ne _ c _ hh, matchTypedef_word spOK_A _ Y hv hY k1,
    matchStruct_word spOK_A _ Y hv hY k2 k3, matchEnum_word spOK_A _ Y hv hY k4 k5,
    matchDefs_word_none spOK_A ac [] (c :: v') Y rfl (List.cons_ne_nil c v') hv hY hc⟩

theorem matchTok_ident (ac : Bool) (v Y : List Char) (hwf : (Lexeme.ident v).wf = true) (hY : noHead isWord Y = true)
    (h1 : (Y.dropWhile isWsA).head? ≠ some ':') (h2 : (Y.dropWhile isWsA).head? ≠ some ';')
    (h3 : (Y.dropWhile isWsA).head? ≠ some ',') (h4 : Y.head? ≠ some '[') :
    matchTok ac (v ++ Y) = some (⟨.ident, v⟩, Y) := by
  simp only [Lexeme.wf, Bool.and_eq_true, Bool.not_eq_true'] at hwf
  obtain ⟨⟨hst, hv⟩, hk⟩ := hwf
  have hne : v ≠ [] := by intro e; subst e; cases hst
  refine matchTok_ident_of (before_name_word ac v Y hne hv hk hY h3) (matchName_word_none spOK_A v Y hne hv hY h1 h2 h4) ?_
  obtain ⟨c, v', rfl⟩ := List.exists_cons_of_ne_nil hne
  have hw := tw_app isWord v' Y (List.all_eq_true.mpr fun d hd => List.all_eq_true.mp hv d (List.mem_cons_of_mem c hd)) hY
  simp only [matchIdent, List.cons_append, hst, if_true, hw.1, hw.2]

theorem matchTok_block (ac : Bool) (c : Char) (r : List Char) (hc : c = '{' ∨ c = '}') :
    matchTok ac (c :: r) = some (⟨.block, [c]⟩, r) := by
  have hne : c ≠ '#' ∧ c ≠ '*' ∧ isWord c = false ∧ isWsA c = false ∧ isIdStart c = false := by
    rcases hc with rfl | rfl <;> decide
  obtain ⟨h1, h2, h3, h4, h5⟩ := hne
  exact matchTok_block_of (beforeName_nonword ac c r h3 h1 (matchDefs_nword _ ac c r h4 h3)) (matchName_nword _ c r h2 h3)
    (matchIdent_nstart c r h5) (by simp [matchBlock, hc])

theorem matchTok_semi (ac : Bool) (r : List Char) : matchTok ac (';' :: r) = some (⟨.eol, [';']⟩, r) :=
  matchTok_eol_of (beforeName_nonword ac ';' r (by decide) (by decide) (matchDefs_nword isWsA ac ';' r (by decide) (by decide)))
    (matchName_nword isWsA ';' r (by decide) (by decide)) (matchIdent_nstart ';' r (by decide))
    (matchBlock_ne ';' r (by decide) (by decide)) (matchLookup_ne _ ';' r (by decide)) rfl

theorem matchTok_config (ac : Bool) (vals rest : List Char) (hwf : (Lexeme.config vals).wf = true) :
    matchTok ac ((Lexeme.config vals).text ++ rest) = some (⟨.config, (Lexeme.config vals).text⟩, rest) := by
  simp only [matchTok, matchConfig_lexeme vals rest hwf]

theorem nameRest_nocomma (bits : Option (List Char × List Char × List Char)) (cnt : Option (List Char)) (s R : List Char)
    (hbits : (match bits with | none => true | some (a, b, ds) => blank a && blank b && !ds.isEmpty && ds.all Char.isDigit) = true)
    (hb : blank s = true) : ((bitsText bits ++ countText cnt ++ s ++ ';' :: R).dropWhile isWsA).head? ≠ some ',' := by
  cases bits with
  | some t =>
    obtain ⟨a, bb, ds⟩ := t
    simp only [Bool.and_eq_true] at hbits
    have := dropWhile_app isWsA a (':' :: (bb ++ ds ++ countText cnt ++ s ++ ';' :: R)) hbits.1.1.1 rfl
    simp only [bitsText, List.append_assoc, List.cons_append] at this ⊢
    rw [this]; simp
  | none =>
    cases cnt with
    | some c =>
      have : isWsA '[' = false := by decide
      simp [bitsText, countText, this]
    | none =>
      have := dropWhile_app isWsA s (';' :: R) hb rfl
      simp only [bitsText, countText, List.nil_append]
      rw [this]; simp

theorem matchTok_name (ac : Bool) (pre w : List Char) (bits : Option (List Char × List Char × List Char)) (cnt : Option (List Char))
    (hwf : (Lexeme.name pre w bits cnt).wf = true) (s R : List Char) (hb : blank s = true) :
    matchTok ac ((Lexeme.name pre w bits cnt).text ++ s ++ ';' :: R)
      = some (⟨.name, (Lexeme.name pre w bits cnt).text ++ s⟩, ';' :: R) := by
  have hm := matchName_lexeme spOK_A pre w bits cnt hwf s R hb
  simp only [Lexeme.wf, Bool.and_eq_true, isWordStr, Bool.or_eq_true, Bool.not_eq_true', List.isEmpty_eq_false_iff] at hwf
  obtain ⟨⟨⟨⟨hpre, hkw⟩, hwne, hw⟩, hbits⟩, -⟩ := hwf
  cases pre with
  | cons p pre =>
    simp only [preOK, Bool.and_eq_true, beq_iff_eq] at hpre
    obtain ⟨rfl, -⟩ := hpre
    have e : (Lexeme.name ('*' :: pre) w bits cnt).text ++ s ++ ';' :: R
        = '*' :: (pre ++ w ++ bitsText bits ++ countText cnt ++ s ++ ';' :: R) := by simp [Lexeme.text]
    rw [e] at hm ⊢
    exact matchTok_name_of (beforeName_nonword ac '*' _ (by decide) (by decide) (matchDefs_nword isWsA ac '*' _ (by decide) (by decide))) hm
  | nil =>
    have hk : isKeyword w = false := by rcases hkw with h | h; exact absurd rfl h; exact h
    have e : (Lexeme.name [] w bits cnt).text ++ s ++ ';' :: R = w ++ (bitsText bits ++ countText cnt ++ s ++ ';' :: R) := by
      simp [Lexeme.text]
    rw [e] at hm ⊢
    exact matchTok_name_of (before_name_word ac w _ hwne hw hk (noHead_word_nameRest bits cnt s R hbits hb)
      (nameRest_nocomma bits cnt s R hbits hb)) hm

theorem matchTok_enum (ac : Bool) (fl : Bool) (ws1 nm ws2 : List Char) (ty : Option (List Char × List Char × List Char))
    (vals : List Char) (hwf : (Lexeme.enum fl ws1 nm ws2 ty vals).wf = true) (s R : List Char) (hb : blank s = true) :
    matchTok ac ((Lexeme.enum fl ws1 nm ws2 ty vals).text ++ s ++ ';' :: R)
      = some (⟨.enum, (Lexeme.enum fl ws1 nm ws2 ty vals).text ++ s⟩, ';' :: R) := by
  have hm := matchEnum_lexeme spOK_A fl ws1 nm ws2 ty vals hwf s R hb
  -- the text starts with `e` or `f`: none of the earlier patterns starts so
  obtain ⟨c, t, e, hc⟩ : ∃ c t, (Lexeme.enum fl ws1 nm ws2 ty vals).text ++ s ++ ';' :: R = c :: t ∧
      c ≠ '#' ∧ c ≠ 't' ∧ c ≠ 's' ∧ c ≠ 'u' := by
    cases fl
    · exact ⟨'e', _, rfl, by decide⟩
    · exact ⟨'f', _, rfl, by decide⟩
  rw [e] at hm ⊢
  simp only [matchTok, matchConfig_ne c _ hc.1, matchDefine_ne _ c _ hc.1, matchTypedef_ne _ c _ hc.2.1,
    matchStruct_ne _ c _ hc.2.2.1 hc.2.2.2, hm]

theorem matchTok_define (ac : Bool) (ws1 nm ws2 val : List Char) (hwf : (Lexeme.define ws1 nm ws2 val).wf = true)
    (s rest : List Char) (hb : blank s = true) (hend : lineEnd s rest = true) (hrest : noHead isWsA rest = true) :
    matchTok ac ((Lexeme.define ws1 nm ws2 val).text ++ s ++ rest)
      = some (⟨.define, (Lexeme.define ws1 nm ws2 val).text ++ s⟩, rest) := by
  have hm := matchDefine_lexeme spOK_A ws1 nm ws2 val hwf s rest hb hend hrest
  have e : ∃ t, (Lexeme.define ws1 nm ws2 val).text ++ s ++ rest = '#' :: 'd' :: t := ⟨_, rfl⟩
  obtain ⟨t, e⟩ := e
  have hc : matchConfig ('#' :: 'd' :: t) = none := by
    unfold matchConfig
    split
    · rename_i heq; simp at heq
    · rfl
  rw [e] at hm ⊢
  simp only [matchTok, hc, hm]

theorem matchTok_defs (lead first : List Char) (more : List (List Char × List Char × List Char))
    (hwf : (Lexeme.defs lead first more).wf = true) (s R : List Char) (hb : blank s = true) :
    matchTok true ((Lexeme.defs lead first more).text ++ s ++ ';' :: R)
      = some (⟨.defs, (Lexeme.defs lead first more).text ++ s⟩, ';' :: R) := by
  have hm := matchDefs_lexeme spOK_A lead first more hwf s R hb
  simp only [Lexeme.wf, Bool.and_eq_true, isWordStr, Bool.not_eq_true', List.isEmpty_eq_false_iff, Bool.or_eq_true] at hwf
  obtain ⟨⟨⟨⟨hl, hfne, hf⟩, hkw⟩, -⟩, hmo⟩ := hwf
  cases lead with
  | cons d lead =>
    have hd : isWsA d = true := by simp only [blank, List.all_cons, Bool.and_eq_true] at hl; exact hl.1
    have hne : d ≠ '#' ∧ d ≠ 't' ∧ d ≠ 's' ∧ d ≠ 'u' ∧ d ≠ 'e' ∧ d ≠ 'f' := by
      rcases wsA_cases d hd with rfl | rfl | rfl | rfl | rfl | rfl <;> decide
    obtain ⟨h1, h2, h3, h4, h5, h6⟩ := hne
    have e : ∃ t, (Lexeme.defs (d :: lead) first more).text ++ s ++ ';' :: R = d :: t := ⟨_, rfl⟩
    obtain ⟨t, e⟩ := e
    rw [e] at hm ⊢
    simp only [matchTok, matchConfig_ne d _ h1, matchDefine_ne _ d _ h1, matchTypedef_ne _ d _ h2, matchStruct_ne _ d _ h3 h4,
      matchEnum_ne _ d _ h5 h6, hm]
  | nil =>
    have hk : isKeyword first = false := by rcases hkw with h | h; exact absurd rfl h; exact h
    obtain ⟨k1, k2, k3, k4, k5⟩ := notKeyword first hk
    have hY := noHead_word_more more s R hmo hb
    obtain ⟨c, f', rfl⟩ := List.exists_cons_of_ne_nil hfne
    have hcw : isWord c = true := by simp only [List.all_cons, Bool.and_eq_true] at hf; exact hf.1
    have hh : c ≠ '#' := ne_of_class hcw _ (by decide)
    have e : (Lexeme.defs [] (c :: f') more).text ++ s ++ ';' :: R = (c :: f') ++ (moreText more ++ s ++ ';' :: R) := by
      simp [Lexeme.text]
    rw [e] at hm ⊢
    have c1 : matchConfig ((c :: f') ++ (moreText more ++ s ++ ';' :: R)) = none := matchConfig_ne c _ hh
    have c2 : matchDefine isWsA ((c :: f') ++ (moreText more ++ s ++ ';' :: R)) = none := matchDefine_ne _ c _ hh
    simp only [matchTok, c1, c2, matchTypedef_word spOK_A _ _ hf hY k1,
      matchStruct_word spOK_A _ _ hf hY k2 k3, matchEnum_word spOK_A _ _ hf hY k4 k5, hm]

theorem next_semi (rest : List (Lexeme × List Char)) (h : (rest.head?.map (·.1) == some Lexeme.semi) = true) :
    ∃ s2 rest2, rest = (Lexeme.semi, s2) :: rest2 := by
  cases rest with
  | nil => cases h
  | cons p r => exact ⟨p.2, r, by rw [← (beq_iff_eq.mp h |> Option.some.inj)]⟩

theorem render_semi (s2 : List Char) (rest2 : List (Lexeme × List Char)) :
    render ((Lexeme.semi, s2) :: rest2) = ';' :: (s2 ++ render rest2) := rfl

theorem struct_cont (ac u : Bool) (s : List Char) (rest : List (Lexeme × List Char)) (h : adm ac ((.struct u, s) :: rest) = true) :
    ∃ c r, s ++ render rest = c :: r ∧ (isWsA c = true ∨ c = '{') := by
  obtain ⟨-, hbs, -, hsep, -⟩ := adm_cons ac _ s rest h
  cases s with
  | cons d s' => exact ⟨d, _, rfl, .inl ((blank_cons d s').mp hbs).1⟩
  | nil =>
    simp only [sepOK, Bool.and_eq_true, List.isEmpty_nil, Bool.not_true, Bool.false_or] at hsep
    cases rest with
    | nil => cases hsep.2
    | cons q r'' =>
      obtain ⟨z, sz⟩ := q
      obtain rfl : z = .lbrace := by simpa using hsep.2
      exact ⟨'{', _, rfl, .inr rfl⟩

theorem ident_cont (ac : Bool) (v s : List Char) (rest : List (Lexeme × List Char)) (h : adm ac ((.ident v, s) :: rest) = true) :
    noHead isWord (s ++ render rest) = true ∧ ((s ++ render rest).dropWhile isWsA).head? ≠ some ':' ∧
    ((s ++ render rest).dropWhile isWsA).head? ≠ some ';' ∧ ((s ++ render rest).dropWhile isWsA).head? ≠ some ',' ∧
    (s ++ render rest).head? ≠ some '[' := by
  obtain ⟨-, hbs, -, hsep, hrest⟩ := adm_cons ac _ s rest h
  obtain ⟨hdrop, h1, h2, h3⟩ := sep_next s rest hbs hrest
  rw [hdrop]
  refine ⟨noHead_word_sep s _ hbs fun hs => ?_, h1, ?_, h2, h3⟩ <;>
    rcases render_first rest hrest with he | ⟨y, s', r', c, t, rfl, he, hf⟩
  · rw [he]; rfl
  · -- no separator: the next lexeme does not start with a word character
    simp only [sepOK, hs, Bool.and_eq_true, List.head?_cons, Option.map_some, List.isEmpty_nil, Bool.not_true, Bool.false_or,
      Bool.not_eq_true'] at hsep
    cases hw : isWord c with
    | false => rw [he, noHead, hw]; rfl
    | true => rw [hf.word hw] at hsep; cases hsep.2.2
  · rw [he]; exact nofun
  · simp only [sepOK, Bool.and_eq_true, List.head?_cons, Option.map_some, bne_iff_ne, ne_eq] at hsep
    rw [he]
    exact fun e => hf.nsemi hsep.2.1 (Option.some.inj e)

theorem matchDefs_blank_only {sp : Char → Bool} (hs : SpOK sp) (b : Bool) (lead : List Char) (hl : blank lead = true) :
    matchDefs sp b lead = none := by
  have h := tw_app sp lead [] (blank_sp hs lead hl) rfl
  simp only [List.append_nil] at h
  simp [matchDefs, h.2]

theorem defs_fail (b : Bool) (lead : List Char) (hl : blank lead = true) (rest : List (Lexeme × List Char))
    (h : adm false rest = true) : matchDefs isWsA b (lead ++ render rest) = none := by
  cases rest with
  | nil => rw [render, List.append_nil]; exact matchDefs_blank_only spOK_A b lead hl
  | cons p rest' =>
    obtain ⟨y, s⟩ := p
    obtain ⟨hwf, hbs, -, hsep, hrest⟩ := adm_cons false y s rest' h
    obtain ⟨c, t, ht, hf⟩ := text_first y hwf (adm_not_defs y s rest' h)
    -- the first word of the text, and what follows it: no comma
    have wordy : ∀ (v Y : List Char), y.text ++ s ++ render rest' = v ++ Y → v ≠ [] → v.all isWord = true →
        noHead isWord Y = true → (Y.dropWhile isWsA).head? ≠ some ',' →
        matchDefs isWsA b (lead ++ render ((y, s) :: rest')) = none := fun v Y e hne hv hY hc => by
      rw [render, e, ← List.append_assoc]
      exact matchDefs_word_none spOK_A b lead v Y hl hne hv hY hc
    have sep : closes y s = false → noHead isWord (s ++ render rest') = true →
        noHead isWord (s ++ render rest') = true ∧ ((s ++ render rest').dropWhile isWsA).head? ≠ some ',' := fun hc hY => by
      rw [hc] at hrest
      exact ⟨hY, by rw [(sep_next s rest' hbs hrest).1]; exact (sep_next s rest' hbs hrest).2.2.1⟩
    cases hw : isWord c with
    | false =>
      rw [render, ht]
      exact matchDefs_blank_nword spOK_A b lead c _ hl hf.nblank hw
    | true =>
      have hsw := hf.word hw
      cases y with
      | typedef =>
        simp only [sepOK, Bool.and_eq_true, Bool.not_eq_true', List.isEmpty_eq_false_iff] at hsep
        obtain ⟨h1, h2⟩ := sep rfl (noHead_word_sep s _ hbs fun e => absurd e hsep.2)
        exact wordy kwTypedef _ (List.append_assoc _ _ _) (by decide) (by decide) h1 h2
      | struct u =>
        obtain ⟨d, r, e, hd⟩ := struct_cont false u s rest' h
        obtain ⟨h1, h2⟩ := sep rfl (by
          rw [e, noHead]
          rcases hd with hd | rfl
          · rw [word_of_wsA d hd]; rfl
          · rfl)
        cases u
        · exact wordy kwStruct _ (List.append_assoc _ _ _) (by decide) (by decide) h1 h2
        · exact wordy kwUnion _ (List.append_assoc _ _ _) (by decide) (by decide) h1 h2
      | ident v =>
        obtain ⟨f1, -, -, f4, -⟩ := ident_cont false v s rest' h
        simp only [Lexeme.wf, Bool.and_eq_true] at hwf
        exact wordy v _ (List.append_assoc _ _ _) (fun e => by rw [e] at ht; cases ht) hwf.1.2 f1 f4
      | name pre w bits cnt =>
        obtain rfl : pre = [] := List.isEmpty_iff.mp hsw
        simp only [sepOK, Bool.and_eq_true] at hsep
        obtain ⟨sz, r'', rfl⟩ := next_semi rest' hsep.2
        simp only [Lexeme.wf, Bool.and_eq_true, isWordStr, Bool.not_eq_true', List.isEmpty_eq_false_iff] at hwf
        refine wordy w (bitsText bits ++ countText cnt ++ s ++ ';' :: (sz ++ render r'')) ?_ hwf.1.1.2.1 hwf.1.1.2.2
          (noHead_word_nameRest bits cnt s _ hwf.1.2 hbs) (nameRest_nocomma bits cnt s _ hwf.1.2 hbs)
        simp only [Lexeme.text, render_semi, List.nil_append, List.append_assoc]
      | enum fl ws1 nm ws2 ty vals =>
        simp only [Lexeme.wf, Bool.and_eq_true, Bool.not_eq_true', List.isEmpty_eq_false_iff, Bool.or_eq_true, List.isEmpty_iff] at hwf
        obtain ⟨⟨⟨⟨⟨⟨⟨hws1, hws1ne⟩, hnm⟩, -⟩, hnmws2⟩, -⟩, -⟩, -⟩ := hwf
        -- behind the keyword: blanks, then a name character, `:` or `{`
        have hZ : ∃ c t, nm ++ (ws2 ++ (tyText ty ++ ('{' :: (vals ++ ('}' :: (s ++ render rest')))))) = c :: t ∧
            isWsA c = false ∧ c ≠ ',' := by
          cases nm with
          | cons c nm =>
            have := List.all_eq_true.mp hnm c List.mem_cons_self
            exact ⟨c, _, rfl, isWsA_of_word c this, ne_of_class this _ (by decide)⟩
          | nil =>
            obtain rfl : ws2 = [] := hnmws2.resolve_left fun h => h rfl
            cases ty with
            | none => exact ⟨'{', _, rfl, by decide, by decide⟩
            | some t => exact ⟨':', _, rfl, by decide, by decide⟩
        obtain ⟨c, t, hZe, hc1, hc2⟩ := hZ
        refine wordy (if fl then kwFlag else kwEnum) (ws1 ++ (c :: t)) ?_ (by cases fl <;> decide) (by cases fl <;> decide)
          (noHead_word_sep ws1 _ hws1 fun e => absurd e hws1ne) ?_
        · rw [← hZe]; simp only [Lexeme.text, List.append_assoc, List.cons_append, List.nil_append]
        · rw [dropWhile_app isWsA ws1 _ hws1 (by rw [noHead, hc1]; rfl)]
          exact fun e => hc2 (Option.some.inj e)
      | _ => cases hsw

theorem scan_sep (b : Bool) (s : List Char) (rest : List (Lexeme × List Char)) (hbs : blank s = true) (hne : s ≠ [])
    (hadm : adm false rest = true) : scanAux 0 b (s ++ render rest) = scanAux 0 false (render rest) := by
  obtain ⟨c, s', rfl⟩ := List.exists_cons_of_ne_nil hne
  exact scan_blank b (c :: s') (render rest) hbs hne (render_noHead rest hadm)
    (matchTok_blank b c _ ((blank_cons c s').mp hbs).1 (defs_fail b (c :: s') hbs rest hadm))

/-- the alternation yields the token of `x` at the head of the rendered text; `rem`, what stands behind the token, is the separator
    (unless the token swallowed it) and the rest of the text -/
def TokAt (ac : Bool) (x : Lexeme) (s : List Char) (rest : List (Lexeme × List Char)) : Prop :=
  ∃ rem, matchTok ac (render ((x, s) :: rest)) = some (tokOf x s, rem) ∧ render ((x, s) :: rest) = (tokOf x s).value ++ rem ∧
    (rem = s ++ render rest ∨ rem = render rest)

theorem matchTok_lexeme (ac : Bool) (x : Lexeme) (s : List Char) (rest : List (Lexeme × List Char))
    (h : adm ac ((x, s) :: rest) = true) : TokAt ac x s rest := by
  obtain ⟨hwf, hbs, hdefs, hsep, hrest⟩ := adm_cons ac x s rest h
  have plain : ∀ k, tokOf x s = ⟨k, x.text⟩ → matchTok ac (x.text ++ (s ++ render rest)) = some (⟨k, x.text⟩, s ++ render rest) →
      TokAt ac x s rest := fun k ht hm =>
    ⟨_, by rw [render, List.append_assoc, ht, hm], by rw [render, List.append_assoc, ht], .inl rfl⟩
  have swallow : ∀ k R, tokOf x s = ⟨k, x.text ++ s⟩ → render rest = R →
      matchTok ac (x.text ++ s ++ R) = some (⟨k, x.text ++ s⟩, R) → TokAt ac x s rest := fun k R ht hR hm =>
    ⟨_, by rw [render, hR, ht, hm], by rw [render, hR, ht], .inr hR.symm⟩
  cases x with
  | typedef =>
    simp only [sepOK, Bool.and_eq_true, Bool.not_eq_true', List.isEmpty_eq_false_iff] at hsep
    obtain ⟨c, s', rfl⟩ := List.exists_cons_of_ne_nil hsep.2
    exact plain .typedef rfl (matchTok_typedef ac c (s' ++ render rest) ((blank_cons c s').mp hbs).1)
  | struct u =>
    obtain ⟨c, r, e, hc⟩ := struct_cont ac u s rest h
    exact plain .struct rfl (by rw [e]; exact matchTok_struct ac u c r hc)
  | ident v =>
    obtain ⟨f1, f2, f3, f4, f5⟩ := ident_cont ac v s rest h
    exact plain .ident rfl (matchTok_ident ac v _ hwf f1 f2 f3 f4 f5)
  | lbrace => exact plain .block rfl (matchTok_block ac '{' _ (.inl rfl))
  | rbrace => exact plain .block rfl (matchTok_block ac '}' _ (.inr rfl))
  | semi => exact plain .eol rfl (matchTok_semi ac _)
  | config vals => exact plain .config rfl (matchTok_config ac vals _ hwf)
  | name pre w bits cnt =>
    simp only [sepOK, Bool.and_eq_true] at hsep
    obtain ⟨s2, rest2, rfl⟩ := next_semi rest hsep.2
    exact swallow .name _ rfl (render_semi s2 rest2) (matchTok_name ac pre w bits cnt hwf s _ hbs)
  | defs lead first more =>
    simp only [sepOK, Bool.and_eq_true] at hsep
    obtain ⟨s2, rest2, rfl⟩ := next_semi rest hsep.2
    obtain rfl : ac = true := hdefs rfl
    exact swallow .defs _ rfl (render_semi s2 rest2) (matchTok_defs lead first more hwf s _ hbs)
  | enum fl ws1 nm ws2 ty vals =>
    simp only [sepOK, Bool.and_eq_true] at hsep
    obtain ⟨s2, rest2, rfl⟩ := next_semi rest hsep.2
    exact swallow .enum _ rfl (render_semi s2 rest2) (matchTok_enum ac fl ws1 nm ws2 ty vals hwf s _ hbs)
  | define ws1 nm ws2 val =>
    simp only [sepOK, Bool.and_eq_true] at hsep
    have hend : lineEnd s (render rest) = true := by
      cases s with
      | cons c s' => exact hsep.2
      | nil =>
        cases rest with
        | nil => rfl
        | cons p r => cases hsep.2
    exact swallow .define _ rfl rfl (matchTok_define ac ws1 nm ws2 val hwf s _ hbs hend (render_noHead rest hrest))

/-- the look-behind flag matters in front of a name list only -/
theorem scan_flag (b : Bool) (rest : List (Lexeme × List Char)) (h : adm false rest = true) :
    scanAux 0 b (render rest) = scanAux 0 false (render rest) := by
  cases rest with
  | nil => rfl
  | cons p rest' =>
    obtain ⟨rem, h1, -, -⟩ := matchTok_lexeme b p.1 p.2 rest' (adm_flag false b p.1 p.2 rest' (adm_not_defs p.1 p.2 rest' h) h)
    obtain ⟨rem', h2, e2, -⟩ := matchTok_lexeme false p.1 p.2 rest' h
    obtain ⟨c, t, hc⟩ : ∃ c t, render (p :: rest') = c :: t := by
      obtain ⟨c, t, ht, -⟩ := text_first p.1 (adm_cons false p.1 p.2 rest' h).1 (adm_not_defs p.1 p.2 rest' h)
      exact ⟨c, _, by rw [render, ht]; rfl⟩
    rw [hc] at h1 h2 ⊢
    rw [scanAux, scanAux, h1, h2]

theorem lastClose_closes (ac : Bool) (x : Lexeme) (s : List Char) (h : closes x s = true) : lastClose ac (tokOf x s).value = true := by
  obtain rfl : s = [] := List.isEmpty_iff.mp (Bool.and_eq_true_iff.mp h).2
  cases x with
  | rbrace => rfl
  | enum fl ws1 nm ws2 ty vals =>
    show lastClose ac ((_ ++ ['}']) ++ []) = true
    rw [List.append_nil, lastClose, List.getLast?_concat]
    rfl
  | _ => cases h

theorem scan_render : ∀ (l : List (Lexeme × List Char)) (ac : Bool), adm ac l = true → scanAux 0 ac (render l) = toks l
  | [], _, _ => rfl
  | (x, s) :: rest, ac, h => by
    obtain ⟨hwf, hbs, -, -, hrest⟩ := adm_cons ac x s rest h
    have ih := scan_render rest (closes x s) hrest
    obtain ⟨rem, hm, hl, hrem⟩ := matchTok_lexeme ac x s rest h
    have hne : (tokOf x s).value ≠ [] := by
      cases x with
      | defs lead first more =>
        simp only [Lexeme.wf, Bool.and_eq_true, isWordStr, Bool.not_eq_true', List.isEmpty_eq_false_iff] at hwf
        simp only [tokOf, Lexeme.text, ne_eq, List.append_eq_nil_iff, hwf.1.1.1.2.1, false_and, and_false, not_false_eq_true]
      | _ => obtain ⟨c, t, ht, -⟩ := text_first _ hwf rfl; simp only [tokOf, ht]; exact List.cons_ne_nil _ _
    rw [scan_tok ac _ _ rem _ hm hl hne, toks]
    congr 1
    cases hc : closes x s with
    | true =>
      -- a name list may follow: nothing swallowed, no separator
      obtain rfl : s = [] := List.isEmpty_iff.mp (Bool.and_eq_true_iff.mp hc).2
      rw [lastClose_closes ac x [] hc, ← hc, (hrem.elim id id : rem = render rest)]
      exact ih
    | false =>
      rw [hc] at ih hrest
      rcases hrem with rfl | rfl
      · cases s with
        | nil => rw [List.nil_append, scan_flag _ rest hrest, ih]
        | cons c s' => rw [scan_sep _ (c :: s') rest hbs (List.cons_ne_nil c s') hrest, ih]
      · rw [scan_flag _ rest hrest, ih]

theorem scan_lead (w : List Char) (l : List (Lexeme × List Char)) (hw : blank w = true) (h : adm false l = true) :
    scan (w ++ render l) = toks l := by
  cases w with
  | nil => exact scan_render l false h
  | cons c w => exact (scan_sep false (c :: w) l hw (List.cons_ne_nil c w) h).trans (scan_render l false h)

end Cstruct.DefParser.C13
