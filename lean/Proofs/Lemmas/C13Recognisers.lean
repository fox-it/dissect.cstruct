/-
  C13, definition parser — the recognisers of the scanner, one by one: where they fail (by the first character; on a word that is
  not their keyword) and what NAME, DEFS, ENUM, DEFINE, CONFIG_FLAG compute on a well-formed lexeme followed by blanks (they
  swallow them) and `;`.  Generic in the white-space class (`SpOK`): the same lemmas serve the scanner (`isWsA`) and the
  handlers' re-match of the token value (`isWs`).
-/
import Proofs.Lemmas.C13Chars

namespace Cstruct.DefParser.C13
open Cstruct.DefParser

theorem lit_ne (p c : Char) (ps r : List Char) (h : c ≠ p) : lit (p :: ps) (c :: r) = none := by
  simp [lit, Ne.symm h]

theorem matchConfig_ne (c : Char) (r : List Char) (h : c ≠ '#') : matchConfig (c :: r) = none := by
  unfold matchConfig
  split
  · rename_i heq; simp at heq; exact absurd heq.1 h
  · rfl

theorem matchDefine_ne (sp : Char → Bool) (c : Char) (r : List Char) (h : c ≠ '#') : matchDefine sp (c :: r) = none := by
  simp [matchDefine, lit_ne _ _ _ _ h]

theorem matchTypedef_ne (sp : Char → Bool) (c : Char) (r : List Char) (h : c ≠ 't') : matchTypedef sp (c :: r) = none := by
  simp [matchTypedef, lit_ne _ _ _ _ h]

theorem matchStruct_ne (sp : Char → Bool) (c : Char) (r : List Char) (h1 : c ≠ 's') (h2 : c ≠ 'u') :
    matchStruct sp (c :: r) = none := by
  simp [matchStruct, lit_ne _ _ _ _ h1, lit_ne _ _ _ _ h2]

theorem matchEnum_ne (sp : Char → Bool) (c : Char) (r : List Char) (h1 : c ≠ 'e') (h2 : c ≠ 'f') :
    matchEnum sp (c :: r) = none := by
  simp [matchEnum, enumKw, lit_ne _ _ _ _ h1, lit_ne _ _ _ _ h2]

theorem matchDefs_nword (sp : Char → Bool) (ac : Bool) (c : Char) (r : List Char) (h1 : sp c = false) (h2 : isWord c = false) :
    matchDefs sp ac (c :: r) = none := by
  simp [matchDefs, h1, h2]

theorem namePre_ne (sp : Char → Bool) (c : Char) (r : List Char) (h : c ≠ '*') : namePre sp (c :: r) = [] := by
  unfold namePre
  split
  · rename_i heq; simp at heq; exact absurd heq.1 h
  · rfl

theorem matchName_nword (sp : Char → Bool) (c : Char) (r : List Char) (h1 : c ≠ '*') (h2 : isWord c = false) :
    matchName sp (c :: r) = none := by
  simp [matchName, namePre_ne sp c r h1, h2]

theorem matchIdent_nstart (c : Char) (r : List Char) (h : isIdStart c = false) : matchIdent (c :: r) = none := by
  simp [matchIdent, h]

theorem matchBlock_ne (c : Char) (r : List Char) (h1 : c ≠ '{') (h2 : c ≠ '}') : matchBlock (c :: r) = none := by
  simp [matchBlock, h1, h2]

theorem matchLookup_ne (sp : Char → Bool) (c : Char) (r : List Char) (h : c ≠ '$') : matchLookup sp (c :: r) = none := by
  unfold matchLookup
  split
  · rename_i heq; simp at heq; exact absurd heq.1 h
  · rfl

theorem matchEol_ne (c : Char) (r : List Char) (h : c ≠ ';') : matchEol (c :: r) = none := by
  unfold matchEol
  split
  · rename_i heq; simp at heq; exact absurd heq.1 h
  · rfl

theorem lit_word : ∀ (p v y r : List Char), p.all isWord = true → v.all isWord = true → noHead isWord y = true →
    lit p (v ++ y) = some r → ∃ v', v = p ++ v' ∧ r = v' ++ y
  | [], v, y, r, _, _, _, h => by simp [lit] at h; exact ⟨v, rfl, h.symm⟩
  | a :: p, [], y, r, hp, _, hy, h => by
    cases y with
    | nil => simp [lit] at h
    | cons d y =>
      simp only [List.all_cons, Bool.and_eq_true] at hp
      simp only [noHead, Bool.not_eq_true'] at hy
      have : a ≠ d := fun e => by rw [e, hy] at hp; exact absurd hp.1 (by simp)
      simp [lit, this] at h
  | a :: p, c :: v, y, r, hp, hv, hy, h => by
    simp only [List.all_cons, Bool.and_eq_true] at hp hv
    by_cases e : a = c
    · subst e
      have h' : lit p (v ++ y) = some r := by simpa [lit] using h
      obtain ⟨v', h1, h2⟩ := lit_word p v y r hp.2 hv.2 hy h'
      exact ⟨v', by rw [h1]; rfl, h2⟩
    · simp [lit, e] at h

theorem kw_word : kwTypedef.all isWord = true ∧ kwStruct.all isWord = true ∧ kwUnion.all isWord = true ∧
    kwEnum.all isWord = true ∧ kwFlag.all isWord = true := by decide

theorem lit_word_cases (p v y : List Char) (hp : p.all isWord = true) (hv : v.all isWord = true)
    (hy : noHead isWord y = true) (hne : v ≠ p) :
    lit p (v ++ y) = none ∨ ∃ c r, lit p (v ++ y) = some (c :: r) ∧ isWord c = true := by
  cases h : lit p (v ++ y) with
  | none => exact .inl rfl
  | some r =>
    obtain ⟨v', h1, h2⟩ := lit_word p v y r hp hv hy h
    cases v' with
    | nil => exact absurd (by simpa using h1) hne
    | cons c v' =>
      refine .inr ⟨c, v' ++ y, by rw [h2]; rfl, ?_⟩
      rw [h1] at hv
      simp only [List.all_append, List.all_cons, Bool.and_eq_true] at hv
      exact hv.2.1

theorem matchTypedef_word {sp : Char → Bool} (hs : SpOK sp) (v y : List Char) (hv : v.all isWord = true)
    (hy : noHead isWord y = true) (hne : v ≠ kwTypedef) : matchTypedef sp (v ++ y) = none := by
  unfold matchTypedef
  rcases lit_word_cases kwTypedef v y kw_word.1 hv hy hne with h | ⟨c, r, h, hc⟩
  · rw [show (['t', 'y', 'p', 'e', 'd', 'e', 'f'] : List Char) = kwTypedef from rfl, h]
  · rw [show (['t', 'y', 'p', 'e', 'd', 'e', 'f'] : List Char) = kwTypedef from rfl, h]; simp [hs.word c hc]

theorem matchStruct_word {sp : Char → Bool} (hs : SpOK sp) (v y : List Char) (hv : v.all isWord = true)
    (hy : noHead isWord y = true) (h1 : v ≠ kwStruct) (h2 : v ≠ kwUnion) : matchStruct sp (v ++ y) = none := by
  have hb : ∀ c, isWord c = true → (sp c || c == '{') = false := fun c hc => by
    have : c ≠ '{' := fun e => by subst e; exact absurd hc (by decide)
    simp [hs.word c hc, this]
  unfold matchStruct
  simp only [show (['s', 't', 'r', 'u', 'c', 't'] : List Char) = kwStruct from rfl,
    show (['u', 'n', 'i', 'o', 'n'] : List Char) = kwUnion from rfl]
  rcases lit_word_cases kwStruct v y kw_word.2.1 hv hy h1 with h | ⟨c, r, h, hc⟩ <;>
  rcases lit_word_cases kwUnion v y kw_word.2.2.1 hv hy h2 with h' | ⟨c', r', h', hc'⟩ <;>
  simp [*]

theorem matchEnum_word {sp : Char → Bool} (hs : SpOK sp) (v y : List Char) (hv : v.all isWord = true)
    (hy : noHead isWord y = true) (h1 : v ≠ kwEnum) (h2 : v ≠ kwFlag) : matchEnum sp (v ++ y) = none := by
  unfold matchEnum enumKw
  simp only [show (['e', 'n', 'u', 'm'] : List Char) = kwEnum from rfl, show (['f', 'l', 'a', 'g'] : List Char) = kwFlag from rfl]
  rcases lit_word_cases kwEnum v y kw_word.2.2.2.1 hv hy h1 with h | ⟨c, r, h, hc⟩ <;>
  rcases lit_word_cases kwFlag v y kw_word.2.2.2.2 hv hy h2 with h' | ⟨c', r', h', hc'⟩ <;>
  simp [List.takeWhile, hs.word, *]


theorem nameTail_blank {sp : Char → Bool} (hs : SpOK sp) (s rest : List Char) (hb : blank s = true) :
    nameTail sp (s ++ ';' :: rest) = some (s, ';' :: rest) := by
  have h := span_blank hs s ';' rest hb hs.semi
  simp [nameTail, h.1, h.2]

theorem splitLastClose_none (t : List Char) (h : t.all (· != ']') = true) : splitLastClose t = none := by
  induction t with
  | nil => rfl
  | cons c t ih =>
    simp only [List.all_cons, Bool.and_eq_true, bne_iff_ne] at h
    simp [splitLastClose, ih h.2, h.1]

theorem splitLastClose_app (c t : List Char) (h : t.all (· != ']') = true) : splitLastClose (c ++ ']' :: t) = some (c, t) := by
  induction c with
  | nil => simp [splitLastClose, splitLastClose_none t h]
  | cons d c ih => simp [splitLastClose, ih]

theorem nameCount_some {sp : Char → Bool} (hs : SpOK sp) (c s rest : List Char)
    (hc : c.all (fun c => c != ';' && c != '\n') = true) (hb : blank s = true) :
    nameCount sp ('[' :: c ++ ']' :: s ++ ';' :: rest) = some (some c, '[' :: c ++ ']' :: s, ';' :: rest) := by
  -- the run up to `;` / newline: the count, `]`, and blanks; so the last `]` in it is that one
  have hR : (c ++ ']' :: (s ++ ';' :: rest)).takeWhile (fun c => c != ';' && c != '\n')
      = c ++ ']' :: s.takeWhile (fun c => c != ';' && c != '\n') := by
    rw [List.takeWhile_append_of_pos (List.all_eq_true.mp hc), List.takeWhile_cons_of_pos (by decide),
      takeWhile_stop _ s ';' rest (by decide)]
  have hT : (s.takeWhile (fun c => c != ';' && c != '\n')).all (· != ']') = true :=
    List.all_eq_true.mpr fun d hd => bne_iff_ne.mpr
      (ne_of_class (List.all_eq_true.mp hb d ((List.takeWhile_sublist _).subset hd)) ']' (by decide))
  have hd : (c ++ ']' :: (s ++ ';' :: rest)).drop (c.length + 1) = s ++ ';' :: rest := by
    rw [List.append_cons, List.drop_left' (by rw [List.length_append]; rfl)]
  simp only [List.cons_append, List.append_assoc]
  rw [nameCount, hR, splitLastClose_app _ _ hT]
  simp only [hd, nameTail_blank hs s rest hb, List.cons_append]

theorem nameCount_none {sp : Char → Bool} (hs : SpOK sp) (s rest : List Char) (hb : blank s = true) :
    nameCount sp (s ++ ';' :: rest) = some (none, s, ';' :: rest) := by
  unfold nameCount
  cases s with
  | nil => simp [nameTail, hs.semi]
  | cons d s =>
    have hd : isWsA d = true := by simp only [blank, List.all_cons, Bool.and_eq_true] at hb; exact hb.1
    have hne : d ≠ '[' := ne_of_class hd '[' (by decide)
    have := nameTail_blank hs (d :: s) rest hb
    split
    · rename_i heq; simp at heq; exact absurd heq.1 hne
    · simp only [this]

theorem nameBits_some {sp : Char → Bool} (hs : SpOK sp) (a b ds Z : List Char) (ha : blank a = true) (hb : blank b = true)
    (hne : ds ≠ []) (hds : ds.all Char.isDigit = true) (hZ : noHead Char.isDigit Z = true) :
    nameBits sp (a ++ ':' :: b ++ ds ++ Z) = some (ds, a ++ ':' :: b ++ ds, Z) := by
  obtain ⟨d, ds', rfl⟩ := List.exists_cons_of_ne_nil hne
  have hd : sp d = false := by
    simp only [List.all_cons, Bool.and_eq_true] at hds
    exact hs.word d (digit_word d hds.1)
  have h1 := span_blank hs a ':' (b ++ (d :: ds') ++ Z) ha hs.colon
  have h2 := tw_app sp b ((d :: ds') ++ Z) (blank_sp hs b hb) (by simp [noHead, hd])
  have h3 := tw_app Char.isDigit (d :: ds') Z hds hZ
  unfold nameBits
  have e : a ++ ':' :: b ++ (d :: ds') ++ Z = a ++ ':' :: (b ++ (d :: ds') ++ Z) := by simp
  rw [e, h1.2]
  simp only [h1.1]
  have e2 : b ++ (d :: ds') ++ Z = b ++ ((d :: ds') ++ Z) := by simp
  rw [e2, h2.2, h2.1, h3.1, h3.2]
  simp

theorem nameBits_none (sp : Char → Bool) (Z : List Char) (h : (Z.dropWhile sp).head? ≠ some ':') : nameBits sp Z = none := by
  unfold nameBits
  split
  · rename_i heq; rw [heq] at h; simp at h
  · rfl

theorem namePre_lexeme {sp : Char → Bool} (hs : SpOK sp) (pre X : List Char) (hpre : preOK pre = true)
    (hX : ∃ c r, X = c :: r ∧ isWord c = true) : namePre sp (pre ++ X) = pre := by
  obtain ⟨c, r, rfl, hc⟩ := hX
  have hcs : c ≠ '*' := fun e => by subst e; exact absurd hc (by decide)
  cases pre with
  | nil => exact namePre_ne sp c r hcs
  | cons p pre =>
    simp only [preOK, Bool.and_eq_true, beq_iff_eq] at hpre
    obtain ⟨rfl, hall⟩ := hpre
    have hall' : pre.all (fun c => c == '*' || sp c) = true := by
      simp only [List.all_eq_true, Bool.or_eq_true, beq_iff_eq] at hall ⊢
      exact fun d hd => (hall d hd).imp id (hs.blankA d)
    have := (tw_app (fun c => c == '*' || sp c) pre (c :: r) hall' (by simp [noHead, hcs, hs.word c hc])).1
    simp [namePre, this]

theorem noHead_word_nameRest (bits : Option (List Char × List Char × List Char)) (cnt : Option (List Char)) (s rest : List Char)
    (hbits : (match bits with | none => true | some (a, b, ds) => blank a && blank b && !ds.isEmpty && ds.all Char.isDigit) = true)
    (hb : blank s = true) : noHead isWord (bitsText bits ++ countText cnt ++ s ++ ';' :: rest) = true := by
  have hw : ∀ c, isWsA c = true → isWord c = false := word_of_wsA
  cases bits with
  | some t =>
    obtain ⟨a, b, ds⟩ := t
    simp only [Bool.and_eq_true] at hbits
    have := noHead_blank_then (p := isWord) a ':' (b ++ ds ++ countText cnt ++ s ++ ';' :: rest) hw hbits.1.1.1 (by decide)
    simpa [bitsText] using this
  | none =>
    cases cnt with
    | some c => rfl
    | none => simpa [bitsText, countText] using noHead_blank_then (p := isWord) s ';' rest hw hb (by decide)

theorem noHead_digit_count (cnt : Option (List Char)) (s rest : List Char) (hb : blank s = true) :
    noHead Char.isDigit (countText cnt ++ s ++ ';' :: rest) = true := by
  cases cnt with
  | some c => rfl
  | none =>
    refine noHead_blank_then (p := Char.isDigit) s ';' rest (fun c h => ?_) hb (by decide)
    cases hd : c.isDigit with
    | false => rfl
    | true => rw [isWsA_of_word c (digit_word c hd)] at h; cases h

theorem nameBits_text {sp : Char → Bool} (hs : SpOK sp) (bits : Option (List Char × List Char × List Char))
    (hbits : (match bits with | none => true | some (a, b, ds) => blank a && blank b && !ds.isEmpty && ds.all Char.isDigit) = true)
    (cnt : Option (List Char)) (s rest : List Char) (hb : blank s = true) :
    nameBits sp (bitsText bits ++ (countText cnt ++ s ++ ';' :: rest))
      = bits.map fun t => (t.2.2, bitsText bits, countText cnt ++ s ++ ';' :: rest) := by
  cases bits with
  | some t =>
    obtain ⟨a, b, ds⟩ := t
    simp only [Bool.and_eq_true, Bool.not_eq_true', List.isEmpty_eq_false_iff] at hbits
    have := nameBits_some hs a b ds _ hbits.1.1.1 hbits.1.1.2 hbits.1.2 hbits.2 (noHead_digit_count cnt s rest hb)
    simpa only [bitsText, List.append_assoc, List.cons_append, Option.map] using this
  | none =>
    refine nameBits_none sp _ ?_
    cases cnt with
    | some c => simp [bitsText, countText, hs.lbr]
    | none => simp [bitsText, countText, (span_blank hs s ';' rest hb hs.semi).2]

theorem nameCount_text {sp : Char → Bool} (hs : SpOK sp) (cnt : Option (List Char))
    (hcnt : (match cnt with | none => true | some c => c.all (fun c => c != ';' && c != '\n')) = true) (s rest : List Char)
    (hb : blank s = true) :
    nameCount sp (countText cnt ++ (s ++ ';' :: rest)) = some (cnt, countText cnt ++ s, ';' :: rest) := by
  cases cnt with
  | none => exact nameCount_none hs s rest hb
  | some c => simpa only [countText, List.append_assoc, List.cons_append, List.nil_append] using nameCount_some hs c s rest hcnt hb

theorem matchName_lexeme {sp : Char → Bool} (hs : SpOK sp) (pre w : List Char) (bits : Option (List Char × List Char × List Char))
    (cnt : Option (List Char)) (hwf : (Lexeme.name pre w bits cnt).wf = true) (s rest : List Char) (hb : blank s = true) :
    matchName sp ((Lexeme.name pre w bits cnt).text ++ s ++ ';' :: rest)
      = some (⟨pre ++ w, bits.map (·.2.2), cnt⟩, (Lexeme.name pre w bits cnt).text ++ s, ';' :: rest) := by
  simp only [Lexeme.wf, Bool.and_eq_true, isWordStr] at hwf
  obtain ⟨⟨⟨⟨hpre', -⟩, hwne, hw⟩, hbits⟩, hcnt⟩ := hwf
  have hwne' : w ≠ [] := by intro e; subst e; simp at hwne
  obtain ⟨c, w', rfl⟩ := List.exists_cons_of_ne_nil hwne'
  have hc : isWord c = true := List.all_eq_true.mp hw c List.mem_cons_self
  -- the stars, the word, then the bit width and the count in front of blanks and `;`
  let Z := countText cnt ++ s ++ ';' :: rest
  have etext : (Lexeme.name pre (c :: w') bits cnt).text ++ s ++ ';' :: rest = pre ++ ((c :: w') ++ (bitsText bits ++ Z)) := by
    simp [Lexeme.text, Z]
  have h0 : namePre sp (pre ++ ((c :: w') ++ (bitsText bits ++ Z))) = pre := namePre_lexeme hs pre _ hpre' ⟨c, _, rfl, hc⟩
  have h1 := tw_app isWord (c :: w') (bitsText bits ++ Z) hw
    (by simpa only [Z, List.append_assoc] using noHead_word_nameRest bits cnt s rest hbits hb)
  rw [etext, matchName]
  simp only [h0, List.drop_left, h1.1, h1.2, List.isEmpty_cons, Bool.false_eq_true, if_false, Z, nameBits_text hs bits hbits cnt s rest hb]
  cases bits with
  | none => simp only [Option.map, List.nil_append, nameCount_text hs cnt hcnt s rest hb, Lexeme.text, bitsText, List.append_assoc]
  | some t => simp only [Option.map, nameCount_text hs cnt hcnt s rest hb, Lexeme.text, List.append_assoc]

theorem noHead_word_more (more : List (List Char × List Char × List Char)) (s rest : List Char) (hm : moreOK more = true)
    (hb : blank s = true) : noHead isWord (moreText more ++ s ++ ';' :: rest) = true := by
  have hw : ∀ c, isWsA c = true → isWord c = false := word_of_wsA
  cases more with
  | nil => simpa [moreText] using noHead_blank_then (p := isWord) s ';' rest hw hb (by decide)
  | cons t more =>
    obtain ⟨a, b, w⟩ := t
    simp only [moreOK, Bool.and_eq_true] at hm
    have := noHead_blank_then (p := isWord) a ',' (b ++ w ++ moreText more ++ s ++ ';' :: rest) hw hm.1.1.1 (by decide)
    simpa [moreText] using this

theorem defsLoop_more {sp : Char → Bool} (hs : SpOK sp) : ∀ (more : List (List Char × List Char × List Char)) (fuel : Nat)
    (s rest : List Char), moreOK more = true → blank s = true → more.length < fuel →
    defsLoop sp fuel (moreText more ++ s ++ ';' :: rest) = some (moreText more, more.length, s ++ ';' :: rest)
  | [], fuel + 1, s, rest, _, hb, _ => by
    have h := span_blank hs s ';' rest hb hs.semi
    simp [defsLoop, moreText, h.2]
  | (a, b, w) :: more, fuel + 1, s, rest, hm, hb, hf => by
    simp only [moreOK, Bool.and_eq_true, isWordStr, Bool.not_eq_true', List.isEmpty_eq_false_iff] at hm
    obtain ⟨⟨⟨ha, hbb⟩, hwne, hw⟩, hmore⟩ := hm
    obtain ⟨c, w', rfl⟩ := List.exists_cons_of_ne_nil hwne
    have hc : sp c = false := by simp only [List.all_cons, Bool.and_eq_true] at hw; exact hs.word c hw.1
    let M := moreText more ++ s ++ ';' :: rest
    have e : moreText ((a, b, c :: w') :: more) ++ s ++ ';' :: rest = a ++ ',' :: (b ++ ((c :: w') ++ M)) := by
      simp [moreText, M]
    have h1 := span_blank hs a ',' (b ++ ((c :: w') ++ M)) ha hs.comma
    have h2 := tw_app sp b ((c :: w') ++ M) (blank_sp hs b hbb) (by simp [noHead, hc])
    have h3 := tw_app isWord (c :: w') M hw (noHead_word_more more s rest hmore hb)
    have ih := defsLoop_more hs more fuel s rest hmore hb (by simpa using hf)
    rw [e]
    unfold defsLoop
    simp only [h1.1, h1.2, h2.1, h2.2, h3.1, h3.2, List.isEmpty_cons, Bool.false_eq_true, if_false]
    simp only [M] at ih ⊢
    rw [ih]
    simp [moreText]

theorem more_length (more : List (List Char × List Char × List Char)) : more.length ≤ (moreText more).length := by
  induction more with
  | nil => simp
  | cons t more ih => obtain ⟨a, b, w⟩ := t; simp [moreText]; omega

theorem matchDefs_lexeme {sp : Char → Bool} (hs : SpOK sp) (lead first : List Char) (more : List (List Char × List Char × List Char))
    (hwf : (Lexeme.defs lead first more).wf = true) (s rest : List Char) (hb : blank s = true) :
    matchDefs sp true ((Lexeme.defs lead first more).text ++ s ++ ';' :: rest)
      = some ((Lexeme.defs lead first more).text ++ s, ';' :: rest) := by
  simp only [Lexeme.wf, Bool.and_eq_true, isWordStr, Bool.not_eq_true', List.isEmpty_eq_false_iff] at hwf
  obtain ⟨⟨⟨⟨hl, hfne, hf⟩, -⟩, hmne⟩, hm⟩ := hwf
  obtain ⟨c, f', rfl⟩ := List.exists_cons_of_ne_nil hfne
  have hc : sp c = false := by simp only [List.all_cons, Bool.and_eq_true] at hf; exact hs.word c hf.1
  let M := moreText more ++ s ++ ';' :: rest
  have e : (Lexeme.defs lead (c :: f') more).text ++ s ++ ';' :: rest = lead ++ ((c :: f') ++ M) := by simp [Lexeme.text, M]
  have h1 := tw_app sp lead ((c :: f') ++ M) (blank_sp hs lead hl) (by simp [noHead, hc])
  have h2 := tw_app isWord (c :: f') M hf (noHead_word_more more s rest hm hb)
  have hlen : more.length < (lead ++ ((c :: f') ++ M)).length + 1 := by
    have := more_length more
    simp [M]; omega
  have h3 := defsLoop_more hs more _ s rest hm hb hlen
  have h4 := span_blank hs s ';' rest hb hs.semi
  have hn : more.length ≠ 0 := by simpa using hmne
  rw [e]
  unfold matchDefs
  simp only [Bool.not_true, Bool.false_eq_true, if_false, h1.1, h1.2, h2.1, h2.2, List.isEmpty_cons]
  simp only [M] at h3 ⊢
  rw [h3]
  simp [hn, h4.1, h4.2, Lexeme.text]

theorem matchDefs_word_none {sp : Char → Bool} (hs : SpOK sp) (ac : Bool) (lead v y : List Char) (hl : blank lead = true)
    (hne : v ≠ []) (hv : v.all isWord = true) (hy : noHead isWord y = true) (hc : (y.dropWhile sp).head? ≠ some ',') :
    matchDefs sp ac (lead ++ v ++ y) = none := by
  obtain ⟨c, v', rfl⟩ := List.exists_cons_of_ne_nil hne
  have hcs : sp c = false := by simp only [List.all_cons, Bool.and_eq_true] at hv; exact hs.word c hv.1
  have h1 := tw_app sp lead ((c :: v') ++ y) (blank_sp hs lead hl) (by simp [noHead, hcs])
  have h2 := tw_app isWord (c :: v') y hv hy
  have hloop : ∀ n, defsLoop sp (n + 1) y = some ([], 0, y) := by
    intro n
    unfold defsLoop
    split
    · rename_i heq; rw [heq] at hc; simp at hc
    · rfl
  unfold matchDefs
  cases ac with
  | false => rfl
  | true =>
    rw [show lead ++ (c :: v') ++ y = lead ++ ((c :: v') ++ y) by simp]
    simp only [Bool.not_true, Bool.false_eq_true, if_false, h1.1, h1.2, h2.1, h2.2, List.isEmpty_cons, hloop]
    simp

theorem matchDefs_blank_nword {sp : Char → Bool} (hs : SpOK sp) (ac : Bool) (lead : List Char) (c : Char) (r : List Char)
    (hl : blank lead = true) (h1 : sp c = false) (h2 : isWord c = false) : matchDefs sp ac (lead ++ c :: r) = none := by
  have h := span_blank hs lead c r hl h1
  simp [matchDefs, h.2, h2]

theorem rstripBy_app (sp : Char → Bool) (t b : List Char) (hb : b.all sp = true)
    (ht : ∀ c, t.getLast? = some c → sp c = false) : rstripBy sp (t ++ b) = t := by
  unfold rstripBy
  have hb' : b.reverse.all sp = true := by simpa using hb
  have hn : noHead sp t.reverse = true := by
    cases h : t.reverse with
    | nil => rfl
    | cons c r =>
      have : t.getLast? = some c := by
        have := congrArg List.head? h
        simpa [List.head?_reverse] using this
      simp [noHead, ht c this]
  rw [List.reverse_append, dropWhile_app sp _ _ hb' hn, List.reverse_reverse]

theorem enumBody_lexeme {sp : Char → Bool} (hs : SpOK sp) (vals s rest : List Char) (hne : vals ≠ [])
    (hv : vals.all (· != '}') = true) (hb : blank s = true) :
    enumBody sp ('{' :: vals ++ '}' :: s ++ ';' :: rest) = some (vals, '{' :: vals ++ '}' :: s, ';' :: rest) := by
  have h1 := tw_app (· != '}') vals ('}' :: (s ++ ';' :: rest)) hv (by simp [noHead])
  have h2 := span_blank hs s ';' rest hb hs.semi
  unfold enumBody
  simp only [List.cons_append, List.append_assoc]
  have h1' : (vals ++ '}' :: (s ++ ';' :: rest)).takeWhile (· != '}') = vals := h1.1
  have h1'' : (vals ++ '}' :: (s ++ ';' :: rest)).dropWhile (· != '}') = '}' :: (s ++ ';' :: rest) := h1.2
  simp only [h1', h1'', h2.1, h2.2]
  cases vals with
  | nil => exact absurd rfl hne
  | cons v vs => simp


theorem enumKw_lexeme (fl : Bool) (X : List Char) :
    enumKw ((if fl then kwFlag else kwEnum) ++ X) = some (fl, if fl then kwFlag else kwEnum, X) := by
  cases fl with
  | false =>
    simp only [Bool.false_eq_true, if_false, enumKw]
    rw [show (['e', 'n', 'u', 'm'] : List Char) = kwEnum from rfl, lit_append]
  | true =>
    simp only [if_true, enumKw]
    have : lit kwEnum (kwFlag ++ X) = none := by simp [kwEnum, kwFlag, lit]
    rw [show (['e', 'n', 'u', 'm'] : List Char) = kwEnum from rfl, this,
      show (['f', 'l', 'a', 'g'] : List Char) = kwFlag from rfl, lit_append]

theorem enumType_none (sp : Char → Bool) (B : List Char) : enumType sp ('{' :: B) = some (none, [], '{' :: B) := rfl

theorem enumType_some {sp : Char → Bool} (hs : SpOK sp) (a t b B : List Char) (ha : blank a = true) (hb : blank b = true)
    (htall : t.all (fun c => isWord c || isWsA c) = true) (c : Char) (t' : List Char) (ht : t = c :: t') (hc : isWord c = true)
    (hlast : ∀ d, t.getLast? = some d → isWord d = true) :
    enumType sp (':' :: a ++ t ++ b ++ '{' :: B) = some (some t, ':' :: a ++ t ++ b, '{' :: B) := by
  have htbrace : (t ++ b).all (· != '{') = true := by
    simp only [List.all_append, Bool.and_eq_true, List.all_eq_true, bne_iff_ne]
    constructor
    · intro d hd
      have := (List.all_eq_true.mp htall) d hd
      intro e; subst e; exact absurd this (by decide)
    · intro d hd
      exact ne_of_class ((List.all_eq_true.mp hb) d hd) '{' (by decide)
  have hthd : noHead sp (t ++ (b ++ '{' :: B)) = true := by subst ht; simp [noHead, hs.word c hc]
  have h4 := tw_app sp a (t ++ (b ++ '{' :: B)) (blank_sp hs a ha) hthd
  have h5 := tw_app (· != '{') (t ++ b) ('{' :: B) htbrace (by simp [noHead])
  have hstrip : rstripBy sp (t ++ b) = t :=
    rstripBy_app sp t b (blank_sp hs b hb) (fun d hd => hs.word d (hlast d hd))
  have e : ':' :: a ++ t ++ b ++ '{' :: B = ':' :: (a ++ (t ++ (b ++ '{' :: B))) := by simp
  rw [e]
  unfold enumType
  simp only [h4.1, h4.2]
  rw [show t ++ (b ++ '{' :: B) = (t ++ b) ++ '{' :: B by simp, h5.1, h5.2, hstrip]
  subst ht
  simp

theorem matchEnum_lexeme {sp : Char → Bool} (hs : SpOK sp) (fl : Bool) (ws1 nm ws2 : List Char)
    (ty : Option (List Char × List Char × List Char)) (vals : List Char)
    (hwf : (Lexeme.enum fl ws1 nm ws2 ty vals).wf = true) (s rest : List Char) (hb : blank s = true) :
    matchEnum sp ((Lexeme.enum fl ws1 nm ws2 ty vals).text ++ s ++ ';' :: rest)
      = some (⟨fl, if nm.isEmpty then none else some nm, ty.map (·.2.1), vals⟩,
              (Lexeme.enum fl ws1 nm ws2 ty vals).text ++ s, ';' :: rest) := by
  -- every `takeWhile` / `dropWhile` of the recogniser stops at the next class boundary of the text (`tw_app`): `h1` … `h3`, `hTy`, `hB`
  simp only [Lexeme.wf, Bool.and_eq_true, Bool.not_eq_true', List.isEmpty_eq_false_iff, Bool.or_eq_true, List.isEmpty_iff] at hwf
  obtain ⟨⟨⟨⟨⟨⟨⟨hws1, hws1ne⟩, hnm⟩, hws2⟩, hnmws2⟩, hty⟩, hvne⟩, hvals⟩ := hwf
  have hnmN : nm.all (fun c => !sp c && c != ':' && c != '{') = true := by
    simp only [List.all_eq_true] at hnm ⊢
    intro c hc
    have hw := hnm c hc
    have h1 : c ≠ ':' := fun e => by subst e; exact absurd hw (by decide)
    have h2 : c ≠ '{' := fun e => by subst e; exact absurd hw (by decide)
    simp [hs.word c hw, h1, h2]
  let B := vals ++ '}' :: s ++ ';' :: rest
  have hB := enumBody_lexeme hs vals s rest hvne hvals hb
  let T := tyText ty ++ '{' :: B
  have hT : ∃ d r, T = d :: r ∧ (d = ':' ∨ d = '{') := by
    cases ty with
    | none => exact ⟨'{', _, rfl, .inr rfl⟩
    | some t => obtain ⟨a, t, b⟩ := t; exact ⟨':', _, rfl, .inl rfl⟩
  obtain ⟨d, Tr, hTe, hd⟩ := hT
  have hdsp : sp d = false := by rcases hd with rfl | rfl <;> simp [hs.colon, hs.lbrace]
  have hdN : (fun c => !sp c && c != ':' && c != '{') d = false := by rcases hd with rfl | rfl <;> simp
  have e : (Lexeme.enum fl ws1 nm ws2 ty vals).text ++ s ++ ';' :: rest
      = (if fl then kwFlag else kwEnum) ++ (ws1 ++ (nm ++ (ws2 ++ T))) := by
    simp [Lexeme.text, T, B]
  have hN2 : noHead (fun c => !sp c && c != ':' && c != '{') (ws2 ++ T) = true := by
    cases ws2 with
    | nil => simp [noHead, hTe, hdN]
    | cons w ws2 =>
      simp only [blank, List.all_cons, Bool.and_eq_true] at hws2
      simp [noHead, hs.blankA w hws2.1]
  have hN1 : noHead sp (nm ++ (ws2 ++ T)) = true := by
    cases nm with
    | nil =>
      have : ws2 = [] := by rcases hnmws2 with h | h; exact absurd rfl h; exact h
      subst this
      simp [noHead, hTe, hdsp]
    | cons c nm =>
      simp only [List.all_cons, Bool.and_eq_true] at hnm
      simp [noHead, hs.word c hnm.1]
  have h1 := tw_app sp ws1 (nm ++ (ws2 ++ T)) (blank_sp hs ws1 hws1) hN1
  have h2 := tw_app (fun c => !sp c && c != ':' && c != '{') nm (ws2 ++ T) hnmN hN2
  have h3 := tw_app sp ws2 T (blank_sp hs ws2 hws2) (by simp [noHead, hTe, hdsp])
  have hws1e : ws1.isEmpty = false := by simpa using hws1ne
  have hTy : enumType sp T = some (ty.map (·.2.1), tyText ty, '{' :: B) := by
    cases ty with
    | none => rfl
    | some t =>
      obtain ⟨a, t, b⟩ := t
      simp only [Bool.and_eq_true] at hty
      obtain ⟨⟨⟨⟨ha, hbb⟩, htall⟩, hthead⟩, htlast⟩ := hty
      have htne : t ≠ [] := by intro e; subst e; simp at hthead
      obtain ⟨c, t', rfl⟩ := List.exists_cons_of_ne_nil htne
      have := enumType_some hs a (c :: t') b B ha hbb htall c t' rfl hthead
        (fun d hd => by rw [hd] at htlast; exact htlast)
      simpa [T, tyText] using this
  rw [e]
  unfold matchEnum
  simp only [enumKw_lexeme, h1.1, h1.2, h2.1, h2.2, h3.1, h3.2, hws1e, Bool.false_eq_true, if_false, hTy]
  have hB' : enumBody sp ('{' :: B) = some (vals, '{' :: vals ++ '}' :: s, ';' :: rest) := by simpa [B] using hB
  rw [hB']
  simp [Lexeme.text]

/-- the end of a `#define` line: the separator starts with a line break, or the text ends there -/
def lineEnd (s rest : List Char) : Bool :=
  match s with
  | c :: _ => c == '\n' || c == '\r'
  | [] => rest.isEmpty

theorem matchDefine_lexeme {sp : Char → Bool} (hs : SpOK sp) (ws1 nm ws2 val : List Char)
    (hwf : (Lexeme.define ws1 nm ws2 val).wf = true) (s rest : List Char) (hb : blank s = true)
    (hend : lineEnd s rest = true) (hrest : noHead sp rest = true) :
    matchDefine sp ((Lexeme.define ws1 nm ws2 val).text ++ s ++ rest)
      = some (⟨nm, val⟩, (Lexeme.define ws1 nm ws2 val).text ++ s, rest) := by
  -- as for ENUM: each run of the recogniser ends where the next piece of the text begins (`tw_app`: `h1` … `h5`)
  simp only [Lexeme.wf, Bool.and_eq_true, Bool.not_eq_true', List.isEmpty_eq_false_iff] at hwf
  obtain ⟨⟨⟨⟨⟨⟨⟨hws1, hws1ne⟩, hnmne⟩, hnm⟩, hws2⟩, hws2ne⟩, hvhead⟩, hval⟩ := hwf
  have nsp : ∀ c, isWs c = false → sp c = false := fun c h => by
    cases h' : sp c with
    | false => rfl
    | true => rw [hs.sub c h'] at h; exact absurd h (by simp)
  obtain ⟨n, nm', rfl⟩ := List.exists_cons_of_ne_nil hnmne
  obtain ⟨w, ws2', rfl⟩ := List.exists_cons_of_ne_nil hws2ne
  have hvne : val ≠ [] := by intro e; subst e; simp at hvhead
  obtain ⟨v, val', rfl⟩ := List.exists_cons_of_ne_nil hvne
  have hn : sp n = false := by
    simp only [List.all_cons, Bool.and_eq_true, Bool.not_eq_true'] at hnm; exact nsp n hnm.1
  have hv : sp v = false := by simp only [Bool.not_eq_true'] at hvhead; exact nsp v hvhead
  have hw : sp w = true := by simp only [blank, List.all_cons, Bool.and_eq_true] at hws2; exact hs.blankA w hws2.1
  have hnmN : (n :: nm').all (fun c => !sp c) = true := by
    simp only [List.all_eq_true, Bool.not_eq_true'] at hnm ⊢
    exact fun c hc => nsp c (hnm c hc)
  let Z := s ++ rest
  have e : (Lexeme.define ws1 (n :: nm') (w :: ws2') (v :: val')).text ++ s ++ rest
      = kwDefine ++ (ws1 ++ ((n :: nm') ++ ((w :: ws2') ++ ((v :: val') ++ Z)))) := by simp [Lexeme.text, Z]
  have h1 := tw_app sp ws1 ((n :: nm') ++ ((w :: ws2') ++ ((v :: val') ++ Z))) (blank_sp hs ws1 hws1) (by simp [noHead, hn])
  have h2 := tw_app (fun c => !sp c) (n :: nm') ((w :: ws2') ++ ((v :: val') ++ Z)) hnmN (by simp [noHead, hw])
  have h3 := tw_app sp (w :: ws2') ((v :: val') ++ Z) (blank_sp hs _ hws2) (by simp [noHead, hv])
  have hZ : noHead notEol Z = true := by
    cases s with
    | nil => simp only [lineEnd, List.isEmpty_iff] at hend; subst hend; rfl
    | cons c s => simp only [lineEnd, Bool.or_eq_true, beq_iff_eq] at hend; rcases hend with rfl | rfl <;> rfl
  have h4 := tw_app notEol (v :: val') Z hval hZ
  have h5 := tw_app sp s rest (blank_sp hs s hb) hrest
  have hws1e : ws1.isEmpty = false := by simpa using hws1ne
  rw [e]
  unfold matchDefine
  rw [show (['#', 'd', 'e', 'f', 'i', 'n', 'e'] : List Char) = kwDefine from rfl, lit_append]
  simp only [List.cons_append] at h1 h2 h3 h4
  simp only [List.cons_append, h1.1, h1.2, h2.1, h2.2, h3.1, h3.2, hws1e, List.isEmpty_cons, Bool.or_self, Bool.false_eq_true,
    if_false, h4.1, h4.2]
  simp only [Z, h5.1, h5.2]
  simp [Lexeme.text, kwDefine]

theorem matchConfig_lexeme (vals rest : List Char) (hwf : (Lexeme.config vals).wf = true) :
    matchConfig ((Lexeme.config vals).text ++ rest) = some (⟨vals⟩, (Lexeme.config vals).text, rest) := by
  simp only [Lexeme.wf, Bool.and_eq_true, Bool.not_eq_true'] at hwf
  have h := tw_app (· != ']') vals (']' :: rest) hwf.2 (by simp [noHead])
  have e : (Lexeme.config vals).text ++ rest = '#' :: '[' :: (vals ++ ']' :: rest) := by simp [Lexeme.text]
  rw [e]
  unfold matchConfig
  simp only [h.1, h.2, hwf.1, Bool.false_eq_true, if_false]
  simp [Lexeme.text]

end Cstruct.DefParser.C13
