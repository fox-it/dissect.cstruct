/-
  C13 — lemmas on the comment scanner `stripAux`, through one step of it (`stripAux_step`): fuel-irrelevance, its case equations
  through `strip`, composition on `Closed` texts, line breaks.
-/
import Proofs.Spec.C13
namespace Cstruct.Parser
open Cstruct

macro "len" : tactic => `(tactic| (simp only [List.length_cons, List.length_append] at * <;> omega))

theorem splitAtChar_eq (q : Char) : ∀ (l body rest : List Char),
    splitAtChar q l = some (body, rest) → l = body ++ q :: rest := by
  intro l
  induction l with
  | nil => intro _ _ h; simp [splitAtChar] at h
  | cons c r ih =>
    intro body rest h
    simp only [splitAtChar] at h
    split at h
    · simp at h; obtain ⟨rfl, rfl⟩ := h; simp [*]
    · cases hr : splitAtChar q r with
      | none => simp [hr] at h
      | some p =>
        obtain ⟨a, b⟩ := p
        simp [hr] at h
        obtain ⟨rfl, rfl⟩ := h
        simp [ih a b hr]

theorem splitAtClose_eq : ∀ (l body rest : List Char),
    splitAtClose l = some (body, rest) → l = body ++ '*' :: '/' :: rest := by
  intro l
  fun_induction splitAtClose l with
  | case1 => intro _ _ h; simp at h
  | case2 r => intro _ _ h; simp at h; obtain ⟨rfl, rfl⟩ := h; simp
  | case3 c r hne ih =>
    intro body rest h
    cases hr : splitAtClose r with
    | none => simp [hr] at h
    | some p =>
      obtain ⟨a, b⟩ := p
      simp [hr] at h
      obtain ⟨rfl, rfl⟩ := h
      simp [ih a b hr]

theorem spanLine_eq : ∀ (l a b : List Char), spanLine l = (a, b) →
    l = a ++ b ∧ (∀ c ∈ a, isEol c = false) ∧ (∀ c r, b = c :: r → isEol c = true) := by
  intro l
  induction l with
  | nil => intro a b h; simp [spanLine] at h; obtain ⟨rfl, rfl⟩ := h; simp
  | cons c r ih =>
    intro a b h
    simp only [spanLine] at h
    split at h
    · simp at h; obtain ⟨rfl, rfl⟩ := h
      simp [isEol, *]
    · rename_i hc
      cases hr : spanLine r with
      | mk x y =>
        simp [hr] at h
        obtain ⟨rfl, rfl⟩ := h
        obtain ⟨h1, h2, h3⟩ := ih x y hr
        refine ⟨by simp [h1], ?_, h3⟩
        intro d hd
        simp at hd
        rcases hd with rfl | hd
        · simpa [isEol] using hc
        · exact h2 d hd

theorem newlinesOf_append (a b : List Char) : newlinesOf (a ++ b) = newlinesOf a ++ newlinesOf b := by
  simp [newlinesOf]

theorem newlinesOf_idem (a : List Char) : newlinesOf (newlinesOf a) = newlinesOf a := by
  simp [newlinesOf]

theorem newlinesOf_cons_ne (c : Char) (a : List Char) (h : c ≠ '\n') : newlinesOf (c :: a) = newlinesOf a := by
  simp [newlinesOf, h]

theorem newlinesOf_noEol (a : List Char) (h : ∀ c ∈ a, isEol c = false) : newlinesOf a = [] := by
  simp only [newlinesOf, List.filter_eq_nil_iff]
  intro c hc
  have := h c hc
  simp [isEol] at this
  simp [this.2]

theorem newlinesOf_commentRepl (p n : Option Char) (body : List Char) : newlinesOf (commentRepl p body n) = newlinesOf body := by
  unfold commentRepl
  split
  · rename_i he
    have he' : newlinesOf body = [] := by simpa using he
    rw [he']
    cases p <;> cases n <;> simp [newlinesOf]
    intro a _ _ h; subst h; decide
  · exact newlinesOf_idem body

/-- one step of the scanner, whatever the step budget: its output, the input character and the proper suffix it goes on with -/
def Step (p : Option Char) (l : List Char) : Prop :=
  ∃ (out : List Char) (p' : Option Char) (rest : List Char), rest.length < l.length ∧
    (∀ g, stripAux (g + 1) p l = out ++ stripAux g p' rest) ∧ newlinesOf out ++ newlinesOf rest = newlinesOf l

theorem stripAux_nil (f : Nat) (p : Option Char) : stripAux f p [] = [] := by cases f <;> rfl

theorem stripAux_step (f : Nat) (p : Option Char) (l : List Char) (hf : f ≠ 0) (hl : l ≠ []) : Step p l := by
  -- where neither a comment nor a string starts, the character is copied
  have copy : ∀ p c r, (∀ g, stripAux (g + 1) p (c :: r) = c :: stripAux g (some c) r) → Step p (c :: r) :=
    fun p c r h => ⟨[c], some c, r, Nat.lt_succ_self _, h, (newlinesOf_append [c] r).symm⟩
  -- a line comment: nothing is put out, the body has no line break
  have line : ∀ p r' a b p' rest, spanLine r' = (a, b) → rest.length ≤ b.length → newlinesOf rest = newlinesOf b →
      (∀ g, stripAux (g + 1) p ('/' :: '/' :: r') = stripAux g p' rest) → Step p ('/' :: '/' :: r') :=
    fun p r' a b p' rest hs hl hn h => by
      obtain ⟨e, ha, -⟩ := spanLine_eq r' a b hs
      refine ⟨[], p', rest, by rw [e]; len, h, ?_⟩
      rw [e, hn, show '/' :: '/' :: (a ++ b) = ['/', '/'] ++ a ++ b by rfl, newlinesOf_append, newlinesOf_append,
        newlinesOf_noEol a ha]
      rfl
  fun_cases stripAux f p l
  case case1 => exact absurd rfl hf
  case case2 => exact absurd rfl hl
  case case3 _ c r hc body rest hs =>
    have e := splitAtChar_eq c r body rest hs
    refine ⟨c :: body ++ [c], some c, rest, by rw [e]; len, fun g => by simp [stripAux, hc, hs], ?_⟩
    rw [e, ← newlinesOf_append]; simp
  case case4 _ c r hc hs => exact copy _ _ _ fun g => by simp [stripAux, hc, hs]
  case case5 _ r' body rest hs _ =>
    have e := splitAtClose_eq r' body rest hs
    refine ⟨commentRepl p body rest.head?, some '/', rest, by rw [e]; len, fun g => by simp [stripAux, hs], ?_⟩
    rw [newlinesOf_commentRepl, e]; simp [newlinesOf]
  case case6 _ r' hs _ => exact copy _ _ _ fun g => by simp [stripAux, hs]
  case case7 _ r' a _ hs => exact line p r' a [] none [] hs (Nat.le_refl _) rfl fun g => by simp [stripAux, hs, stripAux_nil]
  case case8 _ r' a tail _ hs => exact line p r' a _ (some '/') _ hs (Nat.le_refl _) rfl fun g => by simp [stripAux, hs]
  case case9 _ r' a _ hs => exact line p r' a _ none [] hs (Nat.zero_le _) rfl fun g => by simp [stripAux, hs, stripAux_nil]
  case case10 _ r' a t _ hs => exact line p r' a _ (some '\r') ('\n' :: t) hs (Nat.le_succ _) rfl fun g => by simp [stripAux, hs]
  case case11 _ r' a b hs h1 h2 h3 h4 _ => exact copy _ _ _ fun g => by simp [stripAux, hs]
  case case12 _ r h1 h2 _ => exact copy _ _ _ fun g => by rw [stripAux]; simp; all_goals assumption
  case case13 _ c r h1 h2 => exact copy _ _ _ fun g => by simp [stripAux, h1, h2]

theorem stripAux_fuel : ∀ (n : Nat) (l : List Char), l.length ≤ n → ∀ (f g : Nat) (p : Option Char), l.length < f → l.length < g →
    stripAux f p l = stripAux g p l
  | _, [], _, f, g, p, _, _ => by rw [stripAux_nil, stripAux_nil]
  | n + 1, c :: r, hn, f + 1, g + 1, p, hf, hg => by
    obtain ⟨out, p', rest, hl, h, -⟩ := stripAux_step 1 p (c :: r) Nat.one_ne_zero (List.cons_ne_nil c r)
    rw [h f, h g, stripAux_fuel n rest (by omega) f g p' (by omega) (by omega)]

theorem newlines_stripAux : ∀ (f : Nat) (p : Option Char) (l : List Char), newlinesOf (stripAux f p l) = newlinesOf l
  | 0, _, _ => rfl
  | f + 1, p, [] => rfl
  | f + 1, p, c :: r => by
    obtain ⟨out, p', rest, -, h, hn⟩ := stripAux_step 1 p (c :: r) Nat.one_ne_zero (List.cons_ne_nil c r)
    rw [h f, newlinesOf_append, newlines_stripAux f p' rest, hn]

theorem stripAux_strip (f : Nat) (p : Option Char) (l : List Char) (h : l.length < f) : stripAux f p l = stripFrom p l :=
  stripAux_fuel l.length l (Nat.le_refl _) f _ p h (Nat.lt_succ_self _)

theorem strip_nil (p : Option Char) : stripFrom p [] = [] := rfl

theorem strip_char (p : Option Char) (c : Char) (r : List Char) (h1 : c ≠ '"') (h2 : c ≠ '\'') (h3 : c ≠ '/') :
    stripFrom p (c :: r) = c :: stripFrom (some c) r := by
  simp [stripFrom, stripAux, h1, h2, h3]

theorem strip_quoted (p : Option Char) (q : Char) (r body rest : List Char) (hq : q = '"' ∨ q = '\'')
    (hs : splitAtChar q r = some (body, rest)) : stripFrom p (q :: r) = q :: body ++ q :: stripFrom (some q) rest := by
  have := splitAtChar_eq _ _ _ _ hs
  simp [stripFrom, stripAux, hq, hs]
  exact stripAux_strip _ _ _ (by rw [this]; len)

theorem strip_quoted_none (p : Option Char) (q : Char) (r : List Char) (hq : q = '"' ∨ q = '\'')
    (hs : splitAtChar q r = none) : stripFrom p (q :: r) = q :: stripFrom (some q) r := by
  simp [stripFrom, stripAux, hq, hs]

theorem strip_block (p : Option Char) (r body rest : List Char) (hs : splitAtClose r = some (body, rest)) :
    stripFrom p ('/' :: '*' :: r) = commentRepl p body rest.head? ++ stripFrom (some '/') rest := by
  have := splitAtClose_eq _ _ _ hs
  simp [stripFrom, stripAux, hs]
  exact stripAux_strip _ _ _ (by rw [this]; len)

theorem strip_block_none (p : Option Char) (r : List Char) (hs : splitAtClose r = none) :
    stripFrom p ('/' :: '*' :: r) = '/' :: stripFrom (some '/') ('*' :: r) := by
  simp [stripFrom, stripAux, hs]

theorem strip_line_nil (p : Option Char) (r a : List Char) (hs : spanLine r = (a, [])) : stripFrom p ('/' :: '/' :: r) = [] := by
  simp [stripFrom, stripAux, hs]

theorem strip_line_nl (p : Option Char) (r a t : List Char) (hs : spanLine r = (a, '\n' :: t)) :
    stripFrom p ('/' :: '/' :: r) = stripFrom (some '/') ('\n' :: t) := by
  have := (spanLine_eq _ _ _ hs).1
  simp [stripFrom, stripAux, hs]
  exact stripAux_strip _ _ _ (by rw [this]; len)

theorem strip_line_cr_end (p : Option Char) (r a : List Char) (hs : spanLine r = (a, ['\r'])) :
    stripFrom p ('/' :: '/' :: r) = [] := by
  simp [stripFrom, stripAux, hs]

theorem strip_line_crlf (p : Option Char) (r a t : List Char) (hs : spanLine r = (a, '\r' :: '\n' :: t)) :
    stripFrom p ('/' :: '/' :: r) = stripFrom (some '\r') ('\n' :: t) := by
  have := (spanLine_eq _ _ _ hs).1
  simp [stripFrom, stripAux, hs]
  exact stripAux_strip _ _ _ (by rw [this]; len)

theorem strip_line_cr (p : Option Char) (r a b : List Char) (hs : spanLine r = (a, b)) (h1 : b ≠ [])
    (h2 : ∀ t, b ≠ '\n' :: t) (h3 : b ≠ ['\r']) (h4 : ∀ t, b ≠ '\r' :: '\n' :: t) :
    stripFrom p ('/' :: '/' :: r) = '/' :: stripFrom (some '/') ('/' :: r) := by
  simp [stripFrom, stripAux, hs]

theorem strip_slash (p : Option Char) (r : List Char) (h1 : ∀ r', r = '*' :: r' → False)
    (h2 : ∀ r', r = '/' :: r' → False) : stripFrom p ('/' :: r) = '/' :: stripFrom (some '/') r := by
  rw [stripFrom, stripFrom, List.length_cons, stripAux]
  simp
  all_goals assumption


theorem splitAtChar_first (q : Char) (a : List Char) : ∀ (body : List Char), q ∉ body →
    splitAtChar q (body ++ q :: a) = some (body, a) := by
  intro body
  induction body with
  | nil => intro _; simp [splitAtChar]
  | cons c b ih =>
    intro h
    simp at h
    have hc : c ≠ q := fun e => h.1 e.symm
    simp [splitAtChar, hc, ih h.2]

theorem hasClose_cons (c : Char) (r : List Char) (h : hasClose (c :: r) = false) : hasClose r = false := by
  by_cases hc : ∃ t, c = '*' ∧ r = '/' :: t
  · obtain ⟨t, rfl, rfl⟩ := hc; simp [hasClose] at h
  · rw [hasClose.eq_2] at h
    · exact h
    · intro t h1 h2; exact hc ⟨t, h1, h2⟩

theorem splitAtClose_first (a : List Char) : ∀ (body : List Char), hasClose body = false →
    splitAtClose (body ++ '*' :: '/' :: a) = some (body, a) := by
  intro body
  induction body with
  | nil => intro _; simp [splitAtClose]
  | cons c b ih =>
    intro h
    have hb := hasClose_cons c b h
    have : ∀ t, c = '*' → b ++ '*' :: '/' :: a = '/' :: t → False := by
      intro t hc ht
      subst hc
      cases b with
      | nil => simp at ht
      | cons d b' =>
        simp at ht
        obtain ⟨rfl, _⟩ := ht
        simp [hasClose] at h
    rw [List.cons_append, splitAtClose.eq_3 _ _ this, ih hb]
    rfl

theorem spanLine_first (a : List Char) : ∀ (body : List Char), (∀ c ∈ body, isEol c = false) →
    spanLine (body ++ '\n' :: a) = (body, '\n' :: a) := by
  intro body
  induction body with
  | nil => intro _; simp [spanLine]
  | cons c b ih =>
    intro h
    have hc := h c (by simp)
    simp [isEol] at hc
    simp [spanLine, hc, ih (fun d hd => h d (by simp [hd]))]

theorem spanLine_first_cr (a : List Char) : ∀ (body : List Char), (∀ c ∈ body, isEol c = false) →
    spanLine (body ++ '\r' :: a) = (body, '\r' :: a) := by
  intro body
  induction body with
  | nil => intro _; simp [spanLine]
  | cons c b ih =>
    intro h
    have hc := h c (by simp)
    simp [isEol] at hc
    simp [spanLine, hc, ih (fun d hd => h d (by simp [hd]))]

theorem lastOr_append (p : Option Char) : ∀ (x y : List Char), lastOr p (x ++ y) = lastOr (lastOr p x) y
  | [], _ => rfl
  | c :: x, y => by simp only [List.cons_append, lastOr]; exact lastOr_append (some c) x y

theorem lastOr_cons (p : Option Char) (c : Char) (x : List Char) : lastOr p (c :: x) = lastOr (some c) x := rfl

theorem lastOr_mid (p : Option Char) (x : List Char) (c : Char) (y : List Char) : lastOr p (x ++ c :: y) = lastOr (some c) y := by
  rw [lastOr_append]; rfl

theorem lastOr_quoted (p : Option Char) (q : Char) (body a : List Char) : lastOr p (q :: body ++ q :: a) = lastOr (some q) a :=
  lastOr_mid p (q :: body) q a

theorem lastOr_block (p : Option Char) (body a : List Char) :
    lastOr p ('/' :: '*' :: body ++ '*' :: '/' :: a) = lastOr (some '/') a := by
  rw [List.append_cons]; exact lastOr_mid p _ '/' a

theorem lastOr_line (p : Option Char) (body a : List Char) :
    lastOr p ('/' :: '/' :: body ++ '\n' :: a) = lastOr (some '/') ('\n' :: a) :=
  lastOr_mid p ('/' :: '/' :: body) '\n' a

theorem head_append_headOr (a b : List Char) : (a ++ b).head? = headOr a b.head? := by
  cases a <;> rfl

theorem strip_append (p : Option Char) (a o b : List Char) (h : Closed p a b.head? o) :
    stripFrom p (a ++ b) = o ++ stripFrom (lastOr p a) b := by
  generalize hn : b.head? = n at h
  induction h with
  | nil p n => rfl
  | char p n c a o h1 h2 h3 _ ih => simp [strip_char _ _ _ h1 h2 h3, ih hn, lastOr]
  | quoted p n q body a o hq hb _ ih =>
    have := splitAtChar_first q (a ++ b) body hb
    have e : (q :: body ++ q :: a) ++ b = q :: (body ++ q :: (a ++ b)) := by simp
    rw [e, strip_quoted p q _ body (a ++ b) hq this, ih hn, lastOr_quoted]
    simp
  | block p n body a o hb _ ih =>
    have := splitAtClose_first (a ++ b) body hb
    have e : ('/' :: '*' :: body ++ '*' :: '/' :: a) ++ b = '/' :: '*' :: (body ++ '*' :: '/' :: (a ++ b)) := by simp
    rw [e, strip_block p _ body (a ++ b) this, ih hn, lastOr_block, head_append_headOr, hn]
    simp
  | line p n body a o hb _ ih =>
    have := spanLine_first (a ++ b) body hb
    have e : ('/' :: '/' :: body ++ '\n' :: a) ++ b = '/' :: '/' :: (body ++ '\n' :: (a ++ b)) := by simp
    rw [e, strip_line_nl p _ body (a ++ b) this, lastOr_line]
    exact ih hn
  | slash p n c a o h1 h2 _ ih =>
    have e : ('/' :: c :: a) ++ b = '/' :: (c :: a ++ b) := by simp
    rw [e, strip_slash p _ (by intro t ht; simp at ht; exact h1 ht.1) (by intro t ht; simp at ht; exact h2 ht.1)]
    have := ih hn
    simp at this
    simp [this, lastOr]

theorem comment_block (p : Option Char) (a o body b : List Char) (h : Closed p a (some '/') o) (hb : hasClose body = false) :
    stripFrom p (a ++ ('/' :: '*' :: body ++ '*' :: '/' :: b))
      = o ++ commentRepl (lastOr p a) body b.head? ++ stripFrom (some '/') b := by
  have := strip_block (lastOr p a) _ body b (splitAtClose_first b body hb)
  simp only [List.cons_append] at this ⊢
  rw [strip_append p a o _ (by simpa using h), this]
  simp

theorem comment_line (p : Option Char) (a o body b : List Char) (h : Closed p a (some '/') o) (hb : ∀ c ∈ body, isEol c = false) :
    stripFrom p (a ++ ('/' :: '/' :: body ++ '\n' :: b)) = o ++ stripFrom (some '/') ('\n' :: b) := by
  have := strip_line_nl (lastOr p a) _ body b (spanLine_first b body hb)
  simp only [List.cons_append] at this ⊢
  rw [strip_append p a o _ (by simpa using h), this]

theorem comment_line_crlf (p : Option Char) (a o body b : List Char) (h : Closed p a (some '/') o)
    (hb : ∀ c ∈ body, isEol c = false) :
    stripFrom p (a ++ ('/' :: '/' :: body ++ '\r' :: '\n' :: b)) = o ++ stripFrom (some '\r') ('\n' :: b) := by
  have := strip_line_crlf (lastOr p a) _ body b (spanLine_first_cr ('\n' :: b) body hb)
  simp only [List.cons_append] at this ⊢
  rw [strip_append p a o _ (by simpa using h), this]

theorem comment_line_cr_end (p : Option Char) (a o body : List Char) (h : Closed p a (some '/') o)
    (hb : ∀ c ∈ body, isEol c = false) :
    stripFrom p (a ++ ('/' :: '/' :: body ++ ['\r'])) = o := by
  have := strip_line_cr_end (lastOr p a) _ body (spanLine_first_cr [] body hb)
  simp only [List.cons_append] at this ⊢
  rw [strip_append p a o _ (by simpa using h), this]
  simp

theorem stripFrom_prev (p p' : Option Char) (l : List Char) (h : ∀ r, l ≠ '/' :: '*' :: r) : stripFrom p l = stripFrom p' l := by
  cases l with
  | nil => rfl
  | cons c r =>
    simp only [stripFrom, stripAux]
    split
    · rfl
    · split
      · rename_i hc
        subst hc
        cases r with
        | nil => rfl
        | cons d r' =>
          by_cases hd : d = '*'
          · subst hd; exact absurd rfl (h r')
          · split
            · rename_i heq; simp at heq; exact absurd heq.1 hd
            · rfl
            · rfl
      · rfl


theorem newlines_preserved (p : Option Char) (l : List Char) : newlinesOf (stripFrom p l) = newlinesOf l :=
  newlines_stripAux _ p l

theorem sample_closed :
    Closed none "x/*c*/y /* x\n */ \"//\" b / 2 // c\n".toList none "x y \n \"//\" b / 2 \n".toList := by
  have e1 : "x/*c*/y /* x\n */ \"//\" b / 2 // c\n".toList =
    'x' :: ('/' :: '*' :: ['c'] ++ '*' :: '/' :: ('y' :: ' ' :: ('/' :: '*' :: [' ', 'x', '\n', ' '] ++ '*' :: '/' :: (' ' :: ('"' :: ['/', '/'] ++ '"' ::
      (' ' :: 'b' :: ' ' :: '/' :: ' ' :: '2' :: ' ' :: ('/' :: '/' :: [' ', 'c'] ++ '\n' :: []))))))) := String.toList_ofList
  have e2 : "x y \n \"//\" b / 2 \n".toList =
    'x' :: (commentRepl (some 'x') ['c'] (headOr ('y' :: ' ' :: ('/' :: '*' :: [' ', 'x', '\n', ' '] ++ '*' :: '/' :: (' ' :: ('"' :: ['/', '/'] ++ '"' ::
      (' ' :: 'b' :: ' ' :: '/' :: ' ' :: '2' :: ' ' :: ('/' :: '/' :: [' ', 'c'] ++ '\n' :: [])))))) none) ++
     ('y' :: ' ' :: (commentRepl (some ' ') [' ', 'x', '\n', ' '] (headOr (' ' :: ('"' :: ['/', '/'] ++ '"' ::
      (' ' :: 'b' :: ' ' :: '/' :: ' ' :: '2' :: ' ' :: ('/' :: '/' :: [' ', 'c'] ++ '\n' :: [])))) none) ++ (' ' :: ('"' :: ['/', '/'] ++ '"' ::
      (' ' :: 'b' :: ' ' :: '/' :: ' ' :: '2' :: ' ' :: ['\n'])))))) := String.toList_ofList
  rw [e1, e2]
  refine .char _ _ _ _ _ (by decide) (by decide) (by decide) ?_
  refine .block _ _ _ _ _ (by decide) ?_
  refine .char _ _ _ _ _ (by decide) (by decide) (by decide) ?_
  refine .char _ _ _ _ _ (by decide) (by decide) (by decide) ?_
  refine .block _ _ _ _ _ (by decide) ?_
  refine .char _ _ _ _ _ (by decide) (by decide) (by decide) ?_
  refine .quoted _ _ _ _ _ _ (by decide) (by decide) ?_
  refine .char _ _ _ _ _ (by decide) (by decide) (by decide) ?_
  refine .char _ _ _ _ _ (by decide) (by decide) (by decide) ?_
  refine .char _ _ _ _ _ (by decide) (by decide) (by decide) ?_
  refine .slash _ _ _ _ _ (by decide) (by decide) ?_
  refine .char _ _ _ _ _ (by decide) (by decide) (by decide) ?_
  refine .char _ _ _ _ _ (by decide) (by decide) (by decide) ?_
  refine .char _ _ _ _ _ (by decide) (by decide) (by decide) ?_
  refine .line _ _ _ _ _ (by decide) ?_
  refine .char _ _ _ _ _ (by decide) (by decide) (by decide) ?_
  exact .nil _ _

end Cstruct.Parser
