/-
  What the proofs about plans are phrased in: the window of the input that a block covers, the comparison `Sim` of two
  results, and the equations of `exec`, `slotsOK` and `planOKAux`, one per statement, on a cursor whose head is not a
  `void` member (the proofs use these instead of unfolding the functions).
-/
import Proofs.Spec.C03
import Proofs.Lemmas.CoreLayout
namespace Cstruct.Compiler
open Cstruct Cstruct.Core.Lemmas

theorem slice_self (buf : Bytes) (a : Nat) : slice buf a a = [] := by
  simp [slice]

theorem slice_length (buf : Bytes) (a b : Nat) : (slice buf a b).length = min (b - a) (buf.length - a) := by
  simp [slice]

theorem slice_take (buf : Bytes) (a n m : Nat) (h : n ≤ m) : (slice buf a (a + m)).take n = slice buf a (a + n) := by
  simp only [slice, Nat.add_sub_cancel_left, List.take_take]
  rw [Nat.min_eq_left h]

theorem slice_drop (buf : Bytes) (a n m : Nat) : (slice buf a (a + (n + m))).drop n = slice buf (a + n) (a + n + m) := by
  simp only [slice, Nat.add_sub_cancel_left, List.drop_take, List.drop_drop]

theorem slice_slice (buf : Bytes) (a n i m : Nat) (h : i + m ≤ n) :
    slice (slice buf a (a + n)) i (i + m) = slice buf (a + i) (a + i + m) := by
  simp only [slice, Nat.add_sub_cancel_left, List.drop_take, List.drop_drop, List.take_take]
  congr 1
  omega

theorem sread_eq_slice (data : Bytes) (pos n : Nat) : sread data pos n = slice data pos (pos + n) := by
  simp [sread, slice]

/-- the `n` bytes of the input at `q` can be read exactly, and they are the bytes of `buf` at `a` -/
def Win (data buf : Bytes) (q a n : Nat) : Prop :=
  ∀ i m, i + m ≤ n → readExact data (q + i) m = .ok (slice buf (a + i) (a + i + m), q + i + m)

theorem win_zero (data buf : Bytes) (q a : Nat) : Win data buf q a 0 := by
  intro i m h
  obtain ⟨rfl, rfl⟩ : i = 0 ∧ m = 0 := by omega
  simp [readExact, sread, slice_self]

theorem win_of_block {data buf : Bytes} {bpos size p : Nat} (h : readExact data bpos size = .ok (buf, p))
    (a n : Nat) (hn : a + n ≤ size) : Win data buf (bpos + a) a n := by
  obtain ⟨hl, hr⟩ := readExact_ok h
  cases hr
  intro i m him
  have e : sread data (bpos + a + i) m = slice (sread data bpos size) (a + i) (a + i + m) := by
    rw [sread_eq_slice, sread_eq_slice, slice_slice _ _ _ _ _ (by omega), Nat.add_assoc]
  rw [← e]
  apply readExact_of_len
  rw [e, slice_length, hl]
  omega

theorem win_shift {data buf : Bytes} {q a n : Nat} (h : Win data buf q a n) (i m : Nat) (him : i + m ≤ n) :
    Win data buf (q + i) (a + i) m := by
  intro j k hjk
  have := h (i + j) k (by omega)
  simpa only [Nat.add_assoc] using this

theorem win_read {data buf : Bytes} {q a n : Nat} (h : Win data buf q a n) :
    readExact data q n = .ok (slice buf a (a + n), q + n) :=
  h 0 n (Nat.le_of_eq (Nat.zero_add n))

abbrev Res := Except Err (Vals × List (String × Nat) × Nat)

def wrapR (k : Vals → Vals) (zs : List (String × Nat)) (r : Res) : Res :=
  match r with
  | .error e => .error e
  | .ok (vs, szs, p) => .ok (k vs, zs ++ szs, p)

/-- the final `stream.seek(-stream.tell() & (cls.alignment - 1), SEEK_CUR)` of the interpreted reader -/
def finR (al : Bool) (salign : Nat) (r : Res) : Res :=
  match r with
  | .error e => .error e
  | .ok (vs, szs, p) => .ok (vs, szs, if al then p + padNat p salign else p)

theorem finR_wrapR (al salign k zs r) : finR al salign (wrapR k zs r) = wrapR k zs (finR al salign r) := by
  cases r with
  | error e => rfl
  | ok x => rfl

theorem wrapR_wrapR (k1 k2 z1 z2 r) : wrapR k1 z1 (wrapR k2 z2 r) = wrapR (k1 ∘ k2) (z1 ++ z2) r := by
  cases r with
  | error e => rfl
  | ok x => simp [wrapR]

theorem wrapR_id (r : Res) : wrapR id [] r = r := by
  cases r with
  | error e => rfl
  | ok x => rfl

def nz (l : List (String × Nat)) : List (String × Nat) := l.filter (fun e => e.2 ≠ 0)

theorem nz_append (a b) : nz (a ++ b) = nz a ++ nz b := by simp [nz]

theorem nz_zeros (l : List (String × Nat)) (h : ∀ e ∈ l, e.2 = 0) : nz l = [] := by
  simp only [nz, List.filter_eq_nil_iff]
  intro e he
  simp [h e he]

theorem nz_cons_zero (n : String) (l : List (String × Nat)) : nz ((n, 0) :: l) = nz l := by
  simp [nz]

/-- the compiled result `c` against the interpreted result `i`: equal value, end and byte-occupying sizes, or both
    raise, or the compiled reader raises EOFError (a block is read eagerly) -/
def Sim (c i : Res) : Prop :=
  c = .error .eof ∨
  match c, i with
  | .ok (v, s, p), .ok (v', s', p') => v = v' ∧ p = p' ∧ nz s = nz s'
  | .error _, .error _ => True
  | _, _ => False

theorem sim_eof (i : Res) : Sim (.error .eof) i := Or.inl rfl

theorem sim_err (e e' : Err) : Sim (.error e) (.error e') := Or.inr trivial

theorem sim_wrap {c i : Res} (k : Vals → Vals) (zc zi : List (String × Nat)) (hz : nz zc = nz zi) (h : Sim c i) :
    Sim (wrapR k zc c) (wrapR k zi i) := by
  rcases h with h | h
  · subst h; exact Or.inl rfl
  · cases c with
    | error e =>
      cases i with
      | error e' => exact Or.inr trivial
      | ok y => exact h.elim
    | ok x =>
      cases i with
      | error e' => exact h.elim
      | ok y =>
        obtain ⟨h1, h2, h3⟩ := h
        refine Or.inr ⟨by rw [h1], h2, ?_⟩
        rw [nz_append, nz_append, hz, h3]

theorem isPow2b_spec {a : Nat} (h : isPow2b a = true) : IsP2 a := by
  simp only [isPow2b, beq_iff_eq] at h
  exact ⟨_, h⟩

theorem padNat_one (p : Nat) : padNat p 1 = 0 := by
  rw [padNat_p2_eq isP2_one]; simp [Nat.mod_one]

theorem padNat_of_dvd {a : Nat} (ha : IsP2 a) {p : Nat} (h : a ∣ p) : padNat p a = 0 := by
  rw [padNat_p2_eq ha]
  obtain ⟨c, rfl⟩ := h
  simp

theorem take_facts {e : Endian} {bb : BitBuf} {n : Nat} {v : Int} {bb2 : BitBuf} (h : bb.take e n = some (v, bb2)) :
    bb2.ty = bb.ty ∧ bb2.remaining = bb.remaining - n := by
  unfold BitBuf.take at h
  split at h
  · cases h
  · cases e <;> simp only [Option.some.injEq, Prod.mk.injEq] at h <;> obtain ⟨_, rfl⟩ := h <;> exact ⟨rfl, rfl⟩

-- The generated code has no statement for a `void` member: `exec` and the validator pass the void members under the
-- cursor at the start of every statement but `bit_reader.reset()`.

def NoVoidHead : Fields → Prop
  | .cons _ _ ty bits _ => ¬(isVoid ty = true ∧ bits.isNone = true)
  | .nil => True

theorem noVoid_of_bits (name an ty b rest) : NoVoidHead (.cons name an ty (some b) rest) := fun h => by cases h.2

theorem noVoid_of_not {name an ty bits rest} (h : isVoid ty = false) : NoVoidHead (.cons name an ty bits rest) :=
  fun h' => by rw [h] at h'; cases h'.1

theorem isVoid_eq {ty : Ty} (h : isVoid ty = true) : ∃ a, ty = .sc .void a := by
  unfold isVoid at h
  split at h
  · exact ⟨_, rfl⟩
  · cases h

/-- may the validator pass a void member with layout offset `fo` when the stream is statically at `at_`? -/
def voidOK (cfg : Cfg) (al : Bool) (ty : Ty) (fo : Option Nat) (at_ : Option Nat) : Bool :=
  match fo with
  | some o => at_ == some o
  | none => !al || ty.alignment cfg == 1

theorem skipVoids_of_noVoid {fs : Fields} (h : NoVoidHead fs) (ctx : Ctx) (x : Vals) :
    skipVoids fs ctx x = (fs, ctx, id) := by
  cases fs with
  | nil => rw [skipVoids]
  | cons name an ty bits rest => rw [skipVoids, if_neg h]

theorem skipVoids_void (name an) {ty : Ty} (rest) (ctx : Ctx) (x : Vals) (hv : isVoid ty = true) :
    skipVoids (.cons name an ty none rest) ctx x =
      ((skipVoids rest (ctx.set name .void) .nil).1, (skipVoids rest (ctx.set name .void) .nil).2.1,
        fun vs => .cons .void ((skipVoids rest (ctx.set name .void) .nil).2.2 vs)) := by
  rw [skipVoids, if_pos ⟨hv, rfl⟩]

theorem skipVoids_noVoid : ∀ (fs : Fields) (ctx : Ctx) (x : Vals) {fs' : Fields} {ctx' : Ctx} {k : Vals → Vals},
    skipVoids fs ctx x = (fs', ctx', k) → NoVoidHead fs'
  | .nil, ctx, x, _, _, _, h => by
    rw [skipVoids] at h
    cases h
    trivial
  | .cons name an ty bits rest, ctx, x, _, _, _, h => by
    by_cases hv : isVoid ty = true ∧ bits.isNone = true
    · obtain rfl : bits = none := Option.isNone_iff_eq_none.mp hv.2
      rw [skipVoids_void name an rest ctx x hv.1] at h
      cases h
      exact skipVoids_noVoid rest (ctx.set name .void) .nil rfl
    · rw [skipVoids_of_noVoid (fs := .cons name an ty bits rest) hv] at h
      cases h
      exact hv

section
variable (cfg : Cfg) (al : Bool)

theorem dropVoids_of_noVoid {fs : Fields} (h : NoVoidHead fs) (offs : List (Option Nat)) (at_ : Option Nat) :
    dropVoids cfg al fs offs at_ = some (fs, offs, false) := by
  cases fs with
  | nil => rw [dropVoids]
  | cons name an ty bits rest => rw [dropVoids, if_neg h]

theorem dropVoids_void (name : String) (an : Bool) {ty : Ty} (rest : Fields) (offs : List (Option Nat))
    (at_ : Option Nat) (hv : isVoid ty = true) :
    dropVoids cfg al (.cons name an ty none rest) offs at_ =
      if voidOK cfg al ty (hdOff offs) at_ = true then
        (dropVoids cfg al rest (offs.drop 1) at_).map fun r => (r.1, r.2.1, true)
      else none := by
  rw [dropVoids, if_pos ⟨hv, rfl⟩]
  cases dropVoids cfg al rest (offs.drop 1) at_ <;> rfl

theorem dropVoids_noVoid : ∀ (fs : Fields) (offs : List (Option Nat)) (at_ : Option Nat) {fs' : Fields}
    {offs' : List (Option Nat)} {sk : Bool}, dropVoids cfg al fs offs at_ = some (fs', offs', sk) → NoVoidHead fs'
  | .nil, offs, at_, _, _, _, h => by
    rw [dropVoids] at h
    cases h
    trivial
  | .cons name an ty bits rest, offs, at_, fs', offs', sk, h => by
    by_cases hv : isVoid ty = true ∧ bits.isNone = true
    · obtain rfl : bits = none := Option.isNone_iff_eq_none.mp hv.2
      rw [dropVoids_void cfg al name an rest offs at_ hv.1] at h
      split at h
      · cases hr : dropVoids cfg al rest (offs.drop 1) at_ with
        | none => rw [hr] at h; cases h
        | some r =>
          rw [hr] at h
          cases h
          exact dropVoids_noVoid rest _ at_ hr
      · cases h
    · rw [dropVoids_of_noVoid cfg al (fs := .cons name an ty bits rest) hv] at h
      cases h
      exact hv

theorem dropVoids_not_skipped : ∀ (fs : Fields) (offs : List (Option Nat)) (at_ : Option Nat) {fs' : Fields}
    {offs' : List (Option Nat)}, dropVoids cfg al fs offs at_ = some (fs', offs', false) → fs' = fs ∧ offs' = offs
  | .nil, offs, at_, _, _, h => by
    rw [dropVoids] at h
    cases h
    exact ⟨rfl, rfl⟩
  | .cons name an ty bits rest, offs, at_, fs', offs', h => by
    by_cases hv : isVoid ty = true ∧ bits.isNone = true
    · obtain rfl : bits = none := Option.isNone_iff_eq_none.mp hv.2
      rw [dropVoids_void cfg al name an rest offs at_ hv.1] at h
      split at h
      · cases hr : dropVoids cfg al rest (offs.drop 1) at_ with
        | none => rw [hr] at h; cases h
        | some r => rw [hr] at h; cases h
      · cases h
    · rw [dropVoids_of_noVoid cfg al (fs := .cons name an ty bits rest) hv] at h
      cases h
      exact ⟨rfl, rfl⟩

end

section
variable (cfg : Cfg) (buf : Bytes) (items : List Item)

theorem execSlots_nil (fs : Fields) (ctx : Ctx) :
    execSlots cfg buf items [] fs ctx = .ok (.nil, [], fs, ctx) := by
  rw [execSlots]

theorem execSlots_cons_nil (cfg : Cfg) (buf : Bytes) (items : List Item) (sl rest) (ctx : Ctx) :
    execSlots cfg buf items (sl :: rest) .nil ctx = .error .other := by
  rw [execSlots]

theorem execSlots_void (sl rest) (name an ty bits fs') (ctx : Ctx)
    (h : isVoid ty ∧ bits.isNone ∧ name ≠ sl.name) :
    execSlots cfg buf items (sl :: rest) (.cons name an ty bits fs') ctx =
      (execSlots cfg buf items (sl :: rest) fs' (ctx.set name .void)).map
        fun x => (Vals.cons .void x.1, x.2.1, x.2.2.1, x.2.2.2) := by
  rw [execSlots, if_pos h]
  cases execSlots cfg buf items (sl :: rest) fs' (ctx.set name .void) <;> rfl

theorem execSlots_bad (cfg : Cfg) (buf : Bytes) (items : List Item) (sl rest) (name an ty bits fs') (ctx : Ctx)
    (h : ¬(isVoid ty ∧ bits.isNone ∧ name ≠ sl.name)) (h2 : name ≠ sl.name ∨ bits.isSome) :
    execSlots cfg buf items (sl :: rest) (.cons name an ty bits fs') ctx = .error .other := by
  rw [execSlots, if_neg h, if_pos h2]

theorem execSlots_slot (sl rest) (name an ty bits fs') (ctx : Ctx)
    (h : ¬(isVoid ty ∧ bits.isNone ∧ name ≠ sl.name)) (h2 : ¬(name ≠ sl.name ∨ bits.isSome)) :
    execSlots cfg buf items (sl :: rest) (.cons name an ty bits fs') ctx =
      (slotVal cfg ty buf items sl).bind fun v =>
        (execSlots cfg buf items rest fs' (ctx.set name v)).map
          fun x => (Vals.cons v x.1, (name, sl.size) :: x.2.1, x.2.2.1, x.2.2.2) := by
  rw [execSlots, if_neg h, if_neg h2]
  cases slotVal cfg ty buf items sl with
  | error e => rfl
  | ok v =>
    simp only [Except.bind]
    cases execSlots cfg buf items rest fs' (ctx.set name v) <;> rfl

/-- the slots of a block, then the rest of the plan `K` on the cursor and the context they leave -/
def slotsThen (r : Except Err (Vals × List (String × Nat) × Fields × Ctx)) (K : Fields → Ctx → Res) : Res :=
  match r with
  | .error e => .error e
  | .ok (vs, szs, fs, ctx) => wrapR (exec.Vals.append vs) szs (K fs ctx)

variable (K : Fields → Ctx → Res)

theorem slotsThen_nil (fs : Fields) (ctx : Ctx) : slotsThen (execSlots cfg buf items [] fs ctx) K = K fs ctx := by
  rw [execSlots_nil]
  exact wrapR_id _

theorem slotsThen_void (sl rest) (name an ty bits fs') (ctx : Ctx) (h : isVoid ty ∧ bits.isNone ∧ name ≠ sl.name) :
    slotsThen (execSlots cfg buf items (sl :: rest) (.cons name an ty bits fs') ctx) K =
      wrapR (Vals.cons .void) [] (slotsThen (execSlots cfg buf items (sl :: rest) fs' (ctx.set name .void)) K) := by
  rw [execSlots_void cfg buf items sl rest name an ty bits fs' ctx h]
  cases execSlots cfg buf items (sl :: rest) fs' (ctx.set name .void) with
  | error e => rfl
  | ok r => exact (wrapR_wrapR _ _ [] _ _).symm

theorem slotsThen_slot (sl rest) (name an ty bits fs') (ctx : Ctx)
    (h : ¬(isVoid ty ∧ bits.isNone ∧ name ≠ sl.name)) (h2 : ¬(name ≠ sl.name ∨ bits.isSome)) :
    slotsThen (execSlots cfg buf items (sl :: rest) (.cons name an ty bits fs') ctx) K =
      match slotVal cfg ty buf items sl with
      | .error e => .error e
      | .ok v => wrapR (Vals.cons v) [(name, sl.size)]
          (slotsThen (execSlots cfg buf items rest fs' (ctx.set name v)) K) := by
  rw [execSlots_slot cfg buf items sl rest name an ty bits fs' ctx h h2]
  cases slotVal cfg ty buf items sl with
  | error e => rfl
  | ok v =>
    simp only [Except.bind]
    cases execSlots cfg buf items rest fs' (ctx.set name v) with
    | error e => rfl
    | ok r => exact (wrapR_wrapR _ _ [_] _ _).symm

end

/-- is the stream, `a` bytes into a block that starts at `bstart`, where the interpreted reader reads a member with
    layout offset `fo` and alignment `fa`? -/
def slotAtOK (al : Bool) (bstart la fo : Option Nat) (a cur : Nat) (first : Bool) (fa : Nat) : Bool :=
  match fo, bstart with
  | some o, some k => k + a == o
  | some _, none => false
  | none, some _ => false
  | none, none =>
    a == cur && (if al then (if first then (la == some fa || (la.isNone && fa == 1)) else fa == 1) else la.isNone)

section
variable (cfg : Cfg) (al : Bool) (items : List Item) (size : Nat) (bstart la : Option Nat)

theorem slotsOK_nil (fs : Fields) (offs : List (Option Nat)) (first : Bool) (cur : Nat) :
    slotsOK cfg al items size bstart la [] fs offs first cur = some (fs, offs, cur) := by
  rw [slotsOK.eq_def]

theorem slotsOK_cons_nil (sl rest) (offs : List (Option Nat)) (first : Bool) (cur : Nat) :
    slotsOK cfg al items size bstart la (sl :: rest) .nil offs first cur = none := by
  rw [slotsOK.eq_def]

theorem slotsOK_void (sl rest) (name an) {ty : Ty} (fs' : Fields) (offs : List (Option Nat)) (first : Bool) (cur : Nat)
    (hv : isVoid ty = true) (hne : name ≠ sl.name) :
    slotsOK cfg al items size bstart la (sl :: rest) (.cons name an ty none fs') offs first cur =
      if voidOK cfg al ty (hdOff offs) (bstart.map (· + cur)) = true then
        slotsOK cfg al items size bstart la (sl :: rest) fs' (offs.drop 1) first cur
      else none := by
  rw [slotsOK.eq_def]
  dsimp only
  rw [if_pos ⟨hv, rfl, hne⟩]
  cases hdOff offs <;> cases bstart <;> rfl

theorem slotsOK_slot (sl rest) (name an ty fs') (offs : List (Option Nat)) (first : Bool) (cur : Nat) {a0 b0 fsize : Nat}
    (h : ¬(isVoid ty ∧ name ≠ sl.name)) (hname : name = sl.name)
    (hsr : slotRange cfg ty items sl cur = some (a0, b0)) (hts : ty.size cfg = some fsize) :
    slotsOK cfg al items size bstart la (sl :: rest) (.cons name an ty none fs') offs first cur =
      let ab : Nat × Nat :=
        if fsize = 0 then (match hdOff offs, bstart with | some o, some k => (o - k, o - k) | _, _ => (cur, cur))
        else (a0, b0)
      if sl.size ≠ fsize ∨ b0 - a0 ≠ fsize ∨ ab.2 > size ∨ ab.1 < cur then none
      else if slotAtOK al bstart la (hdOff offs) ab.1 cur first (ty.alignment cfg) = true then
        slotsOK cfg al items size bstart la rest fs' (offs.drop 1) false ab.2
      else none := by
  rw [slotsOK.eq_def]
  dsimp only
  rw [if_neg (fun hc => h ⟨hc.1, hc.2.2⟩), if_neg (by simp [hname]), hsr, hts]
  rfl
end

section
variable {cfg : Cfg} {salign start : Nat} {data : Bytes} {is : Plan} {st : St}

theorem exec_nil : exec cfg salign start data [] .nil st = .ok (.nil, [], st.pos) := by
  rw [exec, skipVoids]
  rfl

theorem exec_seek {o : Nat} {fs : Fields} (hn : NoVoidHead fs) :
    exec cfg salign start data (.seek o :: is) fs st = exec cfg salign start data is fs { st with pos := start + o } := by
  rw [exec, skipVoids_of_noVoid hn]
  exact wrapR_id _

theorem exec_align {a : Nat} {fs : Fields} (hn : NoVoidHead fs) :
    exec cfg salign start data (.align a :: is) fs st =
      exec cfg salign start data is fs { st with pos := st.pos + padNat st.pos a } := by
  rw [exec, skipVoids_of_noVoid hn]
  exact wrapR_id _

theorem exec_alignCls {fs : Fields} (hn : NoVoidHead fs) :
    exec cfg salign start data (.alignCls :: is) fs st =
      exec cfg salign start data is fs { st with pos := st.pos + padNat st.pos salign } := by
  rw [exec, skipVoids_of_noVoid hn]
  exact wrapR_id _

theorem exec_bitsReset {fs : Fields} :
    exec cfg salign start data (.bitsReset :: is) fs st =
      exec cfg salign start data is fs { st with bb := BitBuf.empty } := by
  rw [exec]

theorem exec_sub {name : String} {an : Bool} {ty : Ty} {rest : Fields}
    (hn : NoVoidHead (.cons name an ty none rest)) :
    exec cfg salign start data (.sub name :: is) (.cons name an ty none rest) st =
      (read cfg ty st.ctx data st.pos).bind fun vp =>
        wrapR (Vals.cons vp.1) [(name, vp.2 - st.pos)]
          (exec cfg salign start data is rest { pos := vp.2, bb := st.bb, ctx := st.ctx.set name vp.1 }) := by
  rw [exec, skipVoids_of_noVoid hn]
  simp only [ne_eq, not_true_eq_false, if_false]
  cases read cfg ty st.ctx data st.pos with
  | error e => rfl
  | ok vp => cases exec cfg salign start data is rest { pos := vp.2, bb := st.bb, ctx := st.ctx.set name vp.1 } <;> rfl

theorem exec_bits {name : String} {b : Nat} {via : Via} {an : Bool} {ty : Ty} {rest : Fields} {ft : Scalar}
    (hvia : bitsVia ty via = some ft) :
    exec cfg salign start data (.bits name (b + 1) via :: is) (.cons name an ty (some (b + 1)) rest) st =
      (loadUnit cfg ft st.bb data st.pos).bind fun r =>
        match r.1.take cfg.endian (b + 1) with
        | none => .error .value
        | some (v, bb2) =>
          wrapR (Vals.cons (bitVal ty v)) []
            (exec cfg salign start data is rest { pos := r.2, bb := bb2, ctx := st.ctx.set name (bitVal ty v) }) := by
  rw [exec, skipVoids_of_noVoid (noVoid_of_bits name an ty (b + 1) rest)]
  simp only [ne_eq, not_true_eq_false, false_or, Nat.succ_ne_zero, if_false, hvia]
  change (match loadUnit cfg ft st.bb data st.pos with | .error e => _ | .ok (bb1, p1) => _) = _
  cases loadUnit cfg ft st.bb data st.pos with
  | error e => rfl
  | ok r =>
    simp only [Except.bind]
    cases r.1.take cfg.endian (b + 1) with
    | none => rfl
    | some x =>
      cases exec cfg salign start data is rest { pos := r.2, bb := x.2, ctx := st.ctx.set name (bitVal ty x.1) } <;> rfl

theorem exec_block {size : Nat} {fmt : Option String} {slots : List Slot} {fs : Fields} {its : List Item}
    (hn : NoVoidHead fs) (hfi : fmtItemsOf fmt size = some its) :
    exec cfg salign start data (.block size fmt slots :: is) fs st =
      (readExact data st.pos size).bind fun bp =>
        slotsThen (execSlots cfg bp.1 its slots fs st.ctx) fun fs' ctx' =>
          exec cfg salign start data is fs' { pos := bp.2, bb := st.bb, ctx := ctx' } := by
  rw [exec, skipVoids_of_noVoid hn]
  simp only [hfi]
  cases readExact data st.pos size with
  | error e => rfl
  | ok bp =>
    simp only [Except.bind]
    cases execSlots cfg bp.1 its slots fs st.ctx with
    | error e => rfl
    | ok r => cases exec cfg salign start data is r.2.2.1 { pos := bp.2, bb := st.bb, ctx := r.2.2.2 } <;> rfl

end

/-- the static position after a sub-read: known only if the member has a layout offset and a static size and contains
    no structure -/
def subSpos (rs : Bool) (o sp z : Option Nat) : Option Nat :=
  match o, sp, z with
  | some _, some k, some z => if rs = true then none else some (k + z)
  | _, _, _ => none

/-- does the bit reader load a new unit for the storage scalar `ft`? -/
def unitNew (uA : Option (Scalar × Nat)) (ft : Scalar) : Bool :=
  match uA with
  | none => true
  | some (u, r) => r == 0 || u != ft

def unitRem (uA : Option (Scalar × Nat)) : Nat :=
  match uA with
  | some (_, r) => r
  | none => 0

def bitsSpos (sp : Option Nat) (nu : Bool) (fsz : Nat) : Option Nat :=
  match sp with
  | some k => some (if nu = true then k + fsz else k)
  | none => none

section
variable {cfg : Cfg} {al : Bool} {salign : Nat} {is : Plan} {offs : List (Option Nat)} {st : VSt}

theorem planOKAux_nil :
    planOKAux cfg al salign [] .nil offs st = (!al && st.lastAlign.isNone) := by
  rw [planOKAux, dropVoids]
  simp only [Bool.false_and, Bool.not_false, Bool.and_true]

theorem planOKAux_nil_cons {name an ty bits rest} (hn : NoVoidHead (.cons name an ty bits rest)) :
    planOKAux cfg al salign [] (.cons name an ty bits rest) offs st = false := by
  rw [planOKAux, dropVoids_of_noVoid cfg al hn]

theorem planOKAux_alignCls :
    planOKAux cfg al salign [.alignCls] .nil offs st = (al && st.lastAlign.isNone) := by
  rw [planOKAux, dropVoids]
  simp only [Bool.false_and, Bool.not_false, Bool.and_true]

theorem planOKAux_alignCls_cons {name an ty bits rest} (hn : NoVoidHead (.cons name an ty bits rest)) :
    planOKAux cfg al salign [.alignCls] (.cons name an ty bits rest) offs st = false := by
  rw [planOKAux, dropVoids_of_noVoid cfg al hn]

theorem planOKAux_alignCls_more {i : Instr} {fs : Fields} :
    planOKAux cfg al salign (.alignCls :: i :: is) fs offs st = false := by
  rw [planOKAux]

theorem planOKAux_seek {o : Nat} {fs : Fields} (hn : NoVoidHead fs) :
    planOKAux cfg al salign (.seek o :: is) fs offs st =
      if nextStatic fs offs = true then planOKAux cfg al salign is fs offs { st with spos := some o, lastAlign := none }
      else if (st.spos == some o) = true then planOKAux cfg al salign is fs offs st
      else false := by
  rw [planOKAux, dropVoids_of_noVoid cfg al hn]
  simp only [Bool.false_and, Bool.not_false, Bool.true_and]

theorem planOKAux_seek_none {o : Nat} {fs : Fields} (hd : dropVoids cfg al fs offs st.spos = none) :
    planOKAux cfg al salign (.seek o :: is) fs offs st =
      (nextStatic fs offs && planOKAux cfg al salign is fs offs { st with spos := some o, lastAlign := none }) := by
  rw [planOKAux, hd]

theorem planOKAux_align {a : Nat} {fs : Fields} (hn : NoVoidHead fs) :
    planOKAux cfg al salign (.align a :: is) fs offs st =
      if st.lastAlign.isSome = true ∨ a = 0 then false
      else if a = 1 then planOKAux cfg al salign is fs offs st
      else if al = false then false
      else planOKAux cfg al salign is fs offs { st with spos := none, lastAlign := some a } := by
  rw [planOKAux, dropVoids_of_noVoid cfg al hn]
  simp only [Bool.false_and, Bool.false_eq_true, or_false, Bool.not_eq_true']

theorem planOKAux_bitsReset {fs : Fields} :
    planOKAux cfg al salign (.bitsReset :: is) fs offs st =
      (nonBitHead fs && planOKAux cfg al salign is fs offs { st with unit := none, dirty := false }) := by
  rw [planOKAux]

theorem planOKAux_sub {nm name : String} {an : Bool} {ty : Ty} {rest : Fields}
    (hn : NoVoidHead (.cons name an ty none rest)) :
    planOKAux cfg al salign (.sub nm :: is) (.cons name an ty none rest) offs st =
      (name == nm && !st.dirty && posOK al st (hdOff offs) (ty.alignment cfg) &&
        planOKAux cfg al salign is rest (offs.drop 1)
          { spos := subSpos (readsStruct ty) (hdOff offs) st.spos (ty.size cfg), lastAlign := none, unit := none,
            dirty := false }) := by
  rw [planOKAux, dropVoids_of_noVoid cfg al hn]
  rfl

theorem planOKAux_sub_bits {nm name : String} {an : Bool} {ty : Ty} {b : Nat} {rest : Fields} :
    planOKAux cfg al salign (.sub nm :: is) (.cons name an ty (some b) rest) offs st = false := by
  rw [planOKAux, dropVoids_of_noVoid cfg al (noVoid_of_bits name an ty b rest)]

theorem planOKAux_sub_nil {nm : String} :
    planOKAux cfg al salign (.sub nm :: is) .nil offs st = false := by
  rw [planOKAux, dropVoids]

theorem planOKAux_bits {nm name : String} {n b : Nat} {via : Via} {an : Bool} {ty : Ty} {rest : Fields} {ft : Scalar}
    {fsz : Nat} (hvia : bitsVia ty via = some ft) (hbb : ty.bitBase = some ft) (hsz : ft.size = some fsz) :
    planOKAux cfg al salign (.bits nm n via :: is) (.cons name an ty (some b) rest) offs st =
      (name == nm && b == n && n != 0 && posOK al st (hdOff offs) (ty.alignment cfg) &&
        decide (n ≤ if unitNew st.unit ft = true then fsz * 8 else unitRem st.unit) &&
        planOKAux cfg al salign is rest (offs.drop 1)
          { spos := bitsSpos st.spos (unitNew st.unit ft) fsz, lastAlign := none,
            unit := some (ft, (if unitNew st.unit ft = true then fsz * 8 else unitRem st.unit) - n), dirty := true }) := by
  rw [planOKAux, dropVoids_of_noVoid cfg al (noVoid_of_bits name an ty b rest)]
  simp only [hvia, hbb, hsz, beq_self_eq_true, Bool.and_true, Bool.false_and, Bool.not_false]
  rfl

theorem planOKAux_bits_via {nm name : String} {n b : Nat} {via : Via} {an : Bool} {ty : Ty} {rest : Fields}
    (h : planOKAux cfg al salign (.bits nm n via :: is) (.cons name an ty (some b) rest) offs st = true) :
    ∃ ft fsz, bitsVia ty via = some ft ∧ ty.bitBase = some ft ∧ ft.size = some fsz := by
  rw [planOKAux, dropVoids_of_noVoid cfg al (noVoid_of_bits name an ty b rest)] at h
  cases hvia : bitsVia ty via with
  | none => simp only [hvia] at h; cases h
  | some ft =>
    cases hbb : ty.bitBase with
    | none => simp only [hvia, hbb] at h; cases h
    | some ft' =>
      cases hsz : ft.size with
      | none => simp only [hvia, hbb, hsz] at h; cases h
      | some fsz =>
        simp only [hvia, hbb, hsz, Bool.and_eq_true, beq_iff_eq] at h
        exact ⟨ft, fsz, rfl, by rw [h.1.1.1.1.2], hsz⟩

theorem planOKAux_bits_nobits {nm name : String} {n : Nat} {via : Via} {an : Bool} {ty : Ty} {rest : Fields}
    (hn : NoVoidHead (.cons name an ty none rest)) :
    planOKAux cfg al salign (.bits nm n via :: is) (.cons name an ty none rest) offs st = false := by
  rw [planOKAux, dropVoids_of_noVoid cfg al hn]

theorem planOKAux_bits_nil {nm : String} {n : Nat} {via : Via} :
    planOKAux cfg al salign (.bits nm n via :: is) .nil offs st = false := by
  rw [planOKAux, dropVoids]

theorem planOKAux_block {size : Nat} {fmt : Option String} {slots : List Slot} {fs : Fields}
    (hn : NoVoidHead fs) (hd : st.dirty = false) {its : List Item}
    (hfi : fmtItemsOf fmt size = some its) {fs' : Fields} {offs' : List (Option Nat)} {cur : Nat}
    (hso : slotsOK cfg al its size st.spos st.lastAlign slots fs offs true 0 = some (fs', offs', cur)) :
    planOKAux cfg al salign (.block size fmt slots :: is) fs offs st =
      (cur == size && planOKAux cfg al salign is fs' offs'
        { spos := st.spos.map (· + size), lastAlign := if slots.isEmpty = true then st.lastAlign else none,
          unit := none, dirty := false }) := by
  rw [planOKAux, dropVoids_of_noVoid cfg al hn]
  simp only [hd, Bool.false_eq_true, if_false, hfi, hso]

theorem planOKAux_block_inv {size : Nat} {fmt : Option String} {slots : List Slot} {fs : Fields}
    (hn : NoVoidHead fs) (h : planOKAux cfg al salign (.block size fmt slots :: is) fs offs st = true) :
    st.dirty = false ∧ ∃ its fs' offs', fmtItemsOf fmt size = some its ∧
      slotsOK cfg al its size st.spos st.lastAlign slots fs offs true 0 = some (fs', offs', size) ∧
      planOKAux cfg al salign is fs' offs'
        { spos := st.spos.map (· + size), lastAlign := if slots.isEmpty = true then st.lastAlign else none,
          unit := none, dirty := false } = true := by
  rw [planOKAux, dropVoids_of_noVoid cfg al hn] at h
  cases hd : st.dirty with
  | true => simp only [hd, if_true] at h; cases h
  | false =>
    cases hfi : fmtItemsOf fmt size with
    | none => simp only [hd, hfi] at h; cases h
    | some its =>
      cases hso : slotsOK cfg al its size st.spos st.lastAlign slots fs offs true 0 with
      | none => simp only [hd, hfi, hso] at h; cases h
      | some r =>
        obtain ⟨fs', offs', cur⟩ := r
        simp only [hd, hfi, hso, Bool.false_eq_true, if_false, Bool.and_eq_true, beq_iff_eq] at h
        obtain ⟨rfl, h⟩ := h
        exact ⟨rfl, its, fs', offs', rfl, hso, h⟩

theorem planOKAux_dropVoids {plan : Plan} (hh : plan.head? ≠ some .bitsReset) {fs fs' : Fields}
    {offs' : List (Option Nat)} {sk : Bool} (hdirty : st.dirty = false)
    (hd : dropVoids cfg al fs offs st.spos = some (fs', offs', sk)) :
    planOKAux cfg al salign plan fs offs st = planOKAux cfg al salign plan fs' offs' st := by
  have hd' := dropVoids_of_noVoid cfg al (dropVoids_noVoid cfg al fs offs st.spos hd) offs' st.spos
  cases plan with
  | nil =>
    rw [planOKAux, planOKAux, hd, hd']
    cases fs' <;> simp only [hdirty, Bool.and_false]
  | cons i is =>
    cases i with
    | bitsReset => exact absurd rfl hh
    | seek o =>
      rw [planOKAux, planOKAux, hd, hd']
      simp only [hdirty, Bool.and_false]
    | align a =>
      rw [planOKAux, planOKAux, hd, hd']
      simp only [hdirty, Bool.and_false]
    | alignCls =>
      cases is with
      | nil =>
        rw [planOKAux, planOKAux, hd, hd']
        cases fs' <;> simp only [hdirty, Bool.and_false]
      | cons _ _ => rw [planOKAux, planOKAux]
    | sub nm =>
      rw [planOKAux, planOKAux, hd, hd']
      cases fs' with
      | nil => rfl
      | cons _ _ _ bits _ => cases bits <;> rfl
    | bits nm n via =>
      rw [planOKAux, planOKAux, hd, hd']
      cases fs' with
      | nil => rfl
      | cons _ _ _ bits _ => cases bits <;> simp only [hdirty, Bool.and_false]
    | block size fmt slots =>
      rw [planOKAux, planOKAux, hd, hd']
      cases fmtItemsOf fmt size <;> rfl

/-- the interpreted reader drops its bit buffer at a void member -/
theorem planOKAux_dirty_void {plan : Plan} (hh : plan.head? ≠ some .bitsReset) {fs fs' : Fields}
    {offs' : List (Option Nat)} (hdirty : st.dirty = true)
    (hd : dropVoids cfg al fs offs st.spos = some (fs', offs', true)) :
    planOKAux cfg al salign plan fs offs st = false := by
  cases plan with
  | nil =>
    rw [planOKAux, hd]
    cases fs' <;> simp only [hdirty, Bool.and_self, Bool.not_true, Bool.and_false, Bool.false_and]
  | cons i is =>
    cases i with
    | bitsReset => exact absurd rfl hh
    | seek o =>
      rw [planOKAux, hd]
      simp only [hdirty, Bool.and_self, Bool.not_true, Bool.false_and]
    | align a =>
      rw [planOKAux, hd]
      simp only [hdirty, Bool.and_self, or_true, if_true]
    | alignCls =>
      cases is with
      | nil =>
        rw [planOKAux, hd]
        cases fs' <;> simp only [hdirty, Bool.and_self, Bool.not_true, Bool.and_false]
      | cons _ _ => rw [planOKAux]
    | sub nm =>
      rw [planOKAux, hd]
      cases fs' with
      | nil => rfl
      | cons _ _ _ bits _ => cases bits <;> simp only [hdirty, Bool.not_true, Bool.and_false, Bool.false_and]
    | bits nm n via =>
      rw [planOKAux, hd]
      cases fs' with
      | nil => rfl
      | cons _ _ ty bits _ =>
        cases bits with
        | none => rfl
        | some b =>
          simp only [hdirty, Bool.and_self, Bool.not_true, Bool.and_false, Bool.false_and]
          split
          · split <;> rfl
          · rfl
    | block size fmt slots =>
      rw [planOKAux, if_pos hdirty]

theorem planOKAux_none {plan : Plan} (hh : plan.head? ≠ some .bitsReset) (hs : ∀ o, plan.head? ≠ some (.seek o))
    {fs : Fields} (hd : dropVoids cfg al fs offs st.spos = none) :
    planOKAux cfg al salign plan fs offs st = false := by
  cases plan with
  | nil => rw [planOKAux, hd]
  | cons i is =>
    cases i with
    | bitsReset => exact absurd rfl hh
    | seek o => exact absurd rfl (hs o)
    | align a => rw [planOKAux, hd]
    | alignCls => cases is <;> rw [planOKAux] <;> rw [hd]
    | sub nm => rw [planOKAux, hd]
    | bits nm n via => rw [planOKAux, hd]
    | block size fmt slots =>
      rw [planOKAux, hd]
      split <;> rfl

end

end Cstruct.Compiler
