/-
  C10, text level: the tokenizer step for each well-formed token, `normTok` on each token class, and the
  induction over the rendered text.
-/
import Proofs.Lemmas.C10TokStep

namespace Cstruct.Expr.C10.TextLemmas
open Cstruct Cstruct.Expr Cstruct.Expr.C10

theorem hexbin_of {p : Char} (h : p = 'x' ∨ p = 'X' ∨ p = 'b' ∨ p = 'B') : isHexBinSuffix p = true := by
  rcases h with rfl | rfl | rfl | rfl <;> rfl

/-- the three parts the digit branch of the tokenizer reads -/
theorem wflit_parts {body : List Char} (h : WFLit body) :
    ∃ c pfx hx, body = c :: (pfx ++ hx) ∧ c.isDigit = true ∧ (∀ d ∈ hx, isHexDigit d = true) ∧
      ((pfx = [] ∧ ∀ d ∈ hx, d.isDigit = true) ∨ ∃ p, pfx = [p] ∧ isHexBinSuffix p = true ∧ hx ≠ []) := by
  cases h with
  | zero => exact ⟨'0', [], [], rfl, rfl, fun _ h => (List.not_mem_nil h).elim, Or.inl ⟨rfl, fun _ h => (List.not_mem_nil h).elim⟩⟩
  | @dec c ds hc _ hds => exact ⟨c, [], ds, rfl, hc, fun d hd => digit_hexDigit (hds d hd), Or.inl ⟨rfl, hds⟩⟩
  | @hex p ds hp hne hds =>
    exact ⟨'0', [p], ds, rfl, rfl, hds, Or.inr ⟨p, rfl, hexbin_of (hp.imp_right Or.inl), hne⟩⟩
  | @bin p ds hp hne hds =>
    exact ⟨'0', [p], ds, rfl, rfl, fun d hd => digit_hexDigit (binDigit_digit (hds d hd)),
      Or.inr ⟨p, rfl, hexbin_of (Or.inr (Or.inr hp)), hne⟩⟩
  | @oct ds _ hds =>
    have hdig : ∀ d ∈ ds, d.isDigit = true := fun d hd => octDigit_digit (hds d hd)
    exact ⟨'0', [], ds, rfl, rfl, fun d hd => digit_hexDigit (hdig d hd), Or.inl ⟨rfl, hdig⟩⟩

theorem wflit_shape {body : List Char} (h : WFLit body) :
    ∃ c ds, body = c :: ds ∧ c.isDigit = true ∧
      ∀ d ∈ ds, isSuffixChar d = false ∧ isIdChar d = true := by
  obtain ⟨c, pfx, hx, rfl, hc, hhx, hpfx⟩ := wflit_parts h
  refine ⟨c, pfx ++ hx, rfl, hc, fun d hd => ?_⟩
  rcases List.mem_append.mp hd with hd | hd
  · rcases hpfx with ⟨rfl, _⟩ | ⟨p, rfl, hp, _⟩
    · cases hd
    · rw [List.mem_singleton.mp hd]; exact ⟨hexbin_not_suffix hp, hexbin_idChar hp⟩
  · exact ⟨hexDigit_not_suffix (hhx d hd), hexDigit_idChar (hhx d hd)⟩

theorem suffix_takeWhile {sfx : List Char} (h : IsSuffix sfx) :
    sfx.takeWhile (fun d => !isSuffixChar d) = [] := by
  cases sfx with
  | nil => rfl
  | cons a r => simp only [List.takeWhile, suffix_head h, Bool.not_true]

theorem normTok_lit {body sfx : List Char} (hb : WFLit body) (hs : IsSuffix sfx) :
    normTok (String.ofList (body ++ sfx)) = String.ofList (octRewrite body) := by
  obtain ⟨c, ds, rfl, hc, hds⟩ := wflit_shape hb
  have htw : (ds ++ sfx).takeWhile (fun d => !isSuffixChar d) = ds := by
    rw [List.takeWhile_append_of_pos (fun a ha => by rw [(hds a ha).1]; rfl), suffix_takeWhile hs,
      List.append_nil]
  simp only [normTok, String.toList_ofList, List.cons_append, hc, if_true, htw]

theorem normTok_ident {c : Char} {cs : List Char} (hc : isIdStart c = true) :
    normTok (String.ofList (c :: cs)) = String.ofList (c :: cs) := by
  simp only [normTok, String.toList_ofList, idStart_not_digit hc, Bool.false_eq_true, if_false]

theorem normTok_op {c : Char} (hc : isOperatorChar c = true) :
    normTok (String.singleton c) = String.singleton c := by
  simp only [normTok, String.toList_singleton, (opChar_facts c (mem_ops hc)).1, Bool.false_eq_true, if_false]

theorem normTok_shl : normTok "<<" = "<<" := by decide +kernel
theorem normTok_shr : normTok ">>" = ">>" := by decide +kernel

theorem tail_head {sfx rest : List Char} (hs : IsSuffix sfx) (hb : Boundary rest) :
    ∀ s, (sfx ++ rest).head? = some s → isHexDigit s = false ∧ isHexBinSuffix s = false := by
  intro s hs'
  cases sfx with
  | nil =>
    have := hb s hs'
    exact ⟨not_of_not_idChar isHexDigit (fun _ => hexDigit_idChar) this,
      not_of_not_idChar isHexBinSuffix (fun _ => hexbin_idChar) this⟩
  | cons a r =>
    cases hs'
    have ha := suffix_head hs
    constructor
    · cases h : isHexDigit s with
      | false => rfl
      | true => rw [hexDigit_not_suffix h] at ha; cases ha
    · cases h : isHexBinSuffix s with
      | false => rfl
      | true => rw [hexbin_not_suffix h] at ha; cases ha

theorem step_lit (fuel : Nat) {body sfx rest : List Char} (acc : List String)
    (hbody : WFLit body) (hs : IsSuffix sfx) (hb : Boundary rest) :
    tokenizeAux (fuel + 1) (body ++ sfx ++ rest) acc =
      tokenizeAux fuel rest (String.ofList (octRewrite body) :: acc) := by
  obtain ⟨c, pfx, hx, rfl, hc, hhx, hpfx⟩ := wflit_parts hbody
  have := step_number fuel c pfx hx (sfx ++ rest) acc hc hhx hpfx (tail_head hs hb)
  rw [skipSuffix_suffix hs hb] at this
  simpa only [List.append_assoc, List.cons_append] using this

theorem wftok_nonempty {t : String} (h : WFTok t) : ∃ c cs, t.toList = c :: cs := by
  cases h with
  | @op c _ => exact ⟨c, [], String.toList_singleton c⟩
  | shl => exact ⟨'<', ['<'], String.toList_ofList⟩
  | shr => exact ⟨'>', ['>'], String.toList_ofList⟩
  | @ident c cs _ _ => exact ⟨c, cs, String.toList_ofList⟩
  | @lit body sfx hb _ =>
    obtain ⟨c, ds, rfl, _, _⟩ := wflit_shape hb
    exact ⟨c, ds ++ sfx, by rw [String.toList_ofList]; rfl⟩

theorem step_tok (fuel : Nat) {t : String} (rest : List Char) (acc : List String) (h : WFTok t)
    (hb : isWordTok t = true → Boundary rest) :
    tokenizeAux (fuel + 1) (t.toList ++ rest) acc = tokenizeAux fuel rest (normTok t :: acc) := by
  cases h with
  | @op c hc =>
    rw [String.toList_singleton, normTok_op hc]
    exact step_op fuel c rest acc hc
  | shl =>
    rw [normTok_shl]
    have : "<<".toList = ['<', '<'] := String.toList_ofList
    rw [this]
    exact step_shl fuel rest acc
  | shr =>
    rw [normTok_shr]
    have : ">>".toList = ['>', '>'] := String.toList_ofList
    rw [this]
    exact step_shr fuel rest acc
  | @ident c cs hc hcs =>
    have hw : isWordTok (String.ofList (c :: cs)) = true := by
      simp only [isWordTok, String.toList_ofList]; exact idStart_idChar hc
    rw [normTok_ident hc, String.toList_ofList]
    exact step_ident fuel c cs rest acc hc hcs (hb hw)
  | @lit body sfx hbody hs =>
    have hw : isWordTok (String.ofList (body ++ sfx)) = true := by
      obtain ⟨c, ds, rfl, hc, _⟩ := wflit_shape hbody
      simp only [isWordTok, String.toList_ofList, List.cons_append]; exact digit_idChar hc
    rw [normTok_lit hbody hs, String.toList_ofList]
    exact step_lit fuel acc hbody hs (hb hw)

theorem tokenizeAux_nil (fuel : Nat) (acc : List String) : tokenizeAux fuel [] acc = .ok acc.reverse := by
  cases fuel <;> rw [tokenizeAux.eq_def]

theorem skip_blanks (bl rest : List Char) (hbl : ∀ c ∈ bl, c = ' ' ∨ c = '\t') :
    ∀ fuel acc, (bl ++ rest).length ≤ fuel →
      ∃ fuel', rest.length ≤ fuel' ∧ tokenizeAux fuel (bl ++ rest) acc = tokenizeAux fuel' rest acc := by
  induction bl with
  | nil => intro fuel acc h; exact ⟨fuel, h, rfl⟩
  | cons c bl ih =>
    intro fuel acc h
    cases fuel with
    | zero => exact absurd h (Nat.not_succ_le_zero _)
    | succ f =>
      obtain ⟨f', h1, h2⟩ := ih (fun x hx => hbl x (List.mem_cons_of_mem _ hx)) f acc (Nat.le_of_succ_le_succ h)
      exact ⟨f', h1, by rw [List.cons_append, step_blank f c _ acc (hbl c List.mem_cons_self), h2]⟩

theorem render_nil (seps : List String) : (render seps []).toList = (seps.headD "").toList := rfl

theorem render_cons (seps : List String) (t : String) (ts : List String) :
    (render seps (t :: ts)).toList = (seps.headD "").toList ++ (t.toList ++ (render seps.tail ts).toList) := by
  simp only [render, String.toList_append, List.append_assoc]

theorem blank_head {s : String} (hs : IsBlank s) {c : Char} {r : List Char} (h : s.toList = c :: r) :
    isIdChar c = false := by
  rcases hs c (h ▸ List.mem_cons_self) with rfl | rfl <;> rfl

theorem boundary_render (seps : List String) (ts : List String) (hwf : ∀ t ∈ ts, WFTok t)
    (hsep : SepOk seps ts)
    (hfirst : ∀ t', ts.head? = some t' → isWordTok t' = true → seps.headD "" ≠ "") :
    Boundary (render seps ts).toList := by
  cases ts with
  | nil =>
    rw [render_nil]
    intro c hc
    cases hl : (seps.headD "").toList with
    | nil => rw [hl] at hc; cases hc
    | cons c' r => rw [hl] at hc; cases hc; exact blank_head hsep hl
  | cons t' ts' =>
    rw [render_cons]
    intro c hc
    cases hl : (seps.headD "").toList with
    | nil =>
      have hem : seps.headD "" = "" := String.toList_eq_nil_iff.mp hl
      obtain ⟨c', cs', ht'⟩ := wftok_nonempty (hwf t' List.mem_cons_self)
      rw [hl, ht'] at hc
      cases hc
      cases hw : isWordTok t' with
      | true => exact absurd hem (hfirst t' rfl hw)
      | false => simpa only [isWordTok, ht'] using hw
    | cons c' r => rw [hl] at hc; cases hc; exact blank_head hsep.1 hl

theorem tokenizeAux_render (ts : List String) : ∀ (seps : List String) (fuel : Nat) (acc : List String),
    (∀ t ∈ ts, WFTok t) → SepOk seps ts → (render seps ts).toList.length ≤ fuel →
    tokenizeAux fuel (render seps ts).toList acc = .ok (acc.reverse ++ ts.map normTok) := by
  induction ts with
  | nil =>
    intro seps fuel acc _ hsep hlen
    rw [render_nil] at hlen ⊢
    obtain ⟨f', _, h⟩ := skip_blanks (seps.headD "").toList [] hsep fuel acc (by rw [List.append_nil]; exact hlen)
    rw [List.append_nil] at h
    rw [h, tokenizeAux_nil, List.map_nil, List.append_nil]
  | cons t ts ih =>
    intro seps fuel acc hwf hsep hlen
    obtain ⟨hbl, hfuse, hrest⟩ := hsep
    rw [render_cons] at hlen ⊢
    obtain ⟨f', hf', h⟩ := skip_blanks (seps.headD "").toList _ hbl fuel acc hlen
    rw [h]
    obtain ⟨c, cs, htl⟩ := wftok_nonempty (hwf t List.mem_cons_self)
    rw [htl, List.cons_append, List.length_cons] at hf'
    cases f' with
    | zero => exact absurd hf' (Nat.not_succ_le_zero _)
    | succ f =>
      have hwf' : ∀ t ∈ ts, WFTok t := fun x hx => hwf x (List.mem_cons_of_mem _ hx)
      rw [step_tok f _ acc (hwf t List.mem_cons_self)
        (fun hw => boundary_render seps.tail ts hwf' hrest (fun t' ht' hw' => hfuse t' ht' hw hw'))]
      have hlen' : (render seps.tail ts).toList.length ≤ f :=
        Nat.le_trans (List.length_append ▸ Nat.le_add_left _ _) (Nat.le_of_succ_le_succ hf')
      rw [ih seps.tail f (normTok t :: acc) hwf' hrest hlen', List.reverse_cons, List.append_assoc]
      rfl

end Cstruct.Expr.C10.TextLemmas
