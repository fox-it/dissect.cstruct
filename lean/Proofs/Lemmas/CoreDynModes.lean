/-
  From the theorems of fragment D (`dyn_ty`, `dyn_idle`, `dyn_pend`, `Proofs/Lemmas/CoreDynTy.lean`) to their uses: an
  accepted definition, or one without bit-fields, is laid out (`laidOut_of_defErr`, `laidOut_of_noBits`); without
  bit-fields `bitsNatural` is vacuous. The second half spells the member-loop invariant out mode by mode.
-/
import Proofs.Lemmas.CoreDynTy
namespace Cstruct.Core.Lemmas
open Cstruct Cstruct.Core Cstruct.C06 Cstruct.C06.Lemmas
open Cstruct.C05.Lemmas (encBytes)

theorem FieldsOk.packed {cfg : Cfg} {fs : Fields} (hS : Fields.fragD cfg fs = true)
    (hU : Fields.uniformAlign false fs = true) : FieldsOk cfg false fs :=
  ⟨hS, hU, nofun, nofun⟩

mutual
theorem laidOut_of_defErr (cfg : Cfg) : ∀ ty : Ty, ty.defErr cfg = none → LaidOut cfg ty
  | .sc _ _, _ => trivial
  | .enum _ _ _, _ => trivial
  | .ptr _, _ => trivial
  | .union _ _, _ => trivial
  | .arr e _, h => by simp only [Ty.defErr] at h; simp only [LaidOut]; exact laidOut_of_defErr cfg e h
  | .struct al fs, h => by
    simp only [Ty.defErr] at h
    split at h
    · cases h
    rename_i hfd
    split at h
    · cases h
    rename_i r hl
    simp only [LaidOut]
    exact ⟨laidOutF_of_defErr cfg fs hfd, r, hl⟩
theorem laidOutF_of_defErr (cfg : Cfg) : ∀ fs : Fields, Fields.defErr cfg fs = none → LaidOutF cfg fs
  | .nil, _ => trivial
  | .cons _ _ t _ r, h => by
    obtain ⟨h1, h2⟩ := defErr_cons h
    simp only [LaidOutF]
    exact ⟨laidOut_of_defErr cfg t h1, laidOutF_of_defErr cfg r h2⟩
end

theorem packed_size {pos start : Nat} {bs : Bytes} {sz : Option Nat} {sa : Nat}
    (h : ∀ s, sz = some s → ∃ e, pos + bs.length = start + e ∧ s = alignTo false e sa) :
    ∀ o, sz = some o → pos + bs.length = start + o := by
  intro o ho
  obtain ⟨e, h1, h2⟩ := h o ho
  rw [h1, h2]; rfl

mutual
theorem bitsNatural_of_noBits (cfg : Cfg) : ∀ ty : Ty, ty.noBits = true → ty.bitsNatural cfg = true
  | .sc _ _, _ => rfl
  | .enum _ _ _, _ => rfl
  | .ptr _, _ => rfl
  | .arr e _, h => by simp only [Ty.noBits] at h; simp only [Ty.bitsNatural]; exact bitsNatural_of_noBits cfg e h
  | .struct _ fs, h => by simp only [Ty.noBits] at h; simp only [Ty.bitsNatural]; exact bitsNaturalF_of_noBits cfg fs h
  | .union _ fs, h => by simp only [Ty.noBits] at h; simp only [Ty.bitsNatural]; exact bitsNaturalF_of_noBits cfg fs h
theorem bitsNaturalF_of_noBits (cfg : Cfg) : ∀ fs : Fields, Fields.noBits fs = true → Fields.bitsNatural cfg fs = true
  | .nil, _ => rfl
  | .cons _ _ t bits r, h => by
    simp only [Fields.noBits, Bool.and_eq_true] at h
    simp only [Fields.bitsNatural, Bool.and_eq_true]
    refine ⟨?_, bitsNaturalF_of_noBits cfg r h.2⟩
    rcases bits with _ | _ | b
    · exact bitsNatural_of_noBits cfg t h.1.2
    · exact bitsNatural_of_noBits cfg t h.1.2
    · simp at h
end

theorem noBits_cons {cfg : Cfg} {name an ty bits rest} (hB : Fields.noBits (.cons name an ty bits rest) = true)
    (hS : Fields.fragD cfg (.cons name an ty bits rest) = true) :
    bits = none ∧ ty.noBits = true ∧ ty.fragD cfg = true ∧ Fields.noBits rest = true ∧ Fields.fragD cfg rest = true := by
  simp only [Fields.noBits, Bool.and_eq_true] at hB
  simp only [Fields.fragD, Bool.and_eq_true] at hS
  rcases bits with _ | _ | b
  · exact ⟨rfl, hB.1.2, hS.1, hB.2, hS.2⟩
  · simp at hS
  · simp at hB

theorem layout_noBits (cfg : Cfg) (al : Bool) : ∀ fs : Fields, Fields.noBits fs = true → Fields.fragD cfg fs = true →
    ∀ st, ∃ r, Fields.layout cfg al fs st = .ok r
  | .nil, _, _, st => ⟨_, layout_nil cfg al st⟩
  | .cons name an ty bits rest, hB, hS, st => by
    obtain ⟨rfl, _, _, hB', hS'⟩ := noBits_cons hB hS
    obtain ⟨r, h⟩ := layout_noBits cfg al rest hB' hS' (stNext cfg al ty st)
    exact ⟨_, by rw [layout_cons_nobits _ _ _ _ _ _ _ _ rfl, h]; rfl⟩

mutual
theorem laidOut_of_noBits (cfg : Cfg) : ∀ ty : Ty, ty.noBits = true → ty.fragD cfg = true → LaidOut cfg ty
  | .sc _ _, _, _ => trivial
  | .enum _ _ _, _, _ => trivial
  | .ptr _, _, _ => trivial
  | .union _ _, _, _ => trivial
  | .arr e _, hB, hS => by
    simp only [Ty.noBits] at hB
    simp only [Ty.fragD, Bool.and_eq_true] at hS
    simp only [LaidOut]
    exact laidOut_of_noBits cfg e hB hS.2
  | .struct al fs, hB, hS => by
    simp only [Ty.noBits] at hB
    simp only [Ty.fragD] at hS
    simp only [LaidOut]
    exact ⟨laidOutF_of_noBits cfg fs hB hS, layout_noBits cfg al fs hB hS _⟩
theorem laidOutF_of_noBits (cfg : Cfg) : ∀ fs : Fields, Fields.noBits fs = true → Fields.fragD cfg fs = true →
    LaidOutF cfg fs
  | .nil, _, _ => trivial
  | .cons name an ty bits rest, hB, hS => by
    obtain ⟨_, hB1, hS1, hB2, hS2⟩ := noBits_cons hB hS
    simp only [LaidOutF]
    exact ⟨laidOut_of_noBits cfg ty hB1 hS1, laidOutF_of_noBits cfg rest hB2 hS2⟩
end

/-! The member-loop invariant spelled out mode by mode, each as a round-trip statement (writing succeeded) and as a
  totality statement (the definition is accepted). Prefixes: `rtD`/`wtD` packed, `bD`/`wtB` aligned with bit-fields
  (hypotheses `BHyps`), `aD`/`wtA` aligned without bit-fields (`DHyps`: no unit is ever opened, no layout rejected). -/

def IdleStmtD (cfg : Cfg) (fs : Fields) : Prop :=
  Fields.fragD cfg fs = true → Fields.uniformAlign false fs = true → ∀ ctx vs, HasTysD cfg ctx vs fs →
  ∀ st sz sa offs, Fields.layout cfg false fs st = .ok (sz, sa, offs) → LIdle st fs →
  ∀ start pos out bbF, writeFields cfg false fs offs vs start BitBuf.empty pos = .ok (out, bbF) →
    (∀ o, st.offset = some o → pos = start + o) →
    ∃ fl, flushBits cfg bbF = .ok fl ∧ (∀ o, sz = some o → pos + (out ++ fl).length = start + o) ∧
      ∀ (pre post : Bytes) (bbR : BitBuf), pre.length = pos → RIdle bbR fs →
        ∃ szs, readFields cfg false fs offs start bbR ctx (pre ++ (out ++ fl) ++ post) pos =
          .ok (vs, szs, pos + (out ++ fl).length)

def PendStmtD (cfg : Cfg) (fs : Fields) : Prop :=
  Fields.fragD cfg fs = true → Fields.uniformAlign false fs = true → ∀ ctx vs, HasTysD cfg ctx vs fs →
  ∀ st sz sa offs, Fields.layout cfg false fs st = .ok (sz, sa, offs) →
  ∀ ft fsz k n bbW, Pend cfg st ft fsz k n bbW →
  ∀ start pos out bbF, writeFields cfg false fs offs vs start bbW pos = .ok (out, bbF) →
    (∀ o, st.offset = some o → pos + fsz = start + o) →
    ∃ fl F tail, flushBits cfg bbF = .ok fl ∧ out ++ fl = encBytes cfg.endian fsz F ++ tail ∧ F < 2 ^ (8 * fsz) ∧
      URel cfg.endian (8 * fsz) k n F ∧ (∀ o, sz = some o → pos + (out ++ fl).length = start + o) ∧
      ∀ (pre post : Bytes) (bbR : BitBuf) (U : Int), pre.length = pos → bbR.ty = some ft →
        ReadInv cfg.endian (8 * fsz) U k bbR → U % ((2 ^ (8 * fsz) : Nat) : Int) = (F : Int) →
        ∃ szs, readFields cfg false fs offs start bbR ctx (pre ++ (out ++ fl) ++ post) (pos + fsz) =
          .ok (vs, szs, pos + (out ++ fl).length)

theorem rtD_idle (cfg : Cfg) : ∀ fs : Fields, IdleStmtD cfg fs :=
  fun fs hS hU ctx vs hvs st sz sa offs hlay hli start pos out bbF hw hpos => by
    obtain ⟨fl, hfl, hsz, hrd⟩ :=
      (dyn_idle cfg false fs (.packed hS hU) ctx vs hvs st sz sa offs hlay hli start pos nofun hpos).2 out bbF hw
    exact ⟨fl, hfl, packed_size hsz, fun pre post bbR hp => hrd _ bbR (.mid hp)⟩

theorem rtD_pend (cfg : Cfg) : ∀ fs : Fields, PendStmtD cfg fs :=
  fun fs hS hU ctx vs hvs st sz sa offs hlay ft fsz k n bbW hP start pos out bbF hw hpos => by
    obtain ⟨fl, F, tail, hfl, hdata, hF, hrel, hsz, hrd⟩ :=
      (dyn_pend cfg false fs (.packed hS hU) ctx vs hvs st sz sa offs hlay ft fsz k n bbW hP start pos nofun nofun
        hpos).2 out bbF hw
    exact ⟨fl, F, tail, hfl, hdata, hF, hrel, packed_size hsz, fun pre post bbR U hp => hrd _ bbR U (.mid hp)⟩

def WtIdleD (cfg : Cfg) (fs : Fields) : Prop :=
  Fields.fragD cfg fs = true → Fields.uniformAlign false fs = true → Fields.defErr cfg fs = none →
  ∀ ctx vs, HasTysD cfg ctx vs fs → ∀ st sz sa offs, Fields.layout cfg false fs st = .ok (sz, sa, offs) → LIdle st fs →
  ∀ start pos, (∀ o, st.offset = some o → pos = start + o) →
    ∃ out bbF fl, writeFields cfg false fs offs vs start BitBuf.empty pos = .ok (out, bbF) ∧ flushBits cfg bbF = .ok fl

def WtPendD (cfg : Cfg) (fs : Fields) : Prop :=
  Fields.fragD cfg fs = true → Fields.uniformAlign false fs = true → Fields.defErr cfg fs = none →
  ∀ ctx vs, HasTysD cfg ctx vs fs → ∀ st sz sa offs, Fields.layout cfg false fs st = .ok (sz, sa, offs) →
  ∀ ft fsz k n bbW, Pend cfg st ft fsz k n bbW → ∀ start pos, (∀ o, st.offset = some o → pos + fsz = start + o) →
    ∃ out bbF fl, writeFields cfg false fs offs vs start bbW pos = .ok (out, bbF) ∧ flushBits cfg bbF = .ok fl

theorem wtD_idle (cfg : Cfg) : ∀ fs : Fields, WtIdleD cfg fs :=
  fun fs hS hU hD ctx vs hvs st sz sa offs hlay hli start pos hpos => by
    obtain ⟨hT, hR⟩ := dyn_idle cfg false fs (.packed hS hU) ctx vs hvs st sz sa offs hlay hli start pos nofun hpos
    obtain ⟨⟨out, bbF⟩, hw⟩ := hT (laidOutF_of_defErr cfg fs hD)
    obtain ⟨fl, hfl, _⟩ := hR out bbF hw
    exact ⟨out, bbF, fl, hw, hfl⟩

theorem wtD_pend (cfg : Cfg) : ∀ fs : Fields, WtPendD cfg fs :=
  fun fs hS hU hD ctx vs hvs st sz sa offs hlay ft fsz k n bbW hP start pos hpos => by
    obtain ⟨hT, hR⟩ := dyn_pend cfg false fs (.packed hS hU) ctx vs hvs st sz sa offs hlay ft fsz k n bbW hP start pos
      nofun nofun hpos
    obtain ⟨⟨out, bbF⟩, hw⟩ := hT (laidOutF_of_defErr cfg fs hD)
    obtain ⟨fl, _, _, hfl, _⟩ := hR out bbF hw
    exact ⟨out, bbF, fl, hw, hfl⟩

structure BHyps (cfg : Cfg) (fs : Fields) : Prop where
  frag : Fields.fragD cfg fs = true
  unif : Fields.uniformAlign true fs = true
  p2 : fs.pow2Aligned cfg
  nat : Fields.bitsNatural cfg fs = true

theorem BHyps.ok {cfg : Cfg} {fs : Fields} (h : BHyps cfg fs) : FieldsOk cfg true fs :=
  ⟨h.frag, h.unif, fun _ => h.p2, fun _ => h.nat⟩

def BIdle (cfg : Cfg) (fs : Fields) : Prop :=
  BHyps cfg fs → ∀ ctx vs, HasTysD cfg ctx vs fs →
  ∀ st sz sa offs, Fields.layout cfg true fs st = .ok (sz, sa, offs) → LIdle st fs →
  ∀ start pos, allAlignDvd cfg start fs → (∀ o, st.offset = some o → pos = start + o) →
  ∀ out bbF, writeFields cfg true fs offs vs start BitBuf.empty pos = .ok (out, bbF) →
    ∃ fl, flushBits cfg bbF = .ok fl ∧
      (∀ s, sz = some s → ∃ e, pos + (out ++ fl).length = start + e ∧ s = e + padNat e sa) ∧
      ∀ (pre post : Bytes) (bbR : BitBuf), pre.length = pos → RIdle bbR fs →
        ∃ szs, readFields cfg true fs offs start bbR ctx (pre ++ (out ++ fl) ++ post) pos =
          .ok (vs, szs, pos + (out ++ fl).length)

def BPend (cfg : Cfg) (fs : Fields) : Prop :=
  BHyps cfg fs → ∀ ctx vs, HasTysD cfg ctx vs fs →
  ∀ st sz sa offs, Fields.layout cfg true fs st = .ok (sz, sa, offs) →
  ∀ ft fsz k n bbW, Pend cfg st ft fsz k n bbW →
  ∀ start pos, allAlignDvd cfg start fs → fsz ∣ pos → (∀ o, st.offset = some o → pos + fsz = start + o) →
  ∀ out bbF, writeFields cfg true fs offs vs start bbW pos = .ok (out, bbF) →
    ∃ fl F tail, flushBits cfg bbF = .ok fl ∧ out ++ fl = encBytes cfg.endian fsz F ++ tail ∧ F < 2 ^ (8 * fsz) ∧
      URel cfg.endian (8 * fsz) k n F ∧
      (∀ s, sz = some s → ∃ e, pos + (out ++ fl).length = start + e ∧ s = e + padNat e sa) ∧
      ∀ (pre post : Bytes) (bbR : BitBuf) (U : Int), pre.length = pos → bbR.ty = some ft →
        ReadInv cfg.endian (8 * fsz) U k bbR → U % ((2 ^ (8 * fsz) : Nat) : Int) = (F : Int) →
        ∃ szs, readFields cfg true fs offs start bbR ctx (pre ++ (out ++ fl) ++ post) (pos + fsz) =
          .ok (vs, szs, pos + (out ++ fl).length)

theorem bD_idle (cfg : Cfg) : ∀ fs : Fields, BIdle cfg fs :=
  fun fs hH ctx vs hvs st sz sa offs hlay hli start pos hdv hpos out bbF hw => by
    obtain ⟨fl, hfl, hsz, hrd⟩ :=
      (dyn_idle cfg true fs hH.ok ctx vs hvs st sz sa offs hlay hli start pos (fun _ => hdv) hpos).2 out bbF hw
    exact ⟨fl, hfl, hsz, fun pre post bbR hp => hrd _ bbR (.mid hp)⟩

theorem bD_pend (cfg : Cfg) : ∀ fs : Fields, BPend cfg fs :=
  fun fs hH ctx vs hvs st sz sa offs hlay ft fsz k n bbW hP start pos hdv hual hpos out bbF hw => by
    obtain ⟨fl, F, tail, hfl, hdata, hF, hrel, hsz, hrd⟩ :=
      (dyn_pend cfg true fs hH.ok ctx vs hvs st sz sa offs hlay ft fsz k n bbW hP start pos (fun _ => hdv)
        (fun _ => hual) hpos).2 out bbF hw
    exact ⟨fl, F, tail, hfl, hdata, hF, hrel, hsz, fun pre post bbR U hp => hrd _ bbR U (.mid hp)⟩

def WtBIdle (cfg : Cfg) (fs : Fields) : Prop :=
  BHyps cfg fs → Fields.defErr cfg fs = none → ∀ ctx vs, HasTysD cfg ctx vs fs →
  ∀ st sz sa offs, Fields.layout cfg true fs st = .ok (sz, sa, offs) → LIdle st fs →
  ∀ start pos, allAlignDvd cfg start fs → (∀ o, st.offset = some o → pos = start + o) →
    ∃ out bbF fl, writeFields cfg true fs offs vs start BitBuf.empty pos = .ok (out, bbF) ∧ flushBits cfg bbF = .ok fl

def WtBPend (cfg : Cfg) (fs : Fields) : Prop :=
  BHyps cfg fs → Fields.defErr cfg fs = none → ∀ ctx vs, HasTysD cfg ctx vs fs →
  ∀ st sz sa offs, Fields.layout cfg true fs st = .ok (sz, sa, offs) →
  ∀ ft fsz k n bbW, Pend cfg st ft fsz k n bbW →
  ∀ start pos, allAlignDvd cfg start fs → fsz ∣ pos → (∀ o, st.offset = some o → pos + fsz = start + o) →
    ∃ out bbF fl, writeFields cfg true fs offs vs start bbW pos = .ok (out, bbF) ∧ flushBits cfg bbF = .ok fl

theorem wtB_idle (cfg : Cfg) : ∀ fs : Fields, WtBIdle cfg fs :=
  fun fs hH hD ctx vs hvs st sz sa offs hlay hli start pos hdv hpos => by
    obtain ⟨hT, hR⟩ := dyn_idle cfg true fs hH.ok ctx vs hvs st sz sa offs hlay hli start pos (fun _ => hdv) hpos
    obtain ⟨⟨out, bbF⟩, hw⟩ := hT (laidOutF_of_defErr cfg fs hD)
    obtain ⟨fl, hfl, _⟩ := hR out bbF hw
    exact ⟨out, bbF, fl, hw, hfl⟩

theorem wtB_pend (cfg : Cfg) : ∀ fs : Fields, WtBPend cfg fs :=
  fun fs hH hD ctx vs hvs st sz sa offs hlay ft fsz k n bbW hP start pos hdv hual hpos => by
    obtain ⟨hT, hR⟩ := dyn_pend cfg true fs hH.ok ctx vs hvs st sz sa offs hlay ft fsz k n bbW hP start pos
      (fun _ => hdv) (fun _ => hual) hpos
    obtain ⟨⟨out, bbF⟩, hw⟩ := hT (laidOutF_of_defErr cfg fs hD)
    obtain ⟨fl, _, _, hfl, _⟩ := hR out bbF hw
    exact ⟨out, bbF, fl, hw, hfl⟩

structure DHyps (cfg : Cfg) (fs : Fields) : Prop where
  frag : Fields.fragD cfg fs = true
  nob : Fields.noBits fs = true
  unif : Fields.uniformAlign true fs = true
  p2 : fs.pow2Aligned cfg

theorem DHyps.ok {cfg : Cfg} {fs : Fields} (h : DHyps cfg fs) : FieldsOk cfg true fs :=
  ⟨h.frag, h.unif, fun _ => h.p2, fun _ => bitsNaturalF_of_noBits cfg fs h.nob⟩


theorem idle_of_noBits {cfg : Cfg} {fs : Fields} (hB : Fields.noBits fs = true) (hS : Fields.fragD cfg fs = true)
    (st : LState) (bbR : BitBuf) : LIdle st fs ∧ RIdle bbR fs := by
  cases fs with
  | nil => exact ⟨trivial, trivial⟩
  | cons name an ty bits rest =>
    obtain ⟨rfl, _⟩ := noBits_cons hB hS
    exact ⟨trivial, trivial⟩

theorem writeFields_noBits (cfg : Cfg) (al : Bool) : ∀ fs : Fields, Fields.noBits fs = true → Fields.fragD cfg fs = true →
    ∀ ctx vs, HasTysD cfg ctx vs fs → ∀ st sz sa offs, Fields.layout cfg al fs st = .ok (sz, sa, offs) →
    ∀ start pos out bbF, writeFields cfg al fs offs vs start BitBuf.empty pos = .ok (out, bbF) → bbF = BitBuf.empty
  | .nil => fun _ _ _ _ _ _ _ _ _ _ _ _ _ _ hw => by
    rw [writeFields_nil] at hw
    cases hw; rfl
  | .cons name an ty bits rest => fun hB hS ctx vs hvs st sz sa offs hlay start pos out bbF hw => by
    obtain ⟨rfl, _, _, hB', hS'⟩ := noBits_cons hB hS
    cases hvs with
    | @cons _ v vs' _ _ _ _ hv hvs' =>
    rw [layout_cons_nobits _ _ _ _ _ _ _ _ rfl] at hlay
    obtain ⟨offs', hlay', rfl⟩ := bind_ok_offs hlay
    rw [writeFields_nb] at hw
    obtain ⟨body, _, hw2⟩ := bind_ok hw
    obtain ⟨o, hwr, _⟩ := bind_ok_fst hw2
    exact writeFields_noBits cfg al rest hB' hS' _ vs' hvs' _ sz sa offs' hlay' start _ o bbF hwr

def AIdleD (cfg : Cfg) (fs : Fields) : Prop :=
  DHyps cfg fs → ∀ ctx vs, HasTysD cfg ctx vs fs →
  ∀ st sz sa offs, Fields.layout cfg true fs st = .ok (sz, sa, offs) →
  ∀ start pos, allAlignDvd cfg start fs → (∀ o, st.offset = some o → pos = start + o) →
  ∀ out bbF, writeFields cfg true fs offs vs start BitBuf.empty pos = .ok (out, bbF) →
    bbF = BitBuf.empty ∧ (∀ s, sz = some s → ∃ e, pos + out.length = start + e ∧ s = e + padNat e sa) ∧
    ∀ (pre post : Bytes) (bbR : BitBuf), pre.length = pos →
      ∃ szs, readFields cfg true fs offs start bbR ctx (pre ++ out ++ post) pos = .ok (vs, szs, pos + out.length)

theorem aD_idle (cfg : Cfg) : ∀ fs : Fields, AIdleD cfg fs :=
  fun fs hH ctx vs hvs st sz sa offs hlay start pos hdv hpos out bbF hw => by
    have hbb := writeFields_noBits cfg true fs hH.nob hH.frag ctx vs hvs st sz sa offs hlay start pos out bbF hw
    subst hbb
    obtain ⟨fl, hfl, hsz, hrd⟩ := (dyn_idle cfg true fs hH.ok ctx vs hvs st sz sa offs hlay
      (idle_of_noBits hH.nob hH.frag st BitBuf.empty).1 start pos (fun _ => hdv) hpos).2 out _ hw
    cases hfl
    simp only [List.append_nil] at hsz hrd
    exact ⟨rfl, hsz, fun pre post bbR hp => hrd _ bbR (.mid hp) (idle_of_noBits hH.nob hH.frag st bbR).2⟩

theorem sAlign_sc_arr (cfg : Cfg) (s a len) : sAlign cfg (.arr (.sc s a) len) = 1 := rfl

def WtATyD (cfg : Cfg) (ty : Ty) : Prop :=
  ty.fragD cfg = true → ty.noBits = true → ty.uniformAlign true = true → ty.pow2Aligned cfg →
  ∀ ctx v, HasTyD cfg ctx v ty → ∀ pos, sAlign cfg ty ∣ pos → ∃ bs, write cfg ty v pos = .ok bs

def WtAIdleD (cfg : Cfg) (fs : Fields) : Prop :=
  DHyps cfg fs → ∀ ctx vs, HasTysD cfg ctx vs fs → ∀ st,
    ∃ sz sa offs, Fields.layout cfg true fs st = .ok (sz, sa, offs) ∧
      ∀ start pos, allAlignDvd cfg start fs → (∀ o, st.offset = some o → pos = start + o) →
        ∃ out, writeFields cfg true fs offs vs start BitBuf.empty pos = .ok (out, BitBuf.empty)

theorem wtA_idle (cfg : Cfg) : ∀ fs : Fields, WtAIdleD cfg fs :=
  fun fs hH ctx vs hvs st => by
    obtain ⟨⟨sz, sa, offs⟩, hlay⟩ := layout_noBits cfg true fs hH.nob hH.frag st
    refine ⟨sz, sa, offs, hlay, fun start pos hdv hpos => ?_⟩
    obtain ⟨⟨out, bbF⟩, hw⟩ := (dyn_idle cfg true fs hH.ok ctx vs hvs st sz sa offs hlay
      (idle_of_noBits hH.nob hH.frag st BitBuf.empty).1 start pos (fun _ => hdv) hpos).1
      (laidOutF_of_noBits cfg fs hH.nob hH.frag)
    have hbb := writeFields_noBits cfg true fs hH.nob hH.frag ctx vs hvs st sz sa offs hlay start pos out bbF hw
    subst hbb
    exact ⟨out, hw⟩

theorem wtA_of_WR {cfg : Cfg} {ty : Ty} (h : ∀ ctx v, HasTyD cfg ctx v ty → ty.fragD cfg = true → ∀ pos, WR cfg ty v pos) :
    WtATyD cfg ty := by
  intro hS _ _ _ ctx v hv pos _
  obtain ⟨bs, _, w, _⟩ := h ctx v hv hS pos
  exact ⟨bs, w⟩

end Cstruct.Core.Lemmas
