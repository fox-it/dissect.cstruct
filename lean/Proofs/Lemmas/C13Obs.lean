/-
  C13, definition parser — what the handlers read off a token (`Tok.obs`) does not depend on the blanks the token swallowed, nor,
  for an enum head, on its inner blanks (`obs_tokOf`, `toks_obs`); tokens of texts with the same lexemes agree (`toks_agree`);
  what `_parse_field_type` extracts from a well-formed declarator (`parseDeclarator_lexeme`; blanks around a count text,
  `dims_pad`); the words of an enum's base type.
-/
import Proofs.Lemmas.C13Recognisers
import Proofs.Lemmas.C13Adm

namespace Cstruct.DefParser.C13
open Cstruct.DefParser

theorem blank_ws (s : List Char) (h : blank s = true) : s.all isWs = true := blank_sp spOK_U s h

theorem strip_core (lead s : List Char) (c : Char) (t : List Char) (hl : blank lead = true) (hs : blank s = true)
    (hh : isWs c = false) (hlast : ∀ d, (c :: t).getLast? = some d → isWs d = false) :
    strip (lead ++ (c :: t) ++ s) = c :: t := by
  unfold strip lstrip rstrip
  rw [List.append_assoc, dropWhile_app isWs lead ((c :: t) ++ s) (blank_ws lead hl) (by simp [noHead, hh])]
  exact rstripBy_app isWs (c :: t) s (blank_ws s hs) hlast

theorem last_word (w : List Char) (hw : w.all isWord = true) (d : Char) (h : w.getLast? = some d) : isWs d = false :=
  isWs_of_word d ((List.all_eq_true.mp hw) d (List.mem_of_getLast? h))

theorem name_last (pre w : List Char) (bits : Option (List Char × List Char × List Char)) (cnt : Option (List Char))
    (hwf : (Lexeme.name pre w bits cnt).wf = true) (d : Char) (h : (Lexeme.name pre w bits cnt).text.getLast? = some d) :
    isWs d = false := by
  simp only [Lexeme.wf, Bool.and_eq_true, isWordStr, Bool.not_eq_true', List.isEmpty_eq_false_iff] at hwf
  obtain ⟨⟨⟨-, hwne, hw⟩, hbits⟩, -⟩ := hwf
  simp only [Lexeme.text] at h
  cases cnt with
  | some c =>
    have : (pre ++ w ++ bitsText bits ++ countText (some c)).getLast? = some ']' := by
      rw [show countText (some c) = ('[' :: c) ++ [']'] by simp [countText], ← List.append_assoc, getLast?_append_ne _ [']'] (by simp)]
      rfl
    rw [this] at h; cases h; decide
  | none =>
    simp only [countText, List.append_nil] at h
    cases bits with
    | some t =>
      obtain ⟨a, b, ds⟩ := t
      simp only [Bool.and_eq_true, Bool.not_eq_true', List.isEmpty_eq_false_iff] at hbits
      have e : pre ++ w ++ bitsText (some (a, b, ds)) = (pre ++ w ++ a ++ ':' :: b) ++ ds := by simp [bitsText]
      rw [e, getLast?_append_ne _ ds hbits.1.2] at h
      have hdig : d.isDigit = true := (List.all_eq_true.mp hbits.2) d (List.mem_of_getLast? h)
      exact isWs_of_word d (digit_word d hdig)
    | none =>
      simp only [bitsText, List.append_nil] at h
      rw [getLast?_append_ne pre w hwne] at h
      exact last_word w hw d h

theorem strip_name (pre w : List Char) (bits : Option (List Char × List Char × List Char)) (cnt : Option (List Char))
    (hwf : (Lexeme.name pre w bits cnt).wf = true) (s : List Char) (hb : blank s = true) :
    strip ((Lexeme.name pre w bits cnt).text ++ s) = (Lexeme.name pre w bits cnt).text := by
  obtain ⟨c, t, ht, hc⟩ : ∃ c t, (Lexeme.name pre w bits cnt).text = c :: t ∧ isWs c = false := by
    have hwf' := hwf
    simp only [Lexeme.wf, Bool.and_eq_true, isWordStr] at hwf'
    obtain ⟨⟨⟨⟨hpre, -⟩, hwne, hw⟩, -⟩, -⟩ := hwf'
    cases pre with
    | cons p pre =>
      simp only [preOK, Bool.and_eq_true, beq_iff_eq] at hpre
      obtain ⟨rfl, -⟩ := hpre
      exact ⟨'*', _, rfl, by decide⟩
    | nil =>
      cases w with
      | nil => cases hwne
      | cons e w => exact ⟨e, _, rfl, isWs_of_word e (List.all_eq_true.mp hw e List.mem_cons_self)⟩
  have := strip_core [] s c t rfl hb hc (fun d hd => name_last pre w bits cnt hwf d (by rw [ht]; exact hd))
  rw [ht]
  exact this

theorem obs_name (pre w : List Char) (bits : Option (List Char × List Char × List Char)) (cnt : Option (List Char))
    (hwf : (Lexeme.name pre w bits cnt).wf = true) (s : List Char) (hb : blank s = true) :
    Tok.obs ⟨.name, (Lexeme.name pre w bits cnt).text ++ s⟩ = Tok.obs ⟨.name, (Lexeme.name pre w bits cnt).text⟩ := by
  have h2 := strip_name pre w bits cnt hwf [] rfl
  have m2 := matchName_lexeme spOK_U pre w bits cnt hwf [] [] rfl
  simp only [List.append_nil] at h2 m2
  simp only [Tok.obs, strip_name pre w bits cnt hwf s hb, h2, parseDeclarator, matchName_lexeme spOK_U pre w bits cnt hwf s [] hb, m2]

theorem more_last (first : List Char) (more : List (List Char × List Char × List Char)) (hf : isWordStr first = true)
    (hm : moreOK more = true) (d : Char) (h : (first ++ moreText more).getLast? = some d) : isWs d = false := by
  induction more generalizing first with
  | nil =>
    simp only [isWordStr, Bool.and_eq_true] at hf
    simp only [moreText, List.append_nil] at h
    exact last_word first hf.2 d h
  | cons t more ih =>
    obtain ⟨a, b, w⟩ := t
    simp only [moreOK, Bool.and_eq_true] at hm
    have hwne : w ++ moreText more ≠ [] := by
      have := hm.1.2; simp only [isWordStr, Bool.and_eq_true, Bool.not_eq_true', List.isEmpty_eq_false_iff] at this
      simp [this.1]
    have e : first ++ moreText ((a, b, w) :: more) = (first ++ a ++ ',' :: b) ++ (w ++ moreText more) := by simp [moreText]
    rw [e, getLast?_append_ne _ _ hwne] at h
    exact ih w hm.1.2 hm.2 h

theorem obs_defs (lead first : List Char) (more : List (List Char × List Char × List Char))
    (hwf : (Lexeme.defs lead first more).wf = true) (s : List Char) (hb : blank s = true) :
    Tok.obs ⟨.defs, (Lexeme.defs lead first more).text ++ s⟩ = Tok.obs ⟨.defs, first ++ moreText more⟩ := by
  simp only [Lexeme.wf, Bool.and_eq_true] at hwf
  obtain ⟨⟨⟨⟨hl, hf⟩, -⟩, -⟩, hm⟩ := hwf
  have hf' := hf
  simp only [isWordStr, Bool.and_eq_true, Bool.not_eq_true', List.isEmpty_eq_false_iff] at hf'
  obtain ⟨c, f', rfl⟩ := List.exists_cons_of_ne_nil hf'.1
  have hc : isWs c = false := by
    have := hf'.2; simp only [List.all_cons, Bool.and_eq_true] at this; exact isWs_of_word c this.1
  have hlast : ∀ d, (c :: (f' ++ moreText more)).getLast? = some d → isWs d = false := fun d hd =>
    more_last (c :: f') more hf hm d (by simpa using hd)
  have h1 : strip ((Lexeme.defs lead (c :: f') more).text ++ s) = c :: (f' ++ moreText more) := by
    have := strip_core lead s c (f' ++ moreText more) hl hb hc hlast
    simpa [Lexeme.text] using this
  have h2 : strip ((c :: f') ++ moreText more) = c :: (f' ++ moreText more) := by
    have := strip_core [] [] c (f' ++ moreText more) rfl rfl hc hlast
    simpa using this
  simp only [Tok.obs, h1, h2]

theorem obs_enum (fl : Bool) (ws1 nm ws2 : List Char) (ty : Option (List Char × List Char × List Char)) (vals : List Char)
    (hwf : (Lexeme.enum fl ws1 nm ws2 ty vals).wf = true) (s : List Char) (hb : blank s = true) :
    Tok.obs ⟨.enum, (Lexeme.enum fl ws1 nm ws2 ty vals).text ++ s⟩ =
      .enum (some ⟨fl, if nm.isEmpty then none else some nm, ty.map fun t => normType t.2.1, vals⟩) := by
  have m1 := matchEnum_lexeme spOK_U fl ws1 nm ws2 ty vals hwf s [] hb
  simp only [Tok.obs, m1, Option.map]
  cases ty <;> rfl

theorem obs_define (ws1 nm ws2 val : List Char) (hwf : (Lexeme.define ws1 nm ws2 val).wf = true) (s : List Char)
    (hb : blank s = true) (hend : lineEnd s [] = true) :
    Tok.obs ⟨.define, (Lexeme.define ws1 nm ws2 val).text ++ s⟩ = Tok.obs ⟨.define, (Lexeme.define ws1 nm ws2 val).text⟩ := by
  have m1 := matchDefine_lexeme spOK_U ws1 nm ws2 val hwf s [] hb hend rfl
  have m2 := matchDefine_lexeme spOK_U ws1 nm ws2 val hwf [] [] rfl rfl rfl
  simp only [List.append_nil] at m1 m2
  simp only [Tok.obs, m1, m2, Option.map]

theorem sepOK_lineEnd (ws1 nm ws2 val s : List Char) (next : Option Lexeme)
    (h : sepOK (.define ws1 nm ws2 val) s next = true) : lineEnd s [] = true := by
  simp only [sepOK, Bool.and_eq_true] at h
  cases s with
  | nil => rfl
  | cons c s => simpa [lineEnd] using h.2

theorem obs_tokOf_same (ac ac' : Bool) (x : Lexeme) (s s' : List Char) (r r' : List (Lexeme × List Char))
    (h : adm ac ((x, s) :: r) = true) (h' : adm ac' ((x, s') :: r') = true) :
    (tokOf x s).obs = (tokOf x s').obs := by
  obtain ⟨hwf, hbs, -, hsep, -⟩ := adm_cons ac x s r h
  obtain ⟨-, hbs', -, hsep', -⟩ := adm_cons ac' x s' r' h'
  cases x with
  | name pre w bits cnt => simp only [tokOf]; rw [obs_name pre w bits cnt hwf s hbs, obs_name pre w bits cnt hwf s' hbs']
  | defs lead first more => simp only [tokOf]; rw [obs_defs lead first more hwf s hbs, obs_defs lead first more hwf s' hbs']
  | enum fl ws1 nm ws2 ty vals =>
    simp only [tokOf]; rw [obs_enum fl ws1 nm ws2 ty vals hwf s hbs, obs_enum fl ws1 nm ws2 ty vals hwf s' hbs']
  | define ws1 nm ws2 val =>
    simp only [tokOf]
    rw [obs_define ws1 nm ws2 val hwf s hbs (sepOK_lineEnd _ _ _ _ s _ hsep),
      obs_define ws1 nm ws2 val hwf s' hbs' (sepOK_lineEnd _ _ _ _ s' _ hsep')]
  | _ => rfl

theorem lexSim_cases (x x' : Lexeme) (h : lexSim x x' = true) :
    x = x' ∨ ∃ fl ws1 nm ws2 ty vals ws1' ws2' ty', x = .enum fl ws1 nm ws2 ty vals ∧ x' = .enum fl ws1' nm ws2' ty' vals ∧
      (ty.map fun t => normType t.2.1) = (ty'.map fun t => normType t.2.1) := by
  cases x with
  | enum fl ws1 nm ws2 ty vals =>
    cases x' with
    | enum fl' ws1' nm' ws2' ty' vals' =>
      simp only [lexSim, Bool.and_eq_true, beq_iff_eq] at h
      obtain ⟨⟨⟨rfl, rfl⟩, rfl⟩, hty⟩ := h
      refine .inr ⟨fl, ws1, nm, ws2, ty, vals, ws1', ws2', ty', rfl, rfl, ?_⟩
      cases ty with
      | none => cases ty' with
        | none => rfl
        | some t' => simp at hty
      | some t => cases ty' with
        | none => simp at hty
        | some t' => obtain ⟨a, t, b⟩ := t; obtain ⟨a', t', b'⟩ := t'; simpa using hty
    | _ => simp [lexSim] at h
  | _ => exact .inl (by simpa [lexSim] using h)

theorem obs_tokOf (ac ac' : Bool) (x x' : Lexeme) (s s' : List Char) (r r' : List (Lexeme × List Char))
    (hx : lexSim x x' = true) (h : adm ac ((x, s) :: r) = true) (h' : adm ac' ((x', s') :: r') = true) :
    (tokOf x s).obs = (tokOf x' s').obs := by
  rcases lexSim_cases x x' hx with rfl | ⟨fl, ws1, nm, ws2, ty, vals, ws1', ws2', ty', rfl, rfl, hty⟩
  · exact obs_tokOf_same ac ac' x s s' r r' h h'
  · obtain ⟨hwf, hbs, -, -, -⟩ := adm_cons ac _ s r h
    obtain ⟨hwf', hbs', -, -, -⟩ := adm_cons ac' _ s' r' h'
    simp only [tokOf]
    rw [obs_enum fl ws1 nm ws2 ty vals hwf s hbs, obs_enum fl ws1' nm ws2' ty' vals hwf' s' hbs', hty]

theorem lexSim_refl (x : Lexeme) : lexSim x x = true := by
  cases x with
  | enum fl ws1 nm ws2 ty vals =>
    cases ty with
    | none => simp only [lexSim, beq_self_eq_true, Bool.and_self]
    | some t => simp only [lexSim, beq_self_eq_true, Bool.and_self]
  | _ => exact beq_self_eq_true _

theorem simLexemes_of_same : ∀ (l l' : List (Lexeme × List Char)), sameLexemes l l' → simLexemes l l' = true
  | [], [], _ => rfl
  | [], _ :: _, hs => by cases hs
  | _ :: _, [], hs => by cases hs
  | (x, s) :: r, (x', s') :: r', hs => by
    obtain ⟨rfl, hr⟩ := List.cons.inj hs
    rw [simLexemes, lexSim_refl, simLexemes_of_same r r' hr]
    rfl

theorem toks_obs : ∀ (l l' : List (Lexeme × List Char)) (ac ac' : Bool), adm ac l = true → adm ac' l' = true →
    simLexemes l l' = true → obsOf l = obsOf l'
  | [], [], _, _, _, _, _ => rfl
  | [], _ :: _, _, _, _, _, hs => by cases hs
  | _ :: _, [], _, _, _, _, hs => by cases hs
  | (x, s) :: r, (x', s') :: r', ac, ac', h, h', hs => by
    simp only [simLexemes, Bool.and_eq_true] at hs
    have ih := toks_obs r r' _ _ (adm_cons ac x s r h).2.2.2.2 (adm_cons ac' x' s' r' h').2.2.2.2 hs.2
    rw [obsOf_cons, obsOf_cons, ih, obs_tokOf ac ac' x x' s s' r r' hs.1 h h']

theorem tokOf_eq (x : Lexeme) (s : List Char) :
    tokOf x s = ⟨(tokOf x []).kind, if (tokOf x []).kind.swallows then x.text ++ s else x.text⟩ := by
  cases x <;> rfl

theorem agree_tokOf (x : Lexeme) (s s' : List Char) (hb : blank s = true) (hb' : blank s' = true) :
    TokAgree (tokOf x s) (tokOf x s') := by
  rw [tokOf_eq x s, tokOf_eq x s']
  exact ⟨rfl, fun h => by simp only [h, Bool.false_eq_true, if_false],
    fun h => ⟨x.text, s, s', hb, hb', by simp only [h, if_true], by simp only [h, if_true]⟩⟩

theorem toks_agree : ∀ (l l' : List (Lexeme × List Char)) (ac ac' : Bool), adm ac l = true → adm ac' l' = true →
    sameLexemes l l' → TokensAgree (toks l) (toks l')
  | [], [], _, _, _, _, _ => .nil
  | [], _ :: _, _, _, _, _, hs => by cases hs
  | _ :: _, [], _, _, _, _, hs => by cases hs
  | (x, s) :: r, (x', s') :: r', ac, ac', h, h', hs => by
    obtain ⟨rfl, hr⟩ := List.cons.inj hs
    have a := adm_cons ac x s r h
    have a' := adm_cons ac' x s' r' h'
    exact .cons (agree_tokOf x s s' a.2.1 a'.2.1) (toks_agree r r' _ _ a.2.2.2.2 a'.2.2.2.2 hr)

theorem strip_word (w : List Char) (h : isWordStr w = true) : strip w = w := by
  simp only [isWordStr, Bool.and_eq_true, Bool.not_eq_true', List.isEmpty_eq_false_iff] at h
  obtain ⟨c, t, rfl⟩ := List.exists_cons_of_ne_nil h.1
  have hc : isWs c = false := by
    have := h.2; simp only [List.all_cons, Bool.and_eq_true] at this; exact isWs_of_word c this.1
  simpa using strip_core [] [] c t rfl rfl hc (fun d hd => last_word (c :: t) h.2 d hd)

def stars (pre : List Char) : Nat := pre.count '*'

theorem lstrip_word (w : List Char) (hne : w ≠ []) (hw : w.all isWord = true) : lstrip w = w := by
  obtain ⟨c, w', rfl⟩ := List.exists_cons_of_ne_nil hne
  simp only [List.all_cons, Bool.and_eq_true] at hw
  simp [lstrip, List.dropWhile, isWs_of_word c hw.1]

theorem ptrLoop_word (fuel : Nat) (w : List Char) (d : Nat) (hne : w ≠ []) (hw : w.all isWord = true) :
    ptrLoop fuel w d = (d, w) := by
  obtain ⟨c, w', rfl⟩ := List.exists_cons_of_ne_nil hne
  simp only [List.all_cons, Bool.and_eq_true] at hw
  have hc : c ≠ '*' := ne_of_class hw.1 _ (by decide)
  cases fuel with
  | zero => rfl
  | succ f =>
    unfold ptrLoop
    split
    · rename_i heq; simp at heq; exact absurd heq.1 hc
    · rfl

theorem ptrLoop_pre : ∀ (p w : List Char) (fuel d : Nat), p.all (fun c => c == '*' || isWsA c) = true → w ≠ [] →
    w.all isWord = true → p.length < fuel → ptrLoop fuel (lstrip (p ++ w)) d = (d + stars p, w)
  | [], w, fuel, d, _, hne, hw, _ => by
    simp only [List.nil_append, lstrip_word w hne hw, ptrLoop_word fuel w d hne hw, stars, List.count_nil, Nat.add_zero]
  | c :: p, w, fuel, d, hp, hne, hw, hf => by
    simp only [List.all_cons, Bool.and_eq_true, Bool.or_eq_true, beq_iff_eq] at hp
    rcases hp.1 with rfl | hc
    · cases fuel with
      | zero => simp at hf
      | succ f =>
        have hst : isWs '*' = false := by decide
        have e : lstrip (('*' :: p) ++ w) = '*' :: (p ++ w) := by simp [lstrip, hst]
        rw [e]
        unfold ptrLoop
        simp only
        rw [ptrLoop_pre p w f (d + 1) hp.2 hne hw (by simpa using hf)]
        simp [stars]; omega
    · have e : lstrip ((c :: p) ++ w) = lstrip (p ++ w) := by simp [lstrip, isWs_of_wsA c hc]
      have hcs : c ≠ '*' := ne_of_class hc _ (by decide)
      rw [e, ptrLoop_pre p w fuel d hp.2 hne hw (by simp at hf; omega)]
      simp [stars, hcs]

theorem parseDeclarator_lexeme (pre w : List Char) (bits : Option (List Char × List Char × List Char)) (cnt : Option (List Char))
    (hwf : (Lexeme.name pre w bits cnt).wf = true) :
    parseDeclarator (Lexeme.name pre w bits cnt).text =
      let dims := match cnt with | some c => (splitDims c).map strip | none => []
      if dims.dropLast.any (·.isEmpty) then .error .depthRequired
      else .ok ⟨stars pre, w, dims, bits.map fun t => digitsToNat t.2.2⟩ := by
  have m := matchName_lexeme spOK_U pre w bits cnt hwf [] [] rfl
  simp only [List.append_nil] at m
  simp only [Lexeme.wf, Bool.and_eq_true, isWordStr, Bool.not_eq_true', List.isEmpty_eq_false_iff] at hwf
  obtain ⟨⟨⟨⟨hpre, -⟩, hwne, hw⟩, -⟩, -⟩ := hwf
  have hloop : ptrLoop ((pre ++ w).length + 1) (pre ++ w) 0 = (stars pre, w) := by
    cases pre with
    | nil => simpa [stars] using ptrLoop_word _ w 0 hwne hw
    | cons c p =>
      simp only [preOK, Bool.and_eq_true, beq_iff_eq] at hpre
      obtain ⟨rfl, hp⟩ := hpre
      have := ptrLoop_pre p w (p ++ w).length.succ 1 hp hwne hw (by simp; omega)
      simp only [List.cons_append, List.length_cons]
      unfold ptrLoop
      simp only
      rw [show (p ++ w).length + 1 = (p ++ w).length.succ from rfl, this]
      simp [stars]; omega
  have hstrip : strip w = w := strip_word w (by
    simp only [isWordStr, hw, Bool.and_true, Bool.not_eq_true', List.isEmpty_eq_false_iff]; exact hwne)
  unfold parseDeclarator
  simp only [m, hloop, hstrip, Option.map_map]
  cases cnt <;> rfl

theorem rstrip_append_ws (u b : List Char) (hb : b.all isWs = true) : rstrip (u ++ b) = rstrip u := by
  unfold rstrip rstripBy
  rw [List.reverse_append, List.dropWhile_append_of_pos (List.all_eq_true.mp (by simpa using hb))]

theorem strip_pad (a t b : List Char) (ha : a.all isWs = true) (hb : b.all isWs = true) : strip (a ++ t ++ b) = strip t := by
  unfold strip lstrip
  rw [List.append_assoc, List.dropWhile_append_of_pos (List.all_eq_true.mp ha)]
  by_cases ht : t.all isWs = true
  · have hnil : ∀ (l : List Char), l.all isWs = true → l.dropWhile isWs = [] := fun l hl => by
      have := List.dropWhile_append_of_pos (p := isWs) (l₂ := []) (List.all_eq_true.mp hl)
      simpa using this
    have h1 : (t ++ b).dropWhile isWs = [] := by
      rw [List.dropWhile_append_of_pos (List.all_eq_true.mp ht)]
      exact hnil b hb
    rw [h1, hnil t ht]
  · -- `t` is not all white space, so its `dropWhile` is not empty
    have hne : ¬ (t.dropWhile isWs).isEmpty = true := fun h => ht (by
      rw [← List.takeWhile_append_dropWhile (p := isWs) (l := t), List.isEmpty_iff.mp h, List.append_nil]
      exact List.all_takeWhile)
    rw [List.dropWhile_append, if_neg hne, rstrip_append_ws _ b hb]

theorem splitDims_single : ∀ (l : List Char), (∀ c ∈ l, c ≠ ']') → splitDims l = [l]
  | [], _ => rfl
  | [_], _ => rfl
  | c :: d :: r, h => by
    have hc : c ≠ ']' := h c (by simp)
    have ih := splitDims_single (d :: r) (fun x hx => h x (by simp [hx]))
    simp [splitDims, hc, ih]

theorem dims_pad (a t b : List Char) (ha : blank a = true) (hb : blank b = true) (ht : ∀ c ∈ t, c ≠ ']') :
    (splitDims (a ++ t ++ b)).map strip = (splitDims t).map strip := by
  have hnb : ∀ (s : List Char), blank s = true → ∀ c ∈ s, c ≠ ']' := fun s hs c hc =>
    ne_of_class ((List.all_eq_true.mp hs) c hc) _ (by decide)
  have hall : ∀ c ∈ a ++ t ++ b, c ≠ ']' := by
    intro c hc
    simp only [List.mem_append] at hc
    rcases hc with (h | h) | h
    · exact hnb a ha c h
    · exact ht c h
    · exact hnb b hb c h
  rw [splitDims_single _ hall, splitDims_single t ht]
  simpa [List.append_assoc] using strip_pad a t b (blank_ws a ha) (blank_ws b hb)

/-- words with a non-empty blank string in front of each further word -/
def typeWords (w0 : List Char) : List (List Char × List Char) → List Char
  | [] => w0
  | (sep, w) :: r => w0 ++ sep ++ typeWords w r

theorem splitWordsGo_word : ∀ (w cur rest : List Char), w.all isWord = true →
    splitWordsGo cur (w ++ rest) = splitWordsGo (w.reverse ++ cur) rest
  | [], _, _, _ => rfl
  | c :: w, cur, rest, h => by
    simp only [List.all_cons, Bool.and_eq_true] at h
    simp only [List.cons_append, splitWordsGo, isWs_of_word c h.1, Bool.false_eq_true, if_false]
    rw [splitWordsGo_word w (c :: cur) rest h.2]
    simp

theorem splitWordsGo_blank : ∀ (s rest : List Char), blank s = true → splitWordsGo [] (s ++ rest) = splitWordsGo [] rest
  | [], _, _ => rfl
  | c :: s, rest, h => by
    simp only [blank, List.all_cons, Bool.and_eq_true] at h
    simp only [List.cons_append, splitWordsGo, isWs_of_wsA c h.1, if_true, List.isEmpty_nil]
    exact splitWordsGo_blank s rest (by simpa [blank] using h.2)

theorem splitWords_typeWords : ∀ (more : List (List Char × List Char)) (w0 : List Char), isWordStr w0 = true →
    (∀ p ∈ more, blank p.1 = true ∧ p.1 ≠ [] ∧ isWordStr p.2 = true) →
    splitWords (typeWords w0 more) = w0 :: more.map (·.2)
  | [], w0, h0, _ => by
    simp only [isWordStr, Bool.and_eq_true, Bool.not_eq_true', List.isEmpty_eq_false_iff] at h0
    have := splitWordsGo_word w0 [] [] h0.2
    simp only [List.append_nil] at this
    simp [splitWords, typeWords, this, splitWordsGo, h0.1]
  | (sep, w) :: r, w0, h0, hm => by
    have hp := hm (sep, w) (by simp)
    have ih := splitWords_typeWords r w hp.2.2 (fun p hp' => hm p (by simp [hp']))
    simp only [isWordStr, Bool.and_eq_true, Bool.not_eq_true', List.isEmpty_eq_false_iff] at h0
    obtain ⟨c, s', hs⟩ := List.exists_cons_of_ne_nil hp.2.1
    have hs : sep = c :: s' := hs
    subst hs
    have hb : isWsA c = true ∧ s'.all isWsA = true := by
      have := hp.1
      simpa [blank] using this
    have hc : isWs c = true := isWs_of_wsA c hb.1
    have hs' : blank s' = true := by simpa [blank] using hb.2
    have hne : (w0.reverse ++ []).isEmpty = false := by simp [h0.1]
    simp only [splitWords] at ih ⊢
    simp only [typeWords, List.append_assoc, List.cons_append]
    rw [splitWordsGo_word w0 [] _ h0.2]
    simp only [splitWordsGo, hc, if_true, hne, Bool.false_eq_true, if_false]
    rw [splitWordsGo_blank s' _ hs', ih]
    simp

theorem normType_typeWords (more : List (List Char × List Char)) (w0 : List Char) (h0 : isWordStr w0 = true)
    (hm : ∀ p ∈ more, blank p.1 = true ∧ p.1 ≠ [] ∧ isWordStr p.2 = true) :
    normType (typeWords w0 more) = joinBlank (w0 :: more.map (·.2)) := by
  rw [normType, splitWords_typeWords more w0 h0 hm]

end Cstruct.DefParser.C13
