/-
  Byte masks (`andBytes`), and one bit-field storage unit as reader and writer see it (`Units`): what is loaded, what one
  `put` of a value just taken does to the writer's buffer, what a flush emits.
-/
import Proofs.Spec.C02Bits
import Proofs.Lemmas.CoreSB
namespace Cstruct.C02B.Lemmas
open Cstruct Cstruct.Core Cstruct.Core.Lemmas Cstruct.C06 Cstruct.C06.Lemmas Cstruct.C02B
open Cstruct.C05.Lemmas (encBytes encBytes_length)

theorem u8_and_ff (b : UInt8) : b &&& 0xFF = b := UInt8.and_neg_one

theorem andBytes_nil : andBytes [] [] = [] := rfl

theorem andBytes_length (w m : Bytes) : (andBytes w m).length = min w.length m.length :=
  List.length_zipWith

theorem andBytes_append (w1 w2 m1 m2 : Bytes) (h : w1.length = m1.length) :
    andBytes (w1 ++ w2) (m1 ++ m2) = andBytes w1 m1 ++ andBytes w2 m2 :=
  List.zipWith_append h

theorem andBytes_ff : ∀ (n : Nat) (w : Bytes), w.length = n → andBytes w (List.replicate n 0xFF) = w
  | 0, [], _ => rfl
  | n + 1, b :: r, h => by
    have ih := andBytes_ff n r (by simpa using h)
    unfold andBytes at ih ⊢
    simp only [List.replicate_succ, List.zipWith_cons_cons, ih, u8_and_ff]
  | 0, _ :: _, h => by simp at h
  | _ + 1, [], h => by simp at h

theorem andBytes_nil_left (m : Bytes) : andBytes [] m = [] := List.zipWith_nil_left

theorem andBytes_nil_right (w : Bytes) : andBytes w [] = [] := List.zipWith_nil_right

theorem unitBytes_eq (e : Endian) (n m : Nat) : unitBytes e n m = encBytes e n m := rfl

theorem unitBytes_length (e : Endian) (n m : Nat) : (unitBytes e n m).length = n := encBytes_length e n m

theorem toLE_and : ∀ (n a b : Nat), toLE n (a &&& b) = List.zipWith (· &&& ·) (toLE n a) (toLE n b)
  | 0, _, _ => rfl
  | n + 1, a, b => by
    simp only [toLE, List.zipWith_cons_cons]
    have h1 : (a &&& b) % 256 = (a % 256) &&& (b % 256) := Nat.and_mod_two_pow (n := 8)
    have h2 : (a &&& b) / 256 = (a / 256) &&& (b / 256) := Nat.and_div_two_pow (n := 8)
    rw [h1, h2, UInt8.ofNat_and, toLE_and n]

theorem encBytes_and (e : Endian) (n a b : Nat) :
    encBytes e n (a &&& b) = andBytes (encBytes e n a) (encBytes e n b) := by
  cases e with
  | little => exact toLE_and n a b
  | big =>
    show (toLE n (a &&& b)).reverse = List.zipWith _ (toLE n a).reverse (toLE n b).reverse
    rw [toLE_and, List.reverse_zipWith (by simp [C05.Lemmas.toLE_length])]

theorem unit_and (e : Endian) (ub : Bytes) (fsz M : Nat) (h : ub.length = fsz) :
    encBytes e fsz (decodeNat e ub &&& M) = andBytes ub (unitBytes e fsz M) := by
  subst h
  rw [encBytes_and, C05.Lemmas.encBytes_decodeNat]; rfl

theorem slot_or (F M lo w : Nat) : (F &&& M) ||| (F / 2 ^ lo % 2 ^ w) * 2 ^ lo = F &&& (M ||| slotMask lo w) := by
  apply Nat.eq_of_testBit_eq
  intro i
  simp only [Nat.testBit_or, Nat.testBit_and, slotMask, Nat.testBit_mul_two_pow, Nat.testBit_mod_two_pow,
    Nat.testBit_div_two_pow, Nat.testBit_two_pow_sub_one]
  by_cases h1 : lo ≤ i
  · by_cases h2 : i - lo < w
    · have : i - lo + lo = i := by omega
      simp only [h1, h2, this, decide_true, Bool.true_and]
      cases F.testBit i <;> simp
    · simp [h1, h2]
  · simp [h1]

/-- the value put is the slot of `F` the reader just took: afterwards the writer holds `F &&& (M ||| slot)` -/
theorem put_mask (e : Endian) (fsz k w F M : Nat) (bb : BitBuf) (hrem : bb.remaining = 8 * fsz - k)
    (hbuf : bb.buffer = ((F &&& M : Nat) : Int)) (hkw : k + w ≤ 8 * fsz) :
    bb.put e fsz ((F / 2 ^ (slotLo e (8 * fsz) k w) % 2 ^ w : Nat) : Int) w =
      some { bb with buffer := ((F &&& (M ||| slotMask (slotLo e (8 * fsz) k w) w) : Nat) : Int),
                     remaining := 8 * fsz - (k + w) } := by
  have hnot : ¬ (w > bb.remaining) := by rw [hrem]; exact Nat.not_lt.mpr (Nat.le_sub_of_add_le' hkw)
  have hlt : F / 2 ^ (slotLo e (8 * fsz) k w) % 2 ^ w < 2 ^ w := Nat.mod_lt _ (Nat.two_pow_pos w)
  generalize hm : F / 2 ^ (slotLo e (8 * fsz) k w) % 2 ^ w = m at hlt
  have hrange : ¬ ((m : Int) < 0 ∨ (m : Int) ≥ shl 1 w) := by
    unfold shl
    have h1 : ((m : Nat) : Int) < ((2 ^ w : Nat) : Int) := Int.ofNat_lt.mpr hlt
    omega
  have hr2 : bb.remaining - w = 8 * fsz - (k + w) := by rw [hrem, Nat.sub_sub]
  cases e with
  | little =>
    have hs : fsz * 8 - bb.remaining = k := by
      rw [hrem, Nat.mul_comm]; exact Nat.sub_sub_self (Nat.le_trans (Nat.le_add_right k w) hkw)
    simp only [BitBuf.put, if_neg hnot, if_neg hrange, hs, hbuf, shl_nat, lor_nat, hr2]
    simp only [slotLo] at hm ⊢
    rw [← hm, slot_or]
  | big =>
    have hs : 8 * fsz - (k + w) = 8 * fsz - k - w := (Nat.sub_sub ..).symm
    simp only [BitBuf.put, if_neg hnot, if_neg hrange, hbuf, shl_nat, lor_nat, hr2]
    simp only [slotLo] at hm ⊢
    rw [← hm, ← hs, slot_or]

theorem hasTysB_bitVal {cfg : Cfg} {name an} {ty : Ty} {b : Nat} {r : Fields} {vs : Vals} (hok : ty.bitOk = true) (v : Int)
    (h0 : 0 ≤ v) (h1 : v < 2 ^ (b + 1)) (hvs : HasTysB cfg vs r) :
    HasTysB cfg (.cons (bitVal ty v) vs) (.cons name an ty (some (b + 1)) r) := by
  cases ty with
  | sc s a => exact .bitsInt h0 h1 hvs
  | enum s a f => exact .bitsEnum h0 h1 hvs
  | ptr _ => simp [Ty.bitOk] at hok
  | arr _ _ => simp [Ty.bitOk] at hok
  | struct _ _ => simp [Ty.bitOk] at hok
  | union _ _ => simp [Ty.bitOk] at hok

theorem andBytes_zeros : ∀ (n : Nat) (w : Bytes), w.length = n → andBytes w (zeros n) = zeros n
  | 0, [], _ => rfl
  | n + 1, b :: r, h => by
    have ih := andBytes_zeros n r (by simpa using h)
    unfold andBytes zeros at ih ⊢
    simp only [List.replicate_succ, List.zipWith_cons_cons, ih, UInt8.and_zero]
  | 0, _ :: _, h => by simp at h
  | _ + 1, [], h => by simp at h

theorem andBytes_getElem (w m : Bytes) (i : Nat) (h1 : i < (andBytes w m).length) (h2 : i < w.length) (h3 : i < m.length) :
    (andBytes w m)[i] = w[i] &&& m[i] :=
  List.getElem_zipWith

theorem andBytes_window (d : Bytes) (pos p n : Nat) (pm m : Bytes) (hp : pm.length = p) (hlen : pos + p ≤ d.length) :
    andBytes (sread d pos (p + n)) (pm ++ m) = andBytes (sread d pos p) pm ++ andBytes (sread d (pos + p) n) m := by
  rw [sread_add, andBytes_append _ _ _ _ (by rw [sread_length_of_le d pos p hlen, hp])]

/-- the writer's output for a window: a first part under `pm`, then what it emits for the rest -/
theorem window_prefix {d : Bytes} {pos p n : Nat} {pm m out fl : Bytes} (hp : pm.length = p) (hl : pos + p ≤ d.length)
    (h : out ++ fl = andBytes (sread d (pos + p) n) m) :
    andBytes (sread d pos p) pm ++ out ++ fl = andBytes (sread d pos (p + n)) (pm ++ m) := by
  rw [andBytes_window d pos p n pm m hp hl, List.append_assoc, h]

theorem window_pad {d : Bytes} {pos p n : Nat} {m out fl : Bytes} (hl : pos + p ≤ d.length)
    (h : out ++ fl = andBytes (sread d (pos + p) n) m) :
    zeros p ++ out ++ fl = andBytes (sread d pos (p + n)) (zeros p ++ m) := by
  rw [← window_prefix (length_zeros p) hl h, andBytes_zeros p _ (sread_length_of_le d pos p hl)]

theorem andBytes_window_length (d : Bytes) (pos n : Nat) (m : Bytes) (hm : m.length = n) (hlen : pos + n ≤ d.length) :
    (andBytes (sread d pos n) m).length = n := by
  rw [andBytes_length, sread_length_of_le d pos n hlen, hm, Nat.min_self]

/-- Inside a run of bit-fields that share the `fsz`-byte unit at `pos` of the input `d`, after `k` bits: the reader holds
    the unit as loaded — `U`, negative for a signed storage type, with `U mod 2^(8·fsz) = F`, the unsigned value of the
    unit's bytes — and the writer, which has emitted nothing for the unit yet, holds `F &&& M`, where `M` is the mask of
    the fields handed out so far. -/
structure Units (cfg : Cfg) (d : Bytes) (pos : Nat) (ft : Scalar) (fsz k M : Nat) (bbR bbW : BitBuf) : Prop where
  rty : bbR.ty = some ft
  rinv : ∃ U : Int, U % ((2 ^ (8 * fsz) : Nat) : Int) = (decodeNat cfg.endian (sread d pos fsz) : Int) ∧
    ReadInv cfg.endian (8 * fsz) U k bbR
  wty : bbW.ty = some ft
  wrem : bbW.remaining = 8 * fsz - k
  wbuf : bbW.buffer = ((decodeNat cfg.endian (sread d pos fsz) &&& M : Nat) : Int)

theorem loadUnit_units (cfg : Cfg) (ft : Scalar) (hi : Scalar.isInt ft = true) (fsz : Nat) (hsz : ft.size = some fsz)
    (d : Bytes) (pos : Nat) (hlen : pos + fsz ≤ d.length) (bbR : BitBuf) (hc : bbR.remaining = 0 ∨ bbR.ty ≠ some ft) :
    ∃ bbR1, loadUnit cfg ft bbR d pos = .ok (bbR1, pos + fsz) ∧
      Units cfg d pos ft fsz 0 0 bbR1 { ty := some ft, buffer := 0, remaining := fsz * 8 } := by
  have hl := sread_length_of_le d pos fsz hlen
  have h8 : fsz * 8 = 8 * fsz := Nat.mul_comm _ _
  have key : ∀ sg, readScalar cfg ft d pos = .ok (.int (decodeInt cfg.endian sg (sread d pos fsz)), pos + fsz) →
      ∃ bbR1, loadUnit cfg ft bbR d pos = .ok (bbR1, pos + fsz) ∧
        Units cfg d pos ft fsz 0 0 bbR1 { ty := some ft, buffer := 0, remaining := fsz * 8 } := fun sg hU => by
    have hUF := C05.Lemmas.decodeInt_emod cfg.endian sg (sread d pos fsz)
    rw [hl] at hUF
    refine ⟨{ ty := some ft, buffer := decodeInt cfg.endian sg (sread d pos fsz), remaining := fsz * 8 },
      by simp only [loadUnit, hc, if_true, hsz, hU, unitInt], rfl, ⟨_, hUF, ?_⟩, rfl, by rw [h8, Nat.sub_zero],
      by rw [Nat.and_zero]; rfl⟩
    rw [h8]; exact readInv_init _ _ _ _
  cases ft with
  | pint n sg =>
    cases hsz
    exact key sg (by simp only [readScalar, bind, pure, readExact_of_le d pos _ hlen, Except.bind, Except.pure])
  | aint n sg =>
    cases hsz
    exact key sg (by simp only [readScalar, bind, pure, readExact_of_le d pos _ hlen, Except.bind, Except.pure])
  | pflt n => cases hi
  | char => cases hi
  | wchar => cases hi
  | leb sg => cases hi
  | void => cases hi

namespace Units

theorem busy {cfg : Cfg} {d pos ft fsz k M bbR bbW} (h : Units cfg d pos ft fsz k M bbR bbW) (hk : k < 8 * fsz) :
    (∀ p, loadUnit cfg ft bbR d p = .ok (bbR, p)) ∧ bbW.remaining ≠ 0 := by
  obtain ⟨hRty, ⟨U, _, hR⟩, _, hWrem, _⟩ := h
  refine ⟨fun p => ?_, by omega⟩
  have hc : ¬ (bbR.remaining = 0 ∨ bbR.ty ≠ some ft) := by rw [hR.2.1, hRty]; simp; omega
  simp only [loadUnit, hc, if_false]

theorem step {cfg : Cfg} {d pos ft fsz k M bbR bbW} (h : Units cfg d pos ft fsz k M bbR bbW) (w : Nat)
    (hkw : k + w ≤ 8 * fsz) :
    ∃ v bbR2 bbW2, bbR.take cfg.endian w = some (v, bbR2) ∧ 0 ≤ v ∧ v < 2 ^ w ∧
      bbW.put cfg.endian fsz v w = some bbW2 ∧
      Units cfg d pos ft fsz (k + w) (M ||| slotMask (slotLo cfg.endian (8 * fsz) k w) w) bbR2 bbW2 := by
  obtain ⟨hRty, ⟨U, hUF, hR⟩, hWty, hWrem, hWbuf⟩ := h
  obtain ⟨bbR2, ht, hR2, h0, h1⟩ := take_step cfg.endian (8 * fsz) k w U bbR hR hkw
  -- the value taken depends on `U` modulo `2^(8·fsz)` only: it is the slot of `F` the writer puts back
  rw [← slotVal_emod U (8 * fsz) _ w (slotLo_le cfg.endian (8 * fsz) k w hkw), hUF] at ht h0 h1
  have hput := put_mask cfg.endian fsz k w _ M bbW hWrem hWbuf hkw
  exact ⟨_, bbR2, _, ht, h0, h1, hput, by rw [take_ty ht, hRty], ⟨U, hUF, hR2⟩, hWty, rfl, rfl⟩

theorem flush {cfg : Cfg} {d pos ft fsz k M bbR bbW} (h : Units cfg d pos ft fsz k M bbR bbW)
    (hsz : ft.size = some fsz) (hlen : pos + fsz ≤ d.length) :
    flushBits cfg bbW = .ok (andBytes (sread d pos fsz) (unitBytes cfg.endian fsz M)) := by
  have hl := sread_length_of_le d pos fsz hlen
  have hF := C05.Lemmas.decodeNat_lt cfg.endian (sread d pos fsz)
  rw [hl] at hF
  rw [← unit_and cfg.endian _ fsz M hl]
  exact flush_nat cfg ft fsz _ bbW h.wty hsz h.wbuf (Nat.lt_of_le_of_lt Nat.and_le_left hF)

end Units

end Cstruct.C02B.Lemmas
