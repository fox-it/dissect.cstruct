/-
  C13, round trip — the handlers on the observed tokens of rendered declarations: the member loop, `_parse_field` and `_struct`
  on rendered aggregates (`handlers_render`), the enum member splitting (`enumMembers_render`), one iteration of the loop of
  `parse` (`declH_oD`) and the whole loop (`declsH_oDs`).
-/
import Proofs.Lemmas.C13Frame
import Proofs.Lemmas.C13RenderInd
import Proofs.Lemmas.C13RenderLex

namespace Cstruct.DefParser.C13
open Cstruct.DefParser

/-- the observed tokens of a rendered tag, type, nested aggregate, member, member list (`obs_render`: they are `obsOf` of `lexT` … `lexFs`) -/
def tagTok : Option (List Char) → List OTok
  | some t => [.ident t]
  | none => []

mutual
def oT : TypeRef → List OTok
  | .none => []
  | .name n => (typeWordsOf n).map .ident
  | .structRef t => [.struct false, .ident t]
  | .inline a => oA a
def oA : Aggr → List OTok
  | .mk u tag fs _ => .struct u :: tagTok tag ++ .block false :: oFs fs ++ [.block true]
def oF : FieldDecl → List OTok
  | .anon t => oT t ++ [.eol]
  | .named t d => oT t ++ [.name (declrLex d).text (.ok d), .eol]
def oFs : List FieldDecl → List OTok
  | [] => []
  | f :: r => oF f ++ oFs r
end

-- a step budget that suffices for the handlers on `oT` … `oFs` (`handlers_render`)
mutual
def szT : TypeRef → Nat
  | .inline a => szA a + 1
  | _ => 2
def szA : Aggr → Nat
  | .mk _ _ fs _ => szFs fs + 2
def szF : FieldDecl → Nat
  | .anon t => szT t + 1
  | .named t _ => szT t + 1
def szFs : List FieldDecl → Nat
  | [] => 1
  | f :: r => szF f + szFs r + 1
end

/-- what may follow a member without declarator: no NAME token (`_parse_field` would take it as the declarator) -/
def notName : List OTok → Bool
  | .name _ _ :: _ => false
  | _ => true

theorem identifier_idents : ∀ (w : List Char) (ws : List (List Char)) (rest : List OTok), (∀ v r, rest ≠ .ident v :: r) →
    identifier ((w :: ws).map .ident ++ rest) = (joinBlank (w :: ws), rest)
  | w, [], rest, h => by
    cases rest with
    | nil => simp [identifier, joinBlank]
    | cons t r =>
      cases t with
      | ident v => exact absurd rfl (h v r)
      | _ => simp [identifier, joinBlank]
  | w, v :: ws, rest, h => by
    have ih := identifier_idents v ws rest h
    simp only [List.map_cons, List.cons_append] at ih ⊢
    simp [identifier, ih, joinBlank]

theorem joinBlank_split : ∀ (l : List Char), joinBlank (splitOn1 ' ' l) = l
  | [] => by simp [splitOn1, joinBlank]
  | c :: r => by
    have ih := joinBlank_split r
    simp only [splitOn1]
    cases hs : splitOn1 ' ' r with
    | nil => simp [hs, joinBlank] at ih ⊢; exact absurd ih.symm (by
        intro e; subst e; simp [splitOn1] at hs)
    | cons h t =>
      rw [hs] at ih
      by_cases hc : c = ' '
      · subst hc; simp [joinBlank, ih]
      · simp only [hc, if_false]
        cases t with
        | nil => simp [joinBlank] at ih ⊢; exact ih
        | cons t1 t2 => simp [joinBlank] at ih ⊢; exact ih

theorem fieldTail_named (ty : TypeRef) (ws : Bool) (txt : List Char) (d : Declarator) (rest : List OTok) :
    fieldTail ty ws (.name txt (.ok d) :: .eol :: rest) = .ok (.named ty d, rest) := by
  simp [fieldTail, eol]

theorem fieldTail_anon (ty : TypeRef) (rest : List OTok) (h : notName rest = true) :
    fieldTail ty true rest = .ok (.anon ty, rest) := by
  cases rest with
  | nil => simp [fieldTail]
  | cons t r =>
    cases t with
    | name s d => cases h
    | _ => rfl

theorem oT_head (t : TypeRef) (h : wfT t = true) : ∃ x r, oT t = x :: r ∧ ((∃ v, x = .ident v) ∨ (∃ u, x = .struct u)) := by
  cases t with
  | none => simp [wfT] at h
  | name n =>
    obtain ⟨w, ws, hw⟩ := List.exists_cons_of_ne_nil (typeWordsOf_ne_nil n)
    exact ⟨.ident w, ws.map .ident, by simp [oT, hw], .inl ⟨w, rfl⟩⟩
  | structRef t => exact ⟨_, _, rfl, .inr ⟨false, rfl⟩⟩
  | inline a => obtain ⟨u, tag, fs, ns⟩ := a; exact ⟨_, _, rfl, .inr ⟨u, rfl⟩⟩

theorem oF_head (f : FieldDecl) (h : wfF f = true) : ∃ x r, oF f = x :: r ∧ ((∃ v, x = .ident v) ∨ (∃ u, x = .struct u)) := by
  cases f with
  | anon t =>
    simp only [wfF, Bool.and_eq_true] at h
    obtain ⟨x, r, e, hx⟩ := oT_head t h.2
    exact ⟨x, r ++ [.eol], by simp [oF, e], hx⟩
  | named t d =>
    simp only [wfF, Bool.and_eq_true] at h
    obtain ⟨x, r, e, hx⟩ := oT_head t h.1
    exact ⟨x, r ++ [.name (declrLex d).text (.ok d), .eol], by simp [oF, e], hx⟩

/-- `declH` and `typedefH` run `_struct` with a budget of four times the number of tokens: twice is enough -/
theorem sz_le : (∀ t, wfT t = true → szT t ≤ 2 * (oT t).length) ∧ (∀ a, wfA false a = true → szA a + 1 ≤ 2 * (oA a).length) ∧
    (∀ f, wfF f = true → szF f + 1 ≤ 2 * (oF f).length) ∧ (∀ fs, wfFs fs = true → szFs fs ≤ 2 * (oFs fs).length + 1) := by
  refine wf_induct (fun n _ => ?_) (fun t _ => ?_) (fun a _ ih => ?_) (fun u tag fs _ _ ih => ?_) (fun a _ ih => ?_)
    (fun t d _ _ ih => ?_) ?_ (fun f fs _ _ i1 i2 => ?_)
  · obtain ⟨w, ws, hw⟩ := List.exists_cons_of_ne_nil (typeWordsOf_ne_nil n)
    simp only [szT, oT, hw, List.map_cons, List.length_cons]; omega
  · simp only [szT, oT, List.length_cons, List.length_nil]; omega
  · simp only [szT, oT]; omega
  · simp only [szA, oA, List.length_cons, List.length_append, List.length_nil]; omega
  · simp only [szF, szT, oF, oT, List.length_append, List.length_cons, List.length_nil] at ih ⊢; omega
  · simp only [szF, oF, List.length_append, List.length_cons, List.length_nil]; omega
  · simp only [szFs, oFs, List.length_nil]; omega
  · simp only [szFs, oFs, List.length_append]; omega

theorem szT_le : ∀ (t : TypeRef), wfT t = true → szT t ≤ 2 * (oT t).length := sz_le.1

theorem szA_le : ∀ (a : Aggr), wfA false a = true → szA a + 1 ≤ 2 * (oA a).length := sz_le.2.1

theorem szF_le : ∀ (f : FieldDecl), wfF f = true → szF f + 1 ≤ 2 * (oF f).length := sz_le.2.2.1

theorem szFs_le : ∀ (fs : List FieldDecl), wfFs fs = true → szFs fs ≤ 2 * (oFs fs).length + 1 := sz_le.2.2.2

theorem fieldsH_member (g : Nat) (x : OTok) (toks : List OTok) (hx : (∃ v, x = .ident v) ∨ (∃ u, x = .struct u)) :
    fieldsH (g + 1) (x :: toks) = match fieldH g (x :: toks) with
      | .error e => .error e
      | .ok (fd, t1) => match fieldsH g t1 with
        | .error e => .error e
        | .ok (fs, t2) => .ok (fd :: fs, t2) := by
  rcases hx with ⟨v, rfl⟩ | ⟨u, rfl⟩ <;> rfl

theorem structH_body (g : Nat) (reg u : Bool) (tag : Option (List Char)) (fs : List FieldDecl) (X rest : List OTok) (res : TypeRef)
    (hfs : fieldsH g (oFs fs ++ .block true :: X) = .ok (fs, X)) (hend : structEnd reg u tag fs X = .ok (res, rest)) :
    structH (g + 2) reg (.struct u :: (tagTok tag ++ .block false :: (oFs fs ++ .block true :: X))) = .ok (res, rest) := by
  cases tag <;> simp only [tagTok, List.cons_append, List.nil_append, structH, structTail, hfs, hend]

theorem handlers_render :
    (∀ t, wfT t = true → ∀ (fuel : Nat) (d : Declarator) (rest : List OTok), szT t + 1 ≤ fuel →
      fieldH fuel (oT t ++ .name (declrLex d).text (.ok d) :: .eol :: rest) = .ok (.named t d, rest)) ∧
    (∀ a, wfA false a = true → ∀ (fuel : Nat) (rest : List OTok), szA a ≤ fuel →
      structH fuel false (oA a ++ rest) = .ok (.inline a, dropEol rest)) ∧
    (∀ f, wfF f = true → ∀ (fuel : Nat) (rest : List OTok), szF f ≤ fuel → notName rest = true →
      fieldH fuel (oF f ++ rest) = .ok (f, rest)) ∧
    (∀ fs, wfFs fs = true → ∀ (fuel : Nat) (rest : List OTok), szFs fs ≤ fuel →
      fieldsH fuel (oFs fs ++ .block true :: rest) = .ok (fs, rest)) := by
  refine wf_induct (fun n _ fuel d rest hf => ?_) (fun t _ fuel d rest hf => ?_) (fun a _ ih fuel d rest hf => ?_)
    (fun u tag fs _ _ ih fuel rest hf => ?_) (fun a _ ih fuel rest hf hn => ?_) (fun t d _ _ ih fuel rest hf _ => ?_)
    (fun fuel rest hf => ?_) (fun f fs hwf hwfs i1 i2 fuel rest hf => ?_)
  · obtain ⟨g, rfl⟩ : ∃ g, fuel = g + 1 := ⟨fuel - 1, by omega⟩
    obtain ⟨w, ws, hw⟩ := List.exists_cons_of_ne_nil (typeWordsOf_ne_nil n)
    have hid := identifier_idents w ws (.name (declrLex d).text (.ok d) :: .eol :: rest) (by intro v r e; cases e)
    have hj : joinBlank (w :: ws) = n := by rw [← hw]; exact joinBlank_split n
    simp only [oT, hw, List.map_cons, List.cons_append] at hid ⊢
    simp only [fieldH, hid, hj]
    exact fieldTail_named _ _ _ _ _
  · obtain ⟨g, rfl⟩ : ∃ g, fuel = g + 3 := ⟨fuel - 3, by simp only [szT] at hf; omega⟩
    simp only [oT, List.cons_append, List.nil_append, fieldH, structH, structTail]
    exact fieldTail_named _ _ _ _ _
  · obtain ⟨g, rfl⟩ : ∃ g, fuel = g + 1 := ⟨fuel - 1, by omega⟩
    have hs := ih g (.name (declrLex d).text (.ok d) :: .eol :: rest) (by simp only [szT] at hf; omega)
    obtain ⟨u, tag, fs, ns⟩ := a
    simp only [oA, List.cons_append, List.append_assoc, List.nil_append] at hs
    simp only [oT, oA, List.cons_append, List.append_assoc, List.nil_append, fieldH, hs, dropEol]
    exact fieldTail_named _ _ _ _ _
  · obtain ⟨g, rfl⟩ : ∃ g, fuel = g + 2 := ⟨fuel - 2, by simp only [szA] at hf; omega⟩
    have hend : structEnd false u tag fs rest = .ok (.inline (.mk u tag fs []), dropEol rest) := by rw [structEnd_eq]; rfl
    simpa only [oA, List.cons_append, List.append_assoc, List.nil_append]
      using structH_body g false u tag fs rest _ _ (ih g rest (by simp only [szA] at hf; omega)) hend
  · obtain ⟨g, rfl⟩ : ∃ g, fuel = g + 1 := ⟨fuel - 1, by simp only [szF, szT] at hf; omega⟩
    have hs := ih g (.eol :: rest) (by simp only [szF, szT] at hf; omega)
    obtain ⟨u, tag, fs, ns⟩ := a
    simp only [oA, List.cons_append, List.append_assoc, List.nil_append] at hs
    simp only [oF, oT, oA, List.cons_append, List.append_assoc, List.nil_append, fieldH, hs, dropEol]
    exact fieldTail_anon _ rest hn
  · rw [oF, List.append_assoc]
    exact ih fuel d rest (by simp only [szF] at hf; omega)
  · obtain ⟨g, rfl⟩ : ∃ g, fuel = g + 1 := ⟨fuel - 1, by simp only [szFs] at hf; omega⟩
    rfl
  · obtain ⟨g, rfl⟩ : ∃ g, fuel = g + 1 := ⟨fuel - 1, by simp only [szFs] at hf; omega⟩
    simp only [szFs] at hf
    -- what follows the member is no declarator: another member, or `}`
    have hcont : notName (oFs fs ++ .block true :: rest) = true := by
      cases fs with
      | nil => rfl
      | cons f2 r2 =>
        obtain ⟨x, rr, e, hx⟩ := oF_head f2 (by simp only [wfFs, Bool.and_eq_true] at hwfs; exact hwfs.1)
        rw [oFs, e]
        rcases hx with ⟨v, rfl⟩ | ⟨u, rfl⟩ <;> rfl
    obtain ⟨x, rr, e, hx⟩ := oF_head f hwf
    rw [oFs, List.append_assoc, e, List.cons_append, fieldsH_member g x _ hx, ← List.cons_append, ← e,
      i1 g _ (by omega) hcont]
    simp only [i2 g rest (by omega)]

theorem structH_oA : ∀ (a : Aggr), wfA false a = true → ∀ (fuel : Nat) (rest : List OTok), szA a ≤ fuel →
    structH fuel false (oA a ++ rest) = .ok (.inline a, dropEol rest) := handlers_render.2.1

theorem fieldsH_oFs : ∀ (fs : List FieldDecl), wfFs fs = true → ∀ (fuel : Nat) (rest : List OTok), szFs fs ≤ fuel →
    fieldsH fuel (oFs fs ++ .block true :: rest) = .ok (fs, rest) := handlers_render.2.2.2

theorem fieldH_oF : ∀ (f : FieldDecl), wfF f = true → ∀ (fuel : Nat) (rest : List OTok), szF f ≤ fuel → notName rest = true →
    fieldH fuel (oF f ++ rest) = .ok (f, rest) := handlers_render.2.2.1

/-- the tokens of the names behind `}` -/
def oNames : List (List Char) → List OTok
  | [] => []
  | [n] => [.name n (parseDeclarator n)]
  | n :: r => [.defs (n :: r)]

theorem names_oNames (ns : List (List Char)) (rest : List OTok) : names (oNames ns ++ .eol :: rest) = (ns, rest) := by
  match ns with
  | [] => simp [oNames, names]
  | [n] => simp [oNames, names]
  | n :: m :: r => simp [oNames, names]

/-- the tokens of a rendered declaration -/
def oD : Decl → List OTok
  | .config vs => [.config (some ⟨joinComma vs⟩)]
  | .const n v => [.define (some ⟨n, v⟩)]
  | .enum fl n b ms => [.enum (some ⟨fl, if n.isEmpty then none else some n, some b, ' ' :: membersText ms⟩), .eol]
  | .typedef t ds => .typedef :: oT t ++ ds.map (fun d => .name (declrLex d).text (.ok d)) ++ [.eol]
  | .aggr (.mk u tag fs ns) => .struct u :: tagTok tag ++ .block false :: oFs fs ++ [.block true] ++ oNames ns ++ [.eol]
  | .lookup _ _ => []

/-- the continuation behind a declaration: nothing, or something that is no `;` -/
def notEolHead : List OTok → Bool
  | .eol :: _ => false
  | _ => true

theorem dropEol_of (rest : List OTok) (h : notEolHead rest = true) : dropEol rest = rest := by
  cases rest with
  | nil => rfl
  | cons t r =>
    cases t with
    | eol => cases h
    | _ => rfl

theorem splitOn1_single (sep : Char) : ∀ (l : List Char), (∀ c ∈ l, c ≠ sep) → splitOn1 sep l = [l]
  | [], _ => rfl
  | c :: r, h => by
    have ih := splitOn1_single sep r (fun x hx => h x (by simp [hx]))
    simp [splitOn1, ih, h c (by simp)]

theorem splitOn1_cons (sep : Char) : ∀ (x y : List Char), (∀ c ∈ x, c ≠ sep) → splitOn1 sep (x ++ sep :: y) = x :: splitOn1 sep y
  | [], y, _ => by
    simp only [List.nil_append, splitOn1]
    cases h : splitOn1 sep y with
    | nil => exact absurd h (splitOn1_ne_nil sep y)
    | cons a b => simp
  | c :: x, y, h => by
    have ih := splitOn1_cons sep x y (fun z hz => h z (by simp [hz]))
    simp [splitOn1, ih, h c (by simp)]

theorem splitOn1_joinComma : ∀ (vs : List (List Char)), vs ≠ [] → (∀ v ∈ vs, ∀ c ∈ v, c ≠ ',') → splitOn1 ',' (joinComma vs) = vs
  | [], h, _ => absurd rfl h
  | [v], _, h => splitOn1_single ',' v (h v (by simp))
  | v :: w :: r, _, h => by
    simp only [joinComma]
    rw [splitOn1_cons ',' v _ (h v (by simp)), splitOn1_joinComma (w :: r) (by simp) (fun x hx => h x (by simp [hx]))]

theorem splitLinesGo_plain : ∀ (l cur : List Char), (∀ c ∈ l, isLineBreak c = false) → cur ≠ [] ∨ l ≠ [] →
    splitLinesGo cur false l = [cur.reverse ++ l]
  | [], cur, _, h => by
    have : cur ≠ [] := by rcases h with h | h; exact h; exact absurd rfl h
    simp [splitLinesGo, this]
  | c :: r, cur, hl, _ => by
    have hc := hl c (by simp)
    have ih := splitLinesGo_plain r (c :: cur) (fun x hx => hl x (by simp [hx])) (.inl (by simp))
    simp [splitLinesGo, hc, ih]

theorem partitionEq_plain : ∀ (l : List Char), (∀ c ∈ l, c ≠ '=') → partitionEq l = (l, [])
  | [], _ => rfl
  | c :: r, h => by
    have ih := partitionEq_plain r (fun x hx => h x (by simp [hx]))
    simp [partitionEq, h c (by simp), ih]

theorem partitionEq_at : ∀ (x y : List Char), (∀ c ∈ x, c ≠ '=') → partitionEq (x ++ '=' :: y) = (x, y)
  | [], y, _ => by simp [partitionEq]
  | c :: x, y, h => by
    have ih := partitionEq_at x y (fun z hz => h z (by simp [hz]))
    simp [partitionEq, h c (by simp), ih]

/-- one `key [= value]` piece of an enum body -/
def enumPiece (v : List Char) : Option (List Char × Option (List Char)) :=
  let key := strip (partitionEq v).1
  let val := strip (partitionEq v).2
  if key.isEmpty then none else some (key, if val.isEmpty then none else some val)

theorem enumMembers_eq (values : List Char) :
    enumMembers values = (splitLines values).flatMap fun line => (splitOn1 ',' line).filterMap enumPiece := by
  unfold enumMembers enumPiece
  rfl

structure MemberOK (m : List Char × Option (List Char)) : Prop where
  kne : m.1 ≠ []
  kstrip : strip m.1 = m.1
  kchars : ∀ c ∈ m.1, c ≠ ',' ∧ c ≠ '=' ∧ isLineBreak c = false
  vok : ∀ v, m.2 = some v → v ≠ [] ∧ strip v = v ∧ ∀ c ∈ v, c ≠ ',' ∧ isLineBreak c = false

theorem memberOK_of (m : List Char × Option (List Char)) (h : memberWF m = true) : MemberOK m := by
  obtain ⟨k, v⟩ := m
  simp only [memberWF, Bool.and_eq_true, Bool.not_eq_true', List.isEmpty_eq_false_iff, beq_iff_eq, List.all_eq_true, bne_iff_ne, ne_eq] at h
  obtain ⟨⟨⟨⟨⟨hkne, hks⟩, -⟩, hkc⟩, hke⟩, hv⟩ := h
  refine ⟨hkne, hks, fun c hc => ⟨(hkc c hc).1.1, hke c hc, (hkc c hc).2⟩, ?_⟩
  intro v' hv'
  simp only at hv'
  subst hv'
  simp only [Bool.and_eq_true, Bool.not_eq_true', List.isEmpty_eq_false_iff, beq_iff_eq, List.all_eq_true, bne_iff_ne, ne_eq] at hv
  exact ⟨hv.1.1.1, hv.1.1.2, fun c hc => ⟨(hv.2 c hc).1.1, (hv.2 c hc).2⟩⟩

theorem enumPiece_member (m : List Char × Option (List Char)) (h : MemberOK m) (tail : List Char) (ht : tail = [] ∨ tail = [' ']) :
    enumPiece (' ' :: memberText m ++ tail) = some m := by
  obtain ⟨k, v⟩ := m
  have hb1 : ([' '] : List Char).all isWs = true := by decide
  have htb : tail.all isWs = true := by rcases ht with rfl | rfl <;> decide
  have hkne : k ≠ [] := h.kne
  have hks : strip k = k := h.kstrip
  have hse : strip ([] : List Char) = [] := by decide
  cases v with
  | none =>
    have hpe : partitionEq (' ' :: k ++ tail) = (' ' :: k ++ tail, []) :=
      partitionEq_plain _ (by
        intro c hc
        simp only [List.cons_append, List.mem_cons, List.mem_append] at hc
        rcases hc with rfl | hc | hc
        · decide
        · exact (h.kchars c hc).2.1
        · rcases ht with rfl | rfl
          · simp at hc
          · simp at hc; subst hc; decide)
    have hs : strip (' ' :: k ++ tail) = k := by
      have := strip_pad [' '] k tail hb1 htb
      simpa [hks] using this
    show enumPiece (' ' :: k ++ tail) = some (k, none)
    unfold enumPiece
    simp only [hpe, hs, hse]
    simp [hkne]
  | some v =>
    obtain ⟨hvne, hvs, hvc⟩ := h.vok v rfl
    have e : ' ' :: memberText (k, some v) ++ tail = (' ' :: k ++ [' ']) ++ '=' :: (' ' :: v ++ tail) := by simp [memberText]
    have hpe : partitionEq ((' ' :: k ++ [' ']) ++ '=' :: (' ' :: v ++ tail)) = (' ' :: k ++ [' '], ' ' :: v ++ tail) :=
      partitionEq_at _ _ (by
        intro c hc
        simp only [List.cons_append, List.mem_cons, List.mem_append, List.mem_nil_iff, or_false] at hc
        rcases hc with rfl | hc | rfl
        · decide
        · exact (h.kchars c hc).2.1
        · decide)
    have hs1 : strip (' ' :: k ++ [' ']) = k := by
      have := strip_pad [' '] k [' '] hb1 hb1
      simpa [hks] using this
    have hs2 : strip (' ' :: v ++ tail) = v := by
      have := strip_pad [' '] v tail hb1 htb
      simpa [hvs] using this
    rw [e]
    unfold enumPiece
    simp only [hpe, hs1, hs2]
    simp [hkne, hvne]

theorem memberText_nocomma (m : List Char × Option (List Char)) (h : MemberOK m) : ∀ c ∈ ' ' :: memberText m, c ≠ ',' := by
  obtain ⟨k, v⟩ := m
  intro c hc
  cases v with
  | none =>
    simp only [memberText, List.mem_cons] at hc
    rcases hc with rfl | hc
    · decide
    · exact (h.kchars c hc).1
  | some v =>
    simp only [memberText, List.mem_cons, List.mem_append] at hc
    rcases hc with rfl | hc | rfl | rfl | rfl | hc
    · decide
    · exact (h.kchars c hc).1
    · decide
    · decide
    · decide
    · exact ((h.vok v rfl).2.2 c hc).1

theorem pieces_members : ∀ (ms : List (List Char × Option (List Char))), ms ≠ [] → (∀ m ∈ ms, MemberOK m) →
    (splitOn1 ',' (' ' :: membersText ms)).filterMap enumPiece = ms
  | [], h, _ => absurd rfl h
  | [m], _, h => by
    have hm := h m (by simp)
    have hnc : ∀ c ∈ ' ' :: membersText [m], c ≠ ',' := by
      intro c hc
      simp only [membersText, List.mem_cons, List.mem_append, List.mem_nil_iff, or_false] at hc
      rcases hc with rfl | hc | rfl
      · decide
      · exact memberText_nocomma m hm c (by simp [hc])
      · decide
    rw [splitOn1_single ',' _ hnc]
    have := enumPiece_member m hm [' '] (.inr rfl)
    simp only [membersText, List.cons_append] at this ⊢
    simp [this]
  | m :: m2 :: r, _, h => by
    have hm := h m (by simp)
    have e : ' ' :: membersText (m :: m2 :: r) = (' ' :: memberText m) ++ ',' :: (' ' :: membersText (m2 :: r)) := by simp [membersText]
    rw [e, splitOn1_cons ',' _ _ (memberText_nocomma m hm)]
    have ih := pieces_members (m2 :: r) (by simp) (fun x hx => h x (by simp [hx]))
    have := enumPiece_member m hm [] (.inl rfl)
    simp only [List.append_nil] at this
    simp [this, ih]

theorem membersText_nobreak : ∀ (ms : List (List Char × Option (List Char))), (∀ m ∈ ms, MemberOK m) →
    ∀ c ∈ membersText ms, isLineBreak c = false
  | [], _, c, hc => by simp [membersText] at hc
  | m :: r, h, c, hc => by
    have hm := h m (by simp)
    have hmt : ∀ c ∈ memberText m, isLineBreak c = false := by
      obtain ⟨k, v⟩ := m
      intro c hc
      cases v with
      | none => exact (hm.kchars c hc).2.2
      | some v =>
        simp only [memberText, List.mem_append, List.mem_cons] at hc
        rcases hc with hc | rfl | rfl | rfl | hc
        · exact (hm.kchars c hc).2.2
        · decide
        · decide
        · decide
        · exact ((hm.vok v rfl).2.2 c hc).2
    cases r with
    | nil =>
      simp only [membersText, List.mem_append, List.mem_cons, List.mem_nil_iff, or_false] at hc
      rcases hc with hc | rfl
      · exact hmt c hc
      · decide
    | cons m2 r2 =>
      simp only [membersText, List.mem_append, List.mem_cons] at hc
      rcases hc with hc | rfl | rfl | hc
      · exact hmt c hc
      · decide
      · decide
      · exact membersText_nobreak (m2 :: r2) (fun x hx => h x (by simp [hx])) c hc

theorem enumMembers_render (ms : List (List Char × Option (List Char))) (h : ∀ m ∈ ms, MemberOK m) :
    enumMembers (' ' :: membersText ms) = ms := by
  have hl : splitLines (' ' :: membersText ms) = [' ' :: membersText ms] := by
    have := splitLinesGo_plain (' ' :: membersText ms) [] (by
      intro c hc
      simp only [List.mem_cons] at hc
      rcases hc with rfl | hc
      · decide
      · exact membersText_nobreak ms h c hc) (.inr (by simp))
    simpa [splitLines] using this
  rw [enumMembers_eq, hl]
  simp only [List.flatMap_cons, List.flatMap_nil, List.append_nil]
  cases ms with
  | nil =>
    have : splitOn1 ',' (' ' :: membersText []) = [[' ']] := by simp [membersText, splitOn1]
    rw [this]
    decide
  | cons m r => exact pieces_members (m :: r) (by simp) h

theorem typedefName_declr (d : Declarator) (h : declrWF false d = true) : typedefName (declrLex d).text = .ok d := by
  have hb : d.bits = none := by
    simp only [declrWF, Bool.and_eq_true, Bool.or_eq_true, Bool.false_eq_true, false_or, Option.isNone_iff_eq_none] at h
    exact h.2
  simp [typedefName, parseDeclarator_declrLex false d h, hb]

theorem typedefTail_declr (ty : TypeRef) (hty : ty ≠ .none) (d : Declarator) (h : declrWF false d = true) (rest : List OTok) :
    typedefTail ty (.name (declrLex d).text (.ok d) :: .eol :: rest) = .ok (.typedef ty [d], rest) := by
  have hn : names (.name (declrLex d).text (.ok d) :: .eol :: rest) = ([(declrLex d).text], rest) := by simp [names]
  unfold typedefTail typedefOf
  rw [hn]
  cases ty with
  | none => exact absurd rfl hty
  | _ => simp [List.mapM_cons, typedefName_declr d h]; rfl

theorem declH_typedef (t : TypeRef) (d : Declarator) (ht : wfT t = true) (hd : declrWF false d = true) (rest : List OTok) :
    declH (oD (.typedef t [d]) ++ rest) = .ok (.typedef t [d], rest) := by
  cases t with
  | none => cases ht
  | name n =>
    obtain ⟨w, ws, hw⟩ := List.exists_cons_of_ne_nil (typeWordsOf_ne_nil n)
    have hid := identifier_idents w ws (.name (declrLex d).text (.ok d) :: .eol :: rest) (by intro v r e; cases e)
    have hj : joinBlank (w :: ws) = n := by rw [← hw]; exact joinBlank_split n
    simp only [oD, oT, hw, List.map_cons, List.map_nil, List.cons_append, List.append_assoc, List.nil_append] at hid ⊢
    simp only [declH, typedefH, hid, hj]
    exact typedefTail_declr _ (fun e => by cases e) d hd rest
  | structRef tg =>
    simp only [oD, oT, List.map_cons, List.map_nil, List.cons_append, List.nil_append, declH, typedefH, structH, structTail]
    exact typedefTail_declr _ (fun e => by cases e) d hd rest
  | inline a =>
    have hwa : wfA false a = true := by simpa only [wfT] using ht
    have hsz := szA_le a hwa
    have hs := structH_oA a hwa (4 * (oA a ++ (.name (declrLex d).text (.ok d) :: .eol :: rest)).length + 8)
      (.name (declrLex d).text (.ok d) :: .eol :: rest) (by rw [List.length_append]; omega)
    obtain ⟨u, tag, fs, ns⟩ := a
    simp only [oD, oT, oA, List.map_cons, List.map_nil, List.cons_append, List.append_assoc, List.nil_append] at hs ⊢
    simp only [declH, typedefH, hs, dropEol]
    exact typedefTail_declr _ (fun e => by cases e) d hd rest

theorem declH_aggr (a : Aggr) (h : wfA true a = true) (rest : List OTok) (hr : notEolHead rest = true) :
    declH (oD (.aggr a) ++ rest) = .ok (.aggr a, rest) := by
  obtain ⟨u, tag, fs, ns⟩ := a
  simp only [wfA, Bool.and_eq_true, if_true, Bool.or_eq_true, Bool.not_eq_true', List.isEmpty_eq_false_iff,
    Option.isSome_iff_ne_none] at h
  obtain ⟨⟨htag, hfs⟩, -, hnm⟩ := h
  have hsz := szFs_le fs hfs
  have hend : structEnd true u tag fs (oNames ns ++ .eol :: rest) = .ok (.inline (.mk u tag fs ns), rest) := by
    have hcheck : (true && ns.isEmpty && tag.isNone) = false := by
      rcases hnm with h | h
      · cases tag with
        | none => exact absurd rfl h
        | some t => simp
      · cases ns with
        | nil => exact absurd rfl h
        | cons n r => simp
    rw [structEnd_eq]
    simp only [if_true, names_oNames ns rest, hcheck, Bool.false_eq_true, if_false, dropEol_of rest hr]
  obtain ⟨g, hg⟩ : ∃ g, 4 * (tagTok tag ++ OTok.block false :: (oFs fs ++ OTok.block true :: (oNames ns ++ OTok.eol :: rest))).length + 12
      = g + 2 := ⟨_, rfl⟩
  have := structH_body g true u tag fs (oNames ns ++ .eol :: rest) rest _
    (fieldsH_oFs fs hfs g _ (by simp only [List.length_append, List.length_cons] at hg; omega)) hend
  simp only [oD, List.cons_append, List.append_assoc, List.nil_append, declH]
  rw [hg, this]

theorem declH_oD (d : Decl) (h : wfDecl d = true) (rest : List OTok) (hr : notEolHead rest = true) :
    declH (oD d ++ rest) = .ok (d, rest) := by
  cases d with
  | lookup n v => cases h
  | config vs =>
    simp only [wfDecl, Bool.and_eq_true, Bool.not_eq_true', List.isEmpty_eq_false_iff, List.all_eq_true, bne_iff_ne, ne_eq] at h
    have := splitOn1_joinComma vs h.1.1 (fun v hv c hc => ((h.2 v hv).1 c hc).1)
    simp only [oD, List.cons_append, List.nil_append, declH, this]
  | const n v => rfl
  | enum fl n b ms =>
    simp only [wfDecl, Bool.and_eq_true, List.all_eq_true] at h
    have hm := enumMembers_render ms (fun m hm => memberOK_of m (h.2 m hm))
    simp only [oD, List.cons_append, List.nil_append, declH, enumH, eol, hm]
    cases n <;> rfl
  | typedef t ds =>
    simp only [wfDecl, Bool.and_eq_true] at h
    match ds, h.2 with
    | [d], hd => exact declH_typedef t d h.1 hd rest
  | aggr a => exact declH_aggr a h rest hr

theorem oD_head (d : Decl) (h : wfDecl d = true) : ∃ x r, oD d = x :: r ∧ notEolHead (x :: r) = true := by
  cases d with
  | lookup a b => simp [wfDecl] at h
  | config vs => exact ⟨_, _, rfl, rfl⟩
  | const n v => exact ⟨_, _, rfl, rfl⟩
  | enum fl n b ms => exact ⟨_, _, rfl, rfl⟩
  | typedef t ds => exact ⟨_, _, rfl, rfl⟩
  | aggr a => obtain ⟨u, tag, fs, ns⟩ := a; exact ⟨_, _, rfl, rfl⟩

theorem notEolHead_flatMap (ds : List Decl) (h : wfDecls ds = true) : notEolHead (ds.flatMap oD) = true := by
  cases ds with
  | nil => rfl
  | cons d r =>
    simp only [wfDecls, List.all_cons, Bool.and_eq_true] at h
    obtain ⟨x, rr, e, hx⟩ := oD_head d h.1
    simp only [List.flatMap_cons, e, List.cons_append]
    cases x with
    | eol => cases hx
    | _ => rfl

theorem declsH_oDs : ∀ (ds : List Decl), wfDecls ds = true → ∀ (fuel : Nat), (ds.flatMap oD).length < fuel →
    declsH fuel (ds.flatMap oD) = (ds, none)
  | [], _, fuel, hf => by
    obtain ⟨g, rfl⟩ : ∃ g, fuel = g + 1 := ⟨fuel - 1, by simp at hf; omega⟩
    simp [declsH]
  | d :: r, h, fuel, hf => by
    have hr : wfDecls r = true := by simp only [wfDecls, List.all_cons, Bool.and_eq_true] at h; simpa [wfDecls] using h.2
    have hd : wfDecl d = true := by simp only [wfDecls, List.all_cons, Bool.and_eq_true] at h; exact h.1
    obtain ⟨x, rr, e, -⟩ := oD_head d hd
    have hstep := declH_oD d hd (r.flatMap oD) (notEolHead_flatMap r hr)
    obtain ⟨g, rfl⟩ : ∃ g, fuel = g + 1 := ⟨fuel - 1, by omega⟩
    have ih := declsH_oDs r hr g (by
      simp only [List.flatMap_cons, List.length_append, e, List.length_cons] at hf; omega)
    simp only [List.flatMap_cons] at hstep ⊢
    rw [e] at hstep ⊢
    simp only [List.cons_append] at hstep ⊢
    simp only [declsH, hstep, ih]

end Cstruct.DefParser.C13
