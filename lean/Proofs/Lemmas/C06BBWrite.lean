/-
  The `BitBuffer` object: one call of `write` / `flush` in each situation the class
  distinguishes, the stream after a flush, and what a reader loads from flushed bytes.
-/
import Proofs.Lemmas.C06BBRead
import Proofs.Lemmas.CoreBitsUnfold
namespace Cstruct.C06.BB
open Cstruct Cstruct.BBuf Cstruct.C06 Cstruct.C06.Lemmas
open Cstruct.C05.Lemmas (encBytes encBytes_length decodeNat_encBytes encodeInt_nat decodeInt_encBytes_emod)
open Cstruct.Core.Lemmas (URel urel_step)


/-- the object after `write` selected a unit of `n` bytes of type `t` -/
def selected (bb : BB) (t : BTy) (n : Nat) : BB := { bb with ty := some t, remaining := (n : Int) * 8 }

/-- the part of `write` after the unit is selected, on an object that stands in a unit of `n` bytes -/
def accumulate (bb : BB) (n : Nat) (v : Int) (bits : Nat) : R Unit :=
  if v < 0 ∨ v ≥ shl 1 bits then .error (.value, bb) else
  let sh : Int := match bb.endian with
    | .little => ((n * 8 : Nat) : Int) - bb.remaining
    | .big => bb.remaining - (bits : Int)
  if sh < 0 then .error (.value, bb) else
  let bb3 : BB := { bb with buffer := lor bb.buffer (shl v sh.toNat), remaining := bb.remaining - (bits : Int) }
  if bb3.remaining = 0 then bb3.flush else .ok (bb3, ())

theorem write_cont (bb : BB) (t : BTy) (n bits : Nat) (v : Int) (hty : bb.ty = some t) (hsz : t.size = some n)
    (hrem : bb.remaining ≠ 0) : bb.write t v bits = accumulate bb n v bits := by
  have h1 : ¬ (bb.remaining = 0 ∨ bb.ty ≠ some t) := fun h => h.elim hrem (fun h => h hty)
  simp only [BB.write, if_neg h1]
  simp only [accumulate, hty, hsz]
  rfl

theorem write_idle (bb : BB) (t : BTy) (n bits : Nat) (v : Int) (hidle : Idle bb) (hsz : t.size = some n) :
    bb.write t v bits = accumulate (selected bb t n) n v bits := by
  simp only [BB.write, if_pos (Or.inl hidle.2.2 : bb.remaining = 0 ∨ bb.ty ≠ some t)]
  simp only [hidle.1, hsz]
  rfl

theorem write_switch (bb bbf : BB) (t0 t : BTy) (n0 n bits : Nat) (v : Int) (hty : bb.ty = some t0)
    (hsz0 : t0.size = some (n0 + 1)) (hnew : bb.remaining = 0 ∨ bb.ty ≠ some t) (hfl : bb.flush = .ok (bbf, ()))
    (hsz : t.size = some n) : bb.write t v bits = accumulate (selected bbf t n) n v bits := by
  simp only [BB.write, if_pos hnew]
  simp only [hty, hsz0, hfl, Except.map, hsz]
  rfl

theorem put_eq_some {e : Endian} {bb : BitBuf} {size bits : Nat} {v : Int} {b : BitBuf}
    (h : BitBuf.put e bb size v bits = some b) :
    bits ≤ bb.remaining ∧ ¬ (v < 0 ∨ v ≥ shl 1 bits) ∧
      b = { bb with buffer := lor bb.buffer (shl v (match (generalizing := false) e with
              | .little => size * 8 - bb.remaining
              | .big => bb.remaining - bits)), remaining := bb.remaining - bits } := by
  unfold BitBuf.put at h
  split at h
  · cases h
  split at h
  · cases h
  rename_i h1 h2
  refine ⟨Nat.le_of_not_lt h1, h2, ?_⟩
  cases e <;> exact (Option.some.inj h).symm

theorem write_eq_put (bb : BB) (t : BTy) (n r bits : Nat) (v : Int) (b : BitBuf)
    (hty : bb.ty = some t) (hsz : t.size = some n) (hrem : bb.remaining = (r : Int)) (hr : r ≠ 0) (hrn : r ≤ n * 8)
    (hput : BitBuf.put bb.endian { ty := none, buffer := bb.buffer, remaining := r } n v bits = some b) :
    bb.write t v bits =
      if b.remaining = 0 then ({ bb with buffer := b.buffer, remaining := (b.remaining : Int) } : BB).flush
      else .ok ({ bb with buffer := b.buffer, remaining := (b.remaining : Int) }, ()) := by
  obtain ⟨hb, hv, rfl⟩ := put_eq_some hput
  simp only at hb
  have hr' : (r : Int) - (bits : Int) = ((r - bits : Nat) : Int) := (Int.ofNat_sub hb).symm
  rw [write_cont bb t n bits v hty hsz (by rw [hrem]; exact Int.natCast_ne_zero.2 hr), accumulate, if_neg hv, hrem]
  cases he : bb.endian with
  | little =>
    have hs : ((n * 8 : Nat) : Int) - (r : Int) = ((n * 8 - r : Nat) : Int) := (Int.ofNat_sub hrn).symm
    simp only [hs, hr', Int.toNat_natCast, Int.natCast_eq_zero, if_neg (Int.not_lt.2 (Int.natCast_nonneg _))]
  | big =>
    simp only [hr', Int.toNat_natCast, Int.natCast_eq_zero, if_neg (Int.not_lt.2 (Int.natCast_nonneg _))]


theorem flush_ok (bb : BB) (t : BTy) (n F : Nat) (hty : bb.ty = some t) (hsz : t.size = some n) (hbuf : bb.buffer = (F : Int))
    (hF : F < 2 ^ (8 * n)) :
    bb.flush = .ok ({ bb.cleared with stream := bb.stream.write (encBytes bb.endian n F) }, ()) := by
  simp only [BB.flush, hty, hsz, hbuf, encodeInt_nat _ _ _ hF]

theorem flush_idle (bb : BB) (h : Idle bb) : bb.flush = .ok (bb, ()) := by
  obtain ⟨h1, h2, h3⟩ := h
  simp only [BB.flush, h1, BB.cleared]
  congr 2
  cases bb; simp_all

theorem write_in (s : Stream) (bs : Bytes) (h : s.pos ≤ s.data.length) :
    s.write bs = { data := s.data.take s.pos ++ bs ++ s.data.drop (s.pos + bs.length), pos := s.pos + bs.length } := by
  unfold Stream.write
  cases bs with
  | nil =>
    simp only [List.isEmpty_nil, if_true, List.append_nil, List.length_nil, Nat.add_zero, List.take_append_drop]
  | cons b r =>
    have : s.pos - s.data.length = 0 := by omega
    simp only [List.isEmpty_cons, Bool.false_eq_true, if_false, this, List.replicate_zero, List.append_nil]

theorem sread_write (s : Stream) (bs : Bytes) (h : s.pos ≤ s.data.length) : sread (s.write bs).data s.pos bs.length = bs := by
  rw [write_in s bs h]
  simp only [sread]
  have hl : (s.data.take s.pos).length = s.pos := by simp; omega
  rw [List.append_assoc, List.drop_append_of_le_length (by omega)]
  have : List.drop s.pos (List.take s.pos s.data) = [] := by
    apply List.drop_eq_nil_of_le; omega
  rw [this, List.nil_append, List.take_append_of_le_length (by omega), List.take_length]

theorem write_take (s : Stream) (bs : Bytes) (h : s.pos ≤ s.data.length) : (s.write bs).data.take s.pos = s.data.take s.pos := by
  rw [write_in s bs h]
  have hl : (s.data.take s.pos).length = s.pos := by simp; omega
  rw [List.append_assoc, List.take_append_of_le_length (by omega), List.take_take, Nat.min_self]

theorem write_drop (s : Stream) (bs : Bytes) (h : s.pos ≤ s.data.length) :
    (s.write bs).data.drop (s.write bs).pos = s.data.drop (s.pos + bs.length) := by
  rw [write_in s bs h]
  have hl : (s.data.take s.pos ++ bs).length = s.pos + bs.length := by simp; omega
  simp only
  rw [List.drop_append_of_le_length (by omega)]
  rw [← hl, List.drop_length, List.nil_append]

theorem write_inb (s : Stream) (bs : Bytes) (h : s.pos ≤ s.data.length) : (s.write bs).pos ≤ (s.write bs).data.length := by
  rw [write_in s bs h]
  simp; omega

theorem write_pos (s : Stream) (bs : Bytes) (h : s.pos ≤ s.data.length) : (s.write bs).pos = s.pos + bs.length := by
  rw [write_in s bs h]

theorem sread_of_take_eq (d d' : Bytes) (p n : Nat) (h : d'.take (p + n) = d.take (p + n)) : sread d' p n = sread d p n := by
  have key : ∀ x : Bytes, sread x p n = ((x.take (p + n)).drop p) := by
    intro x
    simp only [sread, List.drop_take]
    congr 1; omega
  rw [key, key, h]

theorem take_of_take_eq (d d' : Bytes) (p q : Nat) (hpq : p ≤ q) (h : d'.take q = d.take q) : d'.take p = d.take p := by
  have : ∀ x : Bytes, x.take p = (x.take q).take p := by
    intro x; rw [List.take_take, Nat.min_eq_left hpq]
  rw [this d', this d, h]

theorem drop_of_drop_eq (d d' : Bytes) (p q : Nat) (hpq : p ≤ q) (h : d'.drop p = d.drop p) : d'.drop q = d.drop q := by
  have : ∀ x : Bytes, x.drop q = (x.drop p).drop (q - p) := by
    intro x; rw [List.drop_drop]; congr 1; omega
  rw [this d', this d, h]

theorem le_of_sread_length (d : Bytes) (p n : Nat) (hn : n ≠ 0) (h : (sread d p n).length = n) : p + n ≤ d.length := by
  simp only [sread, List.length_take, List.length_drop, Nat.min_def] at h
  split at h <;> omega


theorem unitVal_emod (e : Endian) (t : BTy) (n F : Nat) (hF : F < 2 ^ (8 * n)) :
    unitVal e t (encBytes e n F) % ((2 ^ (8 * n) : Nat) : Int) = (F : Int) := by
  unfold unitVal
  split
  · rw [decodeNat_encBytes e n F hF]
    exact Int.emod_eq_of_lt (Int.natCast_nonneg _) (by exact_mod_cast hF)
  · exact decodeInt_encBytes_emod e _ n F hF

/-- a signed storage type loads the unit as a negative number; its slots are those of the unsigned unit -/
theorem slot_of_emod (U : Int) (F W lo w : Nat) (hUF : U % ((2 ^ W : Nat) : Int) = (F : Int)) (h : lo + w ≤ W) :
    slotVal U lo w = slotVal (F : Int) lo w := by
  rw [← slotVal_emod U W lo w h, hUF]

end Cstruct.C06.BB
