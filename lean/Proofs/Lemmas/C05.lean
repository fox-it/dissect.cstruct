/-
  Helper lemmas for C05: the type table check, the fixed-width codecs as two's complement modulo `2^(8n)`, and the LEB128
  loops (the writer on "low seven bits and the rest", the reader as `rd` with the sign applied at the end).
-/
import CstructModel.Codec
import CstructModel.Leb
import CstructModel.Resolve
import Proofs.Lemmas.Bits

namespace Cstruct.C05

def isPow2 (n : Nat) : Bool := n ≠ 0 && n &&& (n - 1) = 0

namespace Lemmas
open Cstruct


/-- fuel 2: the aliases of the table are at most two deep (`resolve` itself allows ten steps) -/
def entryOk (e : Gen.TypeEntry) : Bool :=
  match e with
  | .type _ k sz al =>
    decide (sz = k.size) &&
      ((decide (al = none) && decide (sz = none)) || (decide (al = some 0) && decide (k = .void)) ||
        (match al with | some a => isPow2 a | none => false))
  | .alias t => (resolveAux Gen.typeTable 2 t).isOk

theorem entryOk_all : ∀ p ∈ Gen.typeTable, entryOk p.2 = true := by decide +kernel

theorem entryOk_spec (e : Gen.TypeEntry) : entryOk e = true →
    match e with
    | .type _ k sz al => sz = k.size ∧ (al = none ∧ sz = none ∨ al = some 0 ∧ k = .void ∨ ∃ a, al = some a ∧ isPow2 a = true)
    | .alias t => (resolveAux Gen.typeTable 2 t).isOk = true := by
  cases e with
  | alias t => exact id
  | type n k sz al =>
    intro h
    simp only [entryOk, Bool.and_eq_true, Bool.or_eq_true, decide_eq_true_eq] at h
    refine ⟨h.1, ?_⟩
    rcases h.2 with (h | h) | h
    · exact Or.inl h
    · exact Or.inr (Or.inl h)
    · cases al with
      | none => cases h
      | some a => exact Or.inr (Or.inr ⟨a, rfl, h⟩)

def resolvesTo (p : String × Scalar) : Bool :=
  match resolve Gen.typeTable p.1 with
  | .ok (_, k, _, _) => decide (k = p.2)
  | .error _ => false

theorem resolves_of_all (names : List (String × Scalar)) (h : names.all resolvesTo = true) (name : String) (k : Scalar)
    (hm : (name, k) ∈ names) : ∃ n sz al, resolve Gen.typeTable name = .ok (n, k, sz, al) := by
  have hp := List.all_eq_true.mp h _ hm
  unfold resolvesTo at hp
  split at hp
  · rename_i n k' sz al heq
    exact ⟨n, sz, al, by rw [heq, of_decide_eq_true hp]⟩
  · cases hp


theorem u8_small (k : Nat) (h : k < 256) : (UInt8.ofNat k).toNat = k := UInt8.toNat_ofNat_of_lt' h

theorem toLE_length (n v : Nat) : (toLE n v).length = n := by
  induction n generalizing v with
  | zero => rfl
  | succ n ih => simp only [toLE, List.length_cons, ih]

theorem fromLE_toLE (n v : Nat) (h : v < 256 ^ n) : fromLE (toLE n v) = v := by
  induction n generalizing v with
  | zero => rw [Nat.pow_zero, Nat.lt_one_iff] at h; rw [h]; rfl
  | succ n ih =>
    rw [Nat.pow_succ] at h
    rw [toLE, fromLE, ih _ (Nat.div_lt_of_lt_mul (by omega)), u8_small _ (Nat.mod_lt _ (by decide))]
    omega

theorem fromLE_lt (bs : Bytes) : fromLE bs < 256 ^ bs.length := by
  induction bs with
  | nil => exact Nat.one_pos
  | cons b r ih =>
    rw [fromLE, List.length_cons, Nat.pow_succ]
    have := b.toNat_lt
    omega

theorem toLE_fromLE (bs : Bytes) : toLE bs.length (fromLE bs) = bs := by
  induction bs with
  | nil => rfl
  | cons b r ih =>
    have hb := b.toNat_lt
    rw [fromLE, List.length_cons, toLE, show (b.toNat + 256 * fromLE r) % 256 = b.toNat by omega,
      show (b.toNat + 256 * fromLE r) / 256 = fromLE r by omega, ih, UInt8.ofNat_toNat]

theorem fromLE_concat (bs : Bytes) (m : UInt8) :
    fromLE (bs ++ [m]) = fromLE bs + 256 ^ bs.length * m.toNat := by
  induction bs with
  | nil => simp [fromLE]
  | cons b r ih =>
    rw [List.cons_append, fromLE, ih, fromLE, List.length_cons, Nat.pow_succ, Nat.mul_add, Nat.add_assoc,
      Nat.mul_comm (256 ^ r.length) 256, Nat.mul_assoc]

theorem msb_iff (bs : Bytes) (m : UInt8) :
    2 ^ (8 * (bs ++ [m]).length) ≤ 2 * fromLE (bs ++ [m]) ↔ m.toNat ≥ 128 := by
  have hL := fromLE_lt bs
  rw [fromLE_concat, List.length_append, List.length_singleton, Nat.pow_mul, Nat.pow_succ]
  generalize 256 ^ bs.length = P at *
  constructor
  · intro h
    apply Nat.le_of_not_lt
    intro hm
    have : P * m.toNat ≤ P * 127 := Nat.mul_le_mul_left _ (by omega)
    omega
  · intro hm
    have : P * 128 ≤ P * m.toNat := Nat.mul_le_mul_left _ hm
    omega

theorem decodeNat_lt (e : Endian) (bs : Bytes) : decodeNat e bs < 2 ^ (8 * bs.length) := by
  rw [Nat.pow_mul]
  cases e with
  | little => exact fromLE_lt bs
  | big => have := fromLE_lt bs.reverse; rwa [List.length_reverse] at this

/-- the bytes `encodeInt` produces for the residue `u` -/
def encBytes (e : Endian) (n u : Nat) : Bytes :=
  match e with | .little => toLE n u | .big => (toLE n u).reverse

theorem encBytes_length (e : Endian) (n u : Nat) : (encBytes e n u).length = n := by
  cases e <;> simp [encBytes, toLE_length]

theorem decodeNat_encBytes (e : Endian) (n u : Nat) (h : u < 2 ^ (8 * n)) : decodeNat e (encBytes e n u) = u := by
  rw [Nat.pow_mul] at h
  cases e <;> simp [encBytes, decodeNat, fromLE_toLE n u h]

theorem encBytes_decodeNat (e : Endian) (bs : Bytes) : encBytes e bs.length (decodeNat e bs) = bs := by
  cases e with
  | little => exact toLE_fromLE bs
  | big =>
    have := toLE_fromLE bs.reverse
    rw [List.length_reverse] at this
    simp [encBytes, decodeNat, this]

theorem encodeInt_eq (e : Endian) (n : Nat) (s : Bool) (v : Int) (h : fits n s v = true) :
    encodeInt e n s v = some (encBytes e n (v % ((2 ^ (8 * n) : Nat) : Int)).toNat) := by
  unfold encodeInt encBytes
  rw [if_pos h]
  rfl


/-- the signed (`s`) or unsigned reading of a residue `u` modulo `N` -/
def tcVal (N : Nat) (s : Bool) (u : Nat) : Int :=
  if s = true ∧ N ≤ 2 * u then (u : Int) - (N : Int) else (u : Int)

/-- the values whose residue modulo `N` reads back as themselves -/
def TcRange (N : Nat) (s : Bool) (v : Int) : Prop :=
  if s = true then -(N : Int) ≤ 2 * v ∧ 2 * v < (N : Int) else 0 ≤ v ∧ v < (N : Int)

theorem decodeInt_eq (e : Endian) (s : Bool) (bs : Bytes) :
    decodeInt e s bs = tcVal (2 ^ (8 * bs.length)) s (decodeNat e bs) := rfl

theorem fits_iff (n : Nat) (s : Bool) (v : Int) : fits n s v = true ↔ TcRange (2 ^ (8 * n)) s v := by
  cases s <;> simp [fits, TcRange]

theorem emod_of_range (v : Int) (N : Nat) (h1 : -(N : Int) ≤ v) (h2 : v < N) :
    v % (N : Int) = if v < 0 then v + N else v := by
  split
  · rw [← Int.add_emod_right, Int.emod_eq_of_lt (by omega) (by omega)]
  · exact Int.emod_eq_of_lt (by omega) h2

/-- `tcVal N s` and the residue modulo `N` are inverse to each other between `[0, N)` and `TcRange N s` -/
theorem tcVal_residue (N : Nat) (s : Bool) (v : Int) (h : TcRange N s v) :
    (v % (N : Int)).toNat < N ∧ tcVal N s (v % (N : Int)).toNat = v := by
  unfold tcVal
  cases s with
  | false =>
    simp only [TcRange, Bool.false_eq_true, if_false, false_and] at h ⊢
    rw [emod_of_range v N (by omega) h.2]
    omega
  | true =>
    simp only [TcRange, if_true, true_and] at h ⊢
    rw [emod_of_range v N (by omega) (by omega)]
    split <;> split <;> omega

theorem residue_tcVal (N u : Nat) (s : Bool) (hu : u < N) :
    TcRange N s (tcVal N s u) ∧ (tcVal N s u % (N : Int)).toNat = u := by
  have hmod : (u : Int) % (N : Int) = (u : Int) := Int.emod_eq_of_lt (Int.natCast_nonneg u) (Int.ofNat_lt.2 hu)
  constructor
  · unfold tcVal TcRange
    cases s
    · simp only [Bool.false_eq_true, if_false, false_and]; omega
    · simp only [if_true, true_and]; split <;> omega
  · unfold tcVal
    split
    · rw [Int.sub_emod_right, hmod, Int.toNat_natCast]
    · rw [hmod, Int.toNat_natCast]

theorem decodeInt_emod (e : Endian) (sg : Bool) (bs : Bytes) :
    decodeInt e sg bs % ((2 ^ (8 * bs.length) : Nat) : Int) = (decodeNat e bs : Int) := by
  have h := (residue_tcVal _ _ sg (decodeNat_lt e bs)).2
  rw [← decodeInt_eq] at h
  rw [← h, Int.toNat_of_nonneg (Int.emod_nonneg _ (Int.natCast_ne_zero.mpr (Nat.ne_of_gt (Nat.two_pow_pos _))))]

/-- the bytes of a unit `F < 2^(8n)`, read back as a signed or unsigned number, are `F` modulo `2^(8n)` -/
theorem decodeInt_encBytes_emod (e : Endian) (sg : Bool) (n F : Nat) (hF : F < 2 ^ (8 * n)) :
    decodeInt e sg (encBytes e n F) % ((2 ^ (8 * n) : Nat) : Int) = (F : Int) := by
  have h := decodeInt_emod e sg (encBytes e n F)
  rwa [encBytes_length, decodeNat_encBytes e n F hF] at h

/-- a number below `2^(8n)` is encoded, unsigned, as its own bytes -/
theorem encodeInt_nat (e : Endian) (n F : Nat) (hF : F < 2 ^ (8 * n)) :
    encodeInt e n false (F : Int) = some (encBytes e n F) := by
  have hfit : fits n false (F : Int) = true := by
    simp only [fits, Bool.false_eq_true, if_false, decide_eq_true_eq]
    exact ⟨Int.natCast_nonneg _, by exact_mod_cast hF⟩
  rw [encodeInt_eq e n false _ hfit, ← Int.natCast_emod, Int.toNat_natCast, Nat.mod_eq_of_lt hF]


theorem and80 : ∀ n, n < 256 → (n &&& 0x80 = 0 ↔ n < 128) := by decide +kernel
theorem and40 : ∀ n, n < 128 → (n &&& 0x40 = 0 ↔ n < 64) := by decide +kernel
theorem or80 (n : Nat) (h : n < 128) : 0x80 ||| n = 128 + n := (Nat.two_pow_add_eq_or_of_lt (i := 7) h 1).symm
theorem and7F (n : Nat) : n &&& 0x7F = n % 128 := Nat.and_two_pow_sub_one_eq_mod n 7

theorem land_7F (x : Int) : land x 0x7F = x % 128 := land_mask x 7

theorem shr_7 (x : Int) : shr x 7 = x / 128 := rfl

/-- `res | (~0 << sh)` sign-extends a number below `2^sh` -/
theorem lor_signext (u sh : Nat) (h : u < 2 ^ sh) :
    lor (u : Int) (shl (lnot 0) sh) = (u : Int) - ((2 ^ sh : Nat) : Int) := by
  have hpos : 0 < 2 ^ sh := Nat.two_pow_pos sh
  have h1 : shl (lnot 0) sh = Int.negSucc (2 ^ sh - 1) := by
    unfold shl lnot
    rw [Int.negSucc_eq]
    omega
  rw [h1]
  show Int.negSucc (Nat.bitwise (fun a b => a && !b) (2 ^ sh - 1) u) = _
  rw [ldiff_lt _ u sh (by omega), Nat.and_comm, Nat.and_two_pow_sub_one_eq_mod, Nat.mod_eq_of_lt h,
    Nat.mod_eq_of_lt (by omega), Int.negSucc_eq]
  omega


/-- `d` splits into its low group of seven bits `g` and the rest `q` (`d & 0x7F` and `d >> 7`) -/
theorem group7 (d : Int) : ∃ (g : Nat) (q : Int), g < 128 ∧ d = 128 * q + g :=
  ⟨(d % 128).toNat, d / 128, by omega, by omega⟩

/-- the writer's stop condition on the low group `g` and the rest `q` -/
def wstop (s : Bool) (q : Int) (g : Nat) : Prop :=
  (s = true ∧ q = 0 ∧ g < 64) ∨ (q = -1 ∧ ¬ g < 64) ∨ (¬ s = true ∧ q = 0)

instance (s : Bool) (q : Int) (g : Nat) : Decidable (wstop s q g) :=
  inferInstanceAs (Decidable (_ ∨ _ ∨ _))

theorem not_wstop {s : Bool} {q : Int} {g : Nat} (h : ¬ wstop s q g) :
    (q ≠ 0 ∧ q ≠ -1) ∨ (q = 0 ∧ 64 ≤ g) ∨ (q = -1 ∧ g < 64) := by
  unfold wstop at h
  cases s <;> simp only [Bool.false_eq_true, true_and, false_and, not_true_eq_false, not_false_eq_true, false_or,
    or_false] at h <;> omega

theorem lebWriteLoop_eq (s : Bool) (d q : Int) (g : Nat) (hg : g < 128) (hd : d = 128 * q + g) :
    lebWriteLoop s d =
      if wstop s q g then [UInt8.ofNat g] else UInt8.ofNat (128 + g) :: lebWriteLoop s q := by
  have hne : ¬ wstop s q g → ¬ (d = 0 ∨ d = -1) := fun hs => by have := not_wstop hs; omega
  obtain ⟨hq, hm⟩ : d / 128 = q ∧ d % 128 = (g : Int) :=
    (Int.ediv_emod_unique (by decide)).2 ⟨by omega, Int.natCast_nonneg g, by omega⟩
  have h40 : land (g : Int) 0x40 = 0 ↔ g < 64 := by
    show ((g &&& 0x40 : Nat) : Int) = 0 ↔ _
    rw [Int.natCast_eq_zero]
    exact and40 g hg
  have h80 : (lor 0x80 (g : Int)).toNat = 128 + g := by
    show ((0x80 ||| g : Nat) : Int).toNat = _
    rw [or80 g hg, Int.toNat_natCast]
  rw [lebWriteLoop]
  simp only [land_7F, shr_7, hm, hq, ne_eq, h40, Int.toNat_natCast]
  show (if wstop s q g then _ else _) = _
  by_cases hs : wstop s q g
  · rw [if_pos hs, if_pos hs]
  · rw [if_neg hs, if_neg hs, dif_neg (hne hs), h80]

/-- induction along the writer's loop; it ends because the rest is strictly closer to zero (`not_wstop`) -/
theorem wr_induct (s : Bool) (P : Int → Prop)
    (stop : ∀ d q (g : Nat), g < 128 → d = 128 * q + (g : Int) → wstop s q g → P d)
    (step : ∀ d q (g : Nat), g < 128 → d = 128 * q + (g : Int) → ¬ wstop s q g → P q → P d) : ∀ d, P d := by
  intro d
  generalize hn : d.natAbs = n
  induction n using Nat.strongRecOn generalizing d with
  | _ n ih =>
    obtain ⟨g, q, hg, hd⟩ := group7 d
    by_cases hs : wstop s q g
    · exact stop d q g hg hd hs
    · have := not_wstop hs
      exact step d q g hg hd hs (ih q.natAbs (by omega) _ rfl)

theorem leb_shape (s : Bool) : ∀ d : Int,
    ∃ init last, lebWriteLoop s d = init ++ [last] ∧ last.toNat < 128 ∧ ∀ b ∈ init, b.toNat ≥ 128 := by
  intro d
  induction d using wr_induct s with
  | stop d q g hg hd hs =>
    rw [lebWriteLoop_eq s d q g hg hd, if_pos hs]
    exact ⟨[], _, rfl, by rw [u8_small _ (by omega)]; exact hg, fun _ h => nomatch h⟩
  | step d q g hg hd hs ih =>
    obtain ⟨init, last, h1, h2, h3⟩ := ih
    rw [lebWriteLoop_eq s d q g hg hd, if_neg hs, h1]
    refine ⟨_ :: init, last, rfl, h2, ?_⟩
    intro b hb
    rcases List.mem_cons.1 hb with rfl | hb
    · rw [u8_small _ (by omega)]; omega
    · exact h3 b hb


/-- the reader in recursive form: (unsigned value of the 7-bit groups, number of bytes consumed, last byte, rest) -/
def rd : Bytes → Option (Nat × Nat × UInt8 × Bytes)
  | [] => none
  | b :: r =>
    if b.toNat < 128 then some (b.toNat, 1, b, r)
    else match rd r with
      | some (u, n, l, r') => some (b.toNat - 128 + 128 * u, n + 1, l, r')
      | none => none

theorem rd_last (b : UInt8) (r : Bytes) (h : b.toNat < 128) : rd (b :: r) = some (b.toNat, 1, b, r) := by
  rw [rd, if_pos h]

theorem rd_more (g : Nat) (b : UInt8) (r : Bytes) (h : b.toNat = 128 + g) :
    rd (b :: r) = (rd r).map fun p => (g + 128 * p.1, p.2.1 + 1, p.2.2.1, p.2.2.2) := by
  rw [rd, if_neg (by omega), show b.toNat - 128 = g by omega]
  cases rd r <;> rfl

theorem or_shift (res sh x : Nat) (h : res < 2 ^ sh) : res ||| (x <<< sh) = res + 2 ^ sh * x := by
  rw [Nat.shiftLeft_eq, or_mul_two_pow res x sh h, Nat.mul_comm]

theorem lebReadLoop_eq (bs : Bytes) : ∀ (res sh : Nat), res < 2 ^ sh →
    lebReadLoop bs res sh = (rd bs).map (fun p => (res + 2 ^ sh * p.1, sh + 7 * p.2.1, p.2.2.1, p.2.2.2)) := by
  induction bs with
  | nil => intro res sh _; rfl
  | cons b r ih =>
    intro res sh h
    have h80 := and80 b.toNat b.toNat_lt
    rw [lebReadLoop]
    simp only [and7F, or_shift res sh _ h]
    by_cases hlt : b.toNat < 128
    · rw [if_pos (h80.2 hlt), rd_last b r hlt, Nat.mod_eq_of_lt hlt]
      rfl
    · obtain ⟨g, hg⟩ : ∃ g, b.toNat = 128 + g := ⟨b.toNat - 128, by omega⟩
      have hb := b.toNat_lt
      have hres : res + 2 ^ sh * g < 2 ^ (sh + 7) := by
        rw [Nat.pow_add]
        have : 2 ^ sh * g ≤ 2 ^ sh * 127 := Nat.mul_le_mul_left _ (by omega)
        omega
      rw [if_neg (fun h => hlt (h80.1 h)), rd_more g b r hg, show b.toNat % 128 = g by omega, ih _ _ hres]
      cases rd r with
      | none => rfl
      | some p =>
        simp only [Option.map_some, Nat.pow_add, Nat.mul_add, Nat.add_assoc, Nat.mul_assoc, Nat.mul_one,
          show (2 : Nat) ^ 7 = 128 from rfl, Nat.add_comm 7]

theorem readLoop_truncated (bs : Bytes) (h : ∀ b ∈ bs, b.toNat ≥ 128) : ∀ res sh, lebReadLoop bs res sh = none := by
  induction bs with
  | nil => intro _ _; rfl
  | cons b r ih =>
    intro res sh
    have hb : b.toNat ≥ 128 := h b List.mem_cons_self
    have h80 := and80 b.toNat b.toNat_lt
    rw [lebReadLoop, if_neg (by omega)]
    exact ih (fun x hx => h x (List.mem_cons_of_mem _ hx)) _ _

/-- value denoted by the reader's final state -/
def sval (s : Bool) (u n : Nat) (l : UInt8) : Int :=
  if s = true ∧ l.toNat &&& 0x40 ≠ 0 then (u : Int) - ((2 ^ (7 * n) : Nat) : Int) else (u : Int)

theorem pow7_succ (n c : Nat) : 2 ^ (7 * (n + 1) + c) = 128 * 2 ^ (7 * n + c) := by
  rw [show 7 * (n + 1) + c = 7 + (7 * n + c) by omega, Nat.pow_add]

theorem sval_more (s : Bool) (g u n : Nat) (l : UInt8) :
    sval s (g + 128 * u) (n + 1) l = (g : Int) + 128 * sval s u n l := by
  unfold sval
  have : 2 ^ (7 * (n + 1)) = 128 * 2 ^ (7 * n) := pow7_succ n 0
  split <;> omega

theorem sval_last (s : Bool) (g : Nat) (l : UInt8) (hl : l.toNat = g) (hg : g < 128) :
    sval s g 1 l = if s = true ∧ 64 ≤ g then (g : Int) - 128 else (g : Int) := by
  have := and40 g hg
  unfold sval
  rw [hl]
  by_cases h : s = true ∧ 64 ≤ g
  · rw [if_pos ⟨h.1, by omega⟩, if_pos h]; rfl
  · rw [if_neg (fun h' => h ⟨h'.1, by omega⟩), if_neg h]

/-- the values that `m + 1` groups of seven bits can spell -/
def LebRange (s : Bool) (m : Nat) (v : Int) : Prop :=
  if s = true then -((2 ^ (7 * m + 6) : Nat) : Int) ≤ v ∧ v < ((2 ^ (7 * m + 6) : Nat) : Int)
  else 0 ≤ v ∧ v < ((2 ^ (7 * m + 7) : Nat) : Int)

theorem lebRange_more (s : Bool) (m g : Nat) (v : Int) (hg : g < 128) (h : LebRange s m v) :
    LebRange s (m + 1) ((g : Int) + 128 * v) := by
  unfold LebRange at h ⊢
  rw [pow7_succ, pow7_succ]
  cases s <;> simp only [Bool.false_eq_true, if_false, if_true] at h ⊢ <;> omega

theorem lebRange_div (s : Bool) (m g : Nat) (q : Int) (hg : g < 128) (h : LebRange s (m + 1) (128 * q + g)) :
    LebRange s m q := by
  unfold LebRange at h ⊢
  rw [pow7_succ, pow7_succ] at h
  cases s <;> simp only [Bool.false_eq_true, if_false, if_true] at h ⊢ <;> omega

theorem lebRange_zero (s : Bool) (g : Nat) (q : Int) (hg : g < 128) (h : LebRange s 0 (128 * q + g)) :
    wstop s q g := by
  unfold LebRange at h
  unfold wstop
  cases s <;> simp only [Bool.false_eq_true, if_false, if_true, true_and, false_and, not_true_eq_false,
    not_false_eq_true, false_or, or_false] at h ⊢ <;> omega

theorem wlen (s : Bool) (m : Nat) : ∀ v : Int, LebRange s m v → (lebWriteLoop s v).length ≤ m + 1 := by
  induction m with
  | zero =>
    intro v h
    obtain ⟨g, q, hg, rfl⟩ := group7 v
    rw [lebWriteLoop_eq s _ q g hg rfl, if_pos (lebRange_zero s g q hg h)]
    exact Nat.le_refl _
  | succ m ih =>
    intro v h
    obtain ⟨g, q, hg, rfl⟩ := group7 v
    rw [lebWriteLoop_eq s _ q g hg rfl]
    split
    · exact Nat.le_add_left _ _
    · exact Nat.succ_le_succ (ih _ (lebRange_div s m g q hg h))

theorem rd_spec (s : Bool) (bs : Bytes) : ∀ u n l r, rd bs = some (u, n, l, r) →
    bs.length = n + r.length ∧ u < 2 ^ (7 * n) ∧ ∃ m, n = m + 1 ∧ LebRange s m (sval s u n l) := by
  induction bs with
  | nil => intro u n l r h; cases h
  | cons b t ih =>
    intro u n l r h
    by_cases hlt : b.toNat < 128
    · rw [rd_last b t hlt] at h
      simp only [Option.some.injEq, Prod.mk.injEq] at h
      obtain ⟨rfl, rfl, rfl, rfl⟩ := h
      refine ⟨Nat.add_comm _ _, by omega, 0, rfl, ?_⟩
      rw [sval_last s _ b rfl hlt]
      unfold LebRange
      cases s
      · simp only [Bool.false_eq_true, false_and, if_false]; omega
      · simp only [true_and, if_true]; split <;> omega
    · obtain ⟨g, hg⟩ : ∃ g, b.toNat = 128 + g := ⟨b.toNat - 128, by omega⟩
      have hb := b.toNat_lt
      rw [rd_more g b t hg] at h
      cases hr : rd t with
      | none => rw [hr] at h; cases h
      | some p =>
        obtain ⟨u', n', l', r'⟩ := p
        rw [hr] at h
        simp only [Option.map_some, Option.some.injEq, Prod.mk.injEq] at h
        obtain ⟨rfl, rfl, rfl, rfl⟩ := h
        obtain ⟨h1, h2, m, rfl, h3⟩ := ih _ _ _ _ hr
        have : 2 ^ (7 * (m + 1 + 1)) = 128 * 2 ^ (7 * (m + 1)) := pow7_succ (m + 1) 0
        refine ⟨by rw [List.length_cons, h1]; omega, by omega, m + 1, rfl, ?_⟩
        rw [sval_more]
        exact lebRange_more s m g _ (by omega) h3

theorem lebRead_eq (s : Bool) (bs : Bytes) :
    lebRead s bs = match rd bs with
      | none => .error .eof
      | some (u, n, l, r) => .ok (sval s u n l, r) := by
  unfold lebRead
  rw [lebReadLoop_eq bs 0 0 Nat.one_pos]
  cases hr : rd bs with
  | none => rfl
  | some p =>
    obtain ⟨u, n, l, r⟩ := p
    obtain ⟨_, hu, _⟩ := rd_spec s bs _ _ _ _ hr
    simp only [Option.map_some, Nat.zero_add, Nat.pow_zero, Nat.one_mul, sval]
    split
    · rw [lor_signext u _ hu]
    · rfl

theorem leb_roundtrip (s : Bool) (rest : Bytes) : ∀ d : Int, (s = false → 0 ≤ d) →
    ∃ u l, rd (lebWriteLoop s d ++ rest) = some (u, (lebWriteLoop s d).length, l, rest) ∧
      sval s u (lebWriteLoop s d).length l = d := by
  intro d
  induction d using wr_induct s with
  | stop d q g hg hd hs =>
    intro h0
    have hb : (UInt8.ofNat g).toNat = g := u8_small g (by omega)
    rw [lebWriteLoop_eq s d q g hg hd, if_pos hs]
    refine ⟨g, UInt8.ofNat g, by rw [List.singleton_append, rd_last _ _ (by omega), hb]; rfl, ?_⟩
    rw [List.length_singleton, sval_last s g _ hb hg]
    unfold wstop at hs
    cases s
    · have := h0 rfl
      simp only [Bool.false_eq_true, false_and, if_false, not_false_eq_true, true_and, false_or] at hs ⊢
      omega
    · simp only [true_and, not_true_eq_false, false_and, or_false] at hs ⊢
      split <;> omega
  | step d q g hg hd hs ih =>
    intro h0
    obtain ⟨u, l, h1, h2⟩ := ih (fun h => by have := h0 h; omega)
    rw [lebWriteLoop_eq s d q g hg hd, if_neg hs]
    refine ⟨g + 128 * u, l, ?_, ?_⟩
    · rw [List.cons_append, rd_more g _ _ (u8_small _ (by omega)), h1]
      rfl
    · rw [List.length_cons, sval_more, h2, hd, Int.add_comm]

theorem leb_roundtrip_read (s : Bool) (d : Int) (rest : Bytes) (h : s = false → 0 ≤ d) :
    lebRead s (lebWriteLoop s d ++ rest) = .ok (d, rest) := by
  obtain ⟨u, l, h1, h2⟩ := leb_roundtrip s rest d h
  rw [lebRead_eq, h1]
  simp only [h2]

theorem leb_minimal (s : Bool) (v : Int) (bs : Bytes)
    (h : lebRead s bs = .ok (v, [])) : (lebWriteLoop s v).length ≤ bs.length := by
  rw [lebRead_eq] at h
  cases hr : rd bs with
  | none => rw [hr] at h; cases h
  | some p =>
    obtain ⟨u, n, l, r⟩ := p
    rw [hr] at h
    simp only [Except.ok.injEq, Prod.mk.injEq] at h
    obtain ⟨rfl, rfl⟩ := h
    obtain ⟨hlen, _, m, rfl, hrange⟩ := rd_spec s bs _ _ _ _ hr
    rw [hlen]
    exact wlen s m _ hrange

end Lemmas
end Cstruct.C05
