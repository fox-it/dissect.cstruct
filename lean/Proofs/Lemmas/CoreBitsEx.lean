/-
  Non-vacuity material for `Proofs/CoreBits.lean`: a concrete packed structure with two bit-field runs of different
  storage types (one signed) and the step-by-step evaluation of `write` on a concrete value. (`write` is defined by
  well-founded recursion, so `decide` cannot evaluate it; the unfolding lemmas of `CoreBitsUnfold.lean` are applied member
  by member, the bit arithmetic of each step is evaluated by `decide +kernel`.)
-/
import Proofs.Lemmas.CoreBitsUnfold
namespace Cstruct.Core.Ex
open Cstruct Cstruct.Core.Lemmas

def cfgL : Cfg := { endian := .little, ptr := .pint 4 false, ptrAlign := 4, consts := [] }
def i8 : Ty := .sc (.pint 1 true) 1
def u16 : Ty := .sc (.pint 2 false) 2
def u8 : Ty := .sc (.pint 1 false) 1
def fsE : Fields := .cons "e" false u8 none .nil
def fsD : Fields := .cons "d" false u16 (some 12) fsE
def fsC : Fields := .cons "c" false u16 (some 4) fsD
def fsB : Fields := .cons "b" false i8 (some 5) fsC
/-- `struct { int8 a:3; int8 b:5; uint16 c:4; uint16 d:12; uint8 e; }` -/
def fsA : Fields := .cons "a" false i8 (some 3) fsB
def tyA : Ty := .struct false fsA
def vsE : Vals := .cons (.int 7) .nil
def vsD : Vals := .cons (.int 0xABC) vsE
def vsC : Vals := .cons (.int 9) vsD
def vsB : Vals := .cons (.int 31) vsC
def vsA : Vals := .cons (.int 5) vsB

theorem exE : writeFields cfgL false fsE [some 3] vsE 0 BitBuf.empty 3 = .ok ([7], BitBuf.empty) := by
  rw [fsE, vsE, writeFields_nb_idle cfgL _ _ _ _ _ _ _ _ 0 3 (by decide), u8, write_sc]
  have : writeScalar cfgL (.pint 1 false) (.int 7) = .ok [7] := by decide +kernel
  rw [this]
  simp only [Except.bind, writeFields_nil]
  rfl

theorem exD : writeFields cfgL false fsD [none, some 3] vsD 0
    { ty := some (.pint 2 false), buffer := 9, remaining := 12 } 1 = .ok ([201, 171, 7], BitBuf.empty) := by
  rw [fsD, vsD, writeFields_bit_cont cfgL false _ _ _ _ _ _ _ _ 0 1 (.pint 2 false) 2 0xABC _ rfl rfl (Or.inl rfl)
    rfl (by decide) nofun, putStep]
  have p : BitBuf.put cfgL.endian { ty := some (.pint 2 false), buffer := 9, remaining := 12 } 2 0xABC (11 + 1) =
      some { ty := some (.pint 2 false), buffer := 0xABC9, remaining := 0 } := by decide +kernel
  have f : flushBits cfgL { ty := some (.pint 2 false), buffer := 0xABC9, remaining := 0 } = .ok [201, 171] := by
    decide +kernel
  rw [p]
  simp only [if_true, f, Except.bind, List.length_cons, List.length_nil, Nat.zero_add, Nat.reduceAdd, exE]
  rfl

theorem exC : writeFields cfgL false fsC [some 1, none, some 3] vsC 0 BitBuf.empty 1 =
    .ok ([201, 171, 7], BitBuf.empty) := by
  have hp : padW cfgL false u16 (some 1) 0 1 = 0 := rfl
  rw [fsC, vsC, writeFields_bit_new cfgL false _ _ _ _ _ _ _ _ _ 0 1 (.pint 2 false) 2 9 rfl rfl (Or.inl rfl), hp, putStep]
  have p : BitBuf.put cfgL.endian { ty := some (.pint 2 false), buffer := 0, remaining := 2 * 8 } 2 9 (3 + 1) =
      some { ty := some (.pint 2 false), buffer := 9, remaining := 12 } := by decide +kernel
  rw [p]
  simp only [Nat.succ_ne_zero, if_false, Except.bind, List.length_nil, Nat.add_zero, zeros_zero, List.nil_append, exD]

theorem exB : writeFields cfgL false fsB [none, some 1, none, some 3] vsB 0
    { ty := some (.pint 1 true), buffer := 5, remaining := 5 } 0 = .ok ([253, 201, 171, 7], BitBuf.empty) := by
  rw [fsB, vsB, writeFields_bit_cont cfgL false _ _ _ _ _ _ _ _ 0 0 (.pint 1 true) 1 31 _ rfl rfl (Or.inl rfl)
    rfl (by decide) nofun, putStep]
  have p : BitBuf.put cfgL.endian { ty := some (.pint 1 true), buffer := 5, remaining := 5 } 1 31 (4 + 1) =
      some { ty := some (.pint 1 true), buffer := 253, remaining := 0 } := by decide +kernel
  have f : flushBits cfgL { ty := some (.pint 1 true), buffer := 253, remaining := 0 } = .ok [253] := by decide +kernel
  rw [p]
  simp only [if_true, f, Except.bind, List.length_cons, List.length_nil, Nat.zero_add, exC]
  rfl

theorem exA : writeFields cfgL false fsA [some 0, none, some 1, none, some 3] vsA 0 BitBuf.empty 0 =
    .ok ([253, 201, 171, 7], BitBuf.empty) := by
  have hp : padW cfgL false i8 (some 0) 0 0 = 0 := rfl
  rw [fsA, vsA, writeFields_bit_new cfgL false _ _ _ _ _ _ _ _ _ 0 0 (.pint 1 true) 1 5 rfl rfl (Or.inl rfl), hp, putStep]
  have p : BitBuf.put cfgL.endian { ty := some (.pint 1 true), buffer := 0, remaining := 1 * 8 } 1 5 (2 + 1) =
      some { ty := some (.pint 1 true), buffer := 5, remaining := 5 } := by decide +kernel
  rw [p]
  simp only [Nat.succ_ne_zero, if_false, Except.bind, List.length_nil, Nat.add_zero, zeros_zero, List.nil_append, exB]

theorem ex_write : write cfgL tyA (.record vsA) 0 = .ok [253, 201, 171, 7] := by
  have hl : structLayout cfgL false fsA = .ok (some 4, 2, [some 0, none, some 1, none, some 3]) := by decide +kernel
  rw [tyA, write_struct, hl]
  simp only [Except.bind, exA]
  rfl

end Cstruct.Core.Ex
