/-
  Non-vacuity material for `Proofs/CoreDyn.lean`: three structures with dynamic members and, for each, a value of the
  type and the bytes `write` produces for it. `write` is defined by well-founded recursion, so `decide` cannot evaluate
  it: the equation lemmas are applied member by member and the codecs are evaluated by `decide +kernel`.
-/
import Proofs.Lemmas.CoreDynScalar
import Proofs.Lemmas.CoreBitsUnfold
namespace Cstruct.Core.ExD
open Cstruct Cstruct.Core Cstruct.Core.Lemmas

/-- one member that is not a bit-field, no unit pending: `pad` bytes of padding, the member's bytes, the remaining members -/
theorem nb_step {cfg : Cfg} {al : Bool} {name an ty rest foff offs v vs start pos pad body out bbF}
    (hp : padW cfg al ty foff start pos = pad) (hb : write cfg ty v (pos + pad) = .ok body)
    (hr : writeFields cfg al rest offs vs start BitBuf.empty (pos + (pad + body.length)) = .ok (out, bbF)) :
    writeFields cfg al (.cons name an ty none rest) (foff :: offs) (.cons v vs) start BitBuf.empty pos =
      .ok (zeros pad ++ body ++ out, bbF) := by
  rw [writeFields_nb, hp, hb]
  simp only [Except.bind, List.length_append, length_zeros, hr]

theorem sc_step {cfg : Cfg} {s : Scalar} {a : Nat} {v : Val} {pos : Nat} {bs : Bytes} (h : writeScalar cfg s v = .ok bs) :
    write cfg (.sc s a) v pos = .ok bs := by
  rw [write_sc, h]

def cfgL : Cfg := { endian := .little, ptr := .pint 4 false, ptrAlign := 4, consts := [] }
def u8 : Ty := .sc (.pint 1 false) 1
def u16 : Ty := .sc (.pint 2 false) 2
def ileb : Ty := .sc (.leb true) 1
def chr : Ty := .sc .char 1
def arrA : Ty := .arr u16 (.expr ["n", "*", "2"])
def strS : Ty := .arr chr .nullTerm
def fsT : Fields := .cons "tail" false u8 none .nil
def fsS : Fields := .cons "s" false strS none fsT
def fsV : Fields := .cons "v" false ileb none fsS
def fsA : Fields := .cons "a" false arrA none fsV
/-- `struct { uint8 n; uint16 a[n * 2]; ileb128 v; char s[]; uint8 tail; }` -/
def fsN : Fields := .cons "n" false u8 none fsA
def tyX : Ty := .struct false fsN
def valA : Val := .list (.cons (.int 0x1234) (.cons (.int 7) .nil))
def vsT : Vals := .cons (.int 9) .nil
def vsS : Vals := .cons (.bytes [104, 105]) vsT
def vsV : Vals := .cons (.int (-300)) vsS
def vsA : Vals := .cons valA vsV
/-- `n = 1, a = [0x1234, 7], v = -300, s = b"hi", tail = 9` -/
def vsN : Vals := .cons (.int 1) vsA
def bytesX : Bytes := [1, 0x34, 0x12, 7, 0, 212, 125, 104, 105, 0, 9]

theorem exArr (pos : Nat) : write cfgL arrA valA pos = .ok [0x34, 0x12, 7, 0] := by
  have h1 : writeScalar cfgL (.pint 2 false) (.int 0x1234) = .ok [0x34, 0x12] := by decide +kernel
  have h2 : writeScalar cfgL (.pint 2 false) (.int 7) = .ok [7, 0] := by decide +kernel
  rw [arrA, valA, write_arr_expr_list, writeN_cons, u16, write_sc, h1]
  simp only [Except.bind]
  rw [writeN_cons, write_sc, h2]
  simp only [Except.bind, writeN_nil, List.append_nil, List.cons_append, List.nil_append]

theorem ex_write : write cfgL tyX (.record vsN) 0 = .ok bytesX := by
  have hl : structLayout cfgL false fsN = .ok (none, 2, [some 0, some 1, none, none, none]) := by decide +kernel
  have hN : writeFields cfgL false fsN [some 0, some 1, none, none, none] vsN 0 BitBuf.empty 0 =
      .ok (bytesX, BitBuf.empty) :=
    nb_step (pad := 0) (body := [1]) rfl (sc_step (by decide +kernel))
    (nb_step (pad := 0) rfl (exArr 1)
    (nb_step (pad := 0) (body := [212, 125]) rfl (sc_step (by decide +kernel))
    (nb_step (pad := 0) rfl (write_arr_bytes ..)
    (nb_step (pad := 0) (body := [9]) rfl (sc_step (by decide +kernel)) (writeFields_nil ..)))))
  rw [tyX, write_struct, hl]
  simp only [Except.bind, hN]
  rfl

/-- the value is a value of the type: the array has `n * 2 = 2` elements in the context `{n: 1}` -/
theorem ex_typed : HasTyD cfgL [] (.record vsN) tyX :=
  .struct (.cons (.int rfl (by decide))
    (.cons (.arr (by intro a h; cases h) (by intro a h; cases h) (n := 2) (by decide +kernel)
        (.cons (.int rfl (by decide)) (.cons (.int rfl (by decide)) .nil)))
      (.cons (.leb (by intro h; cases h))
        (.cons (.chars0 (by decide))
          (.cons (.int rfl (by decide)) .nil)))))

/-! Aligned: an expression-length array, a null-terminated string and static members behind it, which are placed by
  padding on the absolute position. -/

def u32 : Ty := .sc (.pint 4 false) 4
def arrQ : Ty := .arr u16 (.expr ["n"])
def gsT : Fields := .cons "tail" false u8 none .nil
def gsX : Fields := .cons "x" false u32 none gsT
def gsS : Fields := .cons "s" false strS none gsX
def gsA : Fields := .cons "a" false arrQ none gsS
/-- `struct { uint8 n; uint16 a[n]; char s[]; uint32 x; uint8 tail; }`, aligned -/
def gsN : Fields := .cons "n" false u8 none gsA
def tyQ : Ty := .struct true gsN
def wsT : Vals := .cons (.int 9) .nil
def wsX : Vals := .cons (.int 0x01020304) wsT
def wsS : Vals := .cons (.bytes [104, 105]) wsX
def wsA : Vals := .cons (.list (.cons (.int 7) .nil)) wsS
/-- `n = 1, a = [7], s = b"hi", x = 0x01020304, tail = 9` -/
def wsN : Vals := .cons (.int 1) wsA
def bytesQ : Bytes := [1, 0, 7, 0, 104, 105, 0, 0, 4, 3, 2, 1, 9, 0, 0, 0]

theorem ex_write_al : write cfgL tyQ (.record wsN) 0 = .ok bytesQ := by
  have hl : structLayout cfgL true gsN = .ok (none, 4, [some 0, some 2, none, none, none]) := by decide +kernel
  have hA (pos : Nat) : write cfgL arrQ (.list (.cons (.int 7) .nil)) pos = .ok [7, 0] := by
    have h2 : writeScalar cfgL (.pint 2 false) (.int 7) = .ok [7, 0] := by decide +kernel
    rw [arrQ, write_arr_expr_list, writeN_cons, u16, write_sc, h2]
    simp only [Except.bind, writeN_nil, List.append_nil]
  have hN : writeFields cfgL true gsN [some 0, some 2, none, none, none] wsN 0 BitBuf.empty 0 =
      .ok ([1, 0, 7, 0, 104, 105, 0, 0, 4, 3, 2, 1, 9], BitBuf.empty) :=
    nb_step (pad := 0) (body := [1]) (by decide +kernel) (sc_step (by decide +kernel))
    (nb_step (pad := 1) (by decide +kernel) (hA 2)
    (nb_step (pad := 0) (by decide +kernel) (write_arr_bytes ..)
    (nb_step (pad := 1) (body := [4, 3, 2, 1]) (by decide +kernel) (sc_step (by decide +kernel))
    (nb_step (pad := 0) (body := [9]) (by decide +kernel) (sc_step (by decide +kernel)) (writeFields_nil ..)))))
  have hp : padNat 13 4 = 3 := by decide +kernel
  rw [tyQ, write_struct, hl]
  simp only [Except.bind, hN, flushBits_empty, List.append_nil, if_true, List.length_cons, List.length_nil, Nat.reduceAdd,
    hp]
  rfl

theorem ex_typed_al : HasTyD cfgL [] (.record wsN) tyQ :=
  .struct (.cons (.int rfl (by decide))
    (.cons (.arr (by intro a h; cases h) (by intro a h; cases h) (n := 1) (by decide +kernel)
        (.cons (.int rfl (by decide)) .nil))
      (.cons (.chars0 (by decide))
        (.cons (.int rfl (by decide))
          (.cons (.int rfl (by decide)) .nil)))))

theorem ex_p2_al : tyQ.pow2Aligned cfgL :=
  ⟨Or.inr ⟨0, rfl⟩, Or.inr ⟨1, rfl⟩, Or.inr ⟨0, rfl⟩, Or.inr ⟨2, rfl⟩, Or.inr ⟨0, rfl⟩, trivial⟩

/-! Aligned with bit-fields: a null-terminated string followed by a run of bit-fields (the second one enum-typed) and a
  static member. -/

def e16 : Ty := .enum (.pint 2 false) 2 false
def hsD : Fields := .cons "d" false u8 none .nil
def hsB : Fields := .cons "b" false e16 (some 5) hsD
def hsA : Fields := .cons "a" false u16 (some 3) hsB
/-- `struct { char s[]; uint16 a:3; E b:5; uint8 d; }`, aligned, `E` an enum over `uint16` -/
def hsS : Fields := .cons "s" false strS none hsA
def tyR : Ty := .struct true hsS
def xsD : Vals := .cons (.int 77) .nil
def xsB : Vals := .cons (.enum 9) xsD
def xsA : Vals := .cons (.int 5) xsB
/-- `s = b"AB", a = 5, b = E(9), d = 77` -/
def xsS : Vals := .cons (.bytes [65, 66]) xsA
def bytesR : Bytes := [65, 66, 0, 0, 77, 0, 77, 0]

/-- `d`, met with the unit of `a` and `b` pending: the unit is flushed first -/
theorem erD : writeFields cfgL true hsD [none] xsD 0 { ty := some (.pint 2 false), buffer := 77, remaining := 8 } 4 =
    .ok ([77, 0, 77], BitBuf.empty) := by
  have f : flushBits cfgL { ty := some (.pint 2 false), buffer := 77, remaining := 8 } = .ok [77, 0] := by decide +kernel
  have h0 : writeFields cfgL true hsD [none] xsD 0 BitBuf.empty 6 = .ok ([77], BitBuf.empty) :=
    nb_step (pad := 0) (body := [77]) (by decide +kernel) (sc_step (by decide +kernel)) (writeFields_nil ..)
  rw [hsD, xsD, writeFields_flush cfgL true _ _ _ _ _ _ _ _ _ _ _ (.pint 2 false) rfl (Or.inl rfl), f]
  rw [hsD, xsD] at h0
  simp only [Except.bind, List.length_cons, List.length_nil, Nat.reduceAdd, h0]
  rfl

/-- `b` continues the unit `a` opened -/
theorem erB : writeFields cfgL true hsB [none, none] xsB 0 { ty := some (.pint 2 false), buffer := 5, remaining := 13 } 4 =
    .ok ([77, 0, 77], BitBuf.empty) := by
  have p : BitBuf.put cfgL.endian { ty := some (.pint 2 false), buffer := 5, remaining := 13 } 2 9 (4 + 1) =
      some { ty := some (.pint 2 false), buffer := 77, remaining := 8 } := by decide +kernel
  rw [hsB, xsB, writeFields_bit_cont cfgL true _ _ _ _ _ _ _ _ 0 4 (.pint 2 false) 2 9 _ rfl rfl (Or.inr rfl) rfl
    (by decide) (fun _ => by decide +kernel), putStep, p]
  simp only [Nat.succ_ne_zero, if_false, Except.bind, List.length_nil, Nat.add_zero, List.nil_append, erD]

/-- `a` opens a unit at the padded absolute position 4 -/
theorem erA : writeFields cfgL true hsA [none, none, none] xsA 0 BitBuf.empty 3 = .ok ([0, 77, 0, 77], BitBuf.empty) := by
  have hp : padW cfgL true u16 none 0 3 = 1 := by decide +kernel
  have p : BitBuf.put cfgL.endian { ty := some (.pint 2 false), buffer := 0, remaining := 2 * 8 } 2 5 (2 + 1) =
      some { ty := some (.pint 2 false), buffer := 5, remaining := 13 } := by decide +kernel
  rw [hsA, xsA, writeFields_bit_new cfgL true _ _ _ _ _ _ _ _ _ 0 3 (.pint 2 false) 2 5 rfl rfl (Or.inl rfl), hp, putStep, p]
  simp only [Nat.succ_ne_zero, if_false, Except.bind, List.length_nil, Nat.add_zero, List.nil_append, Nat.reduceAdd, erB]
  rfl

theorem ex_write_bits : write cfgL tyR (.record xsS) 0 = .ok bytesR := by
  have hl : structLayout cfgL true hsS = .ok (none, 2, [some 0, none, none, none]) := by decide +kernel
  have hS : writeFields cfgL true hsS [some 0, none, none, none] xsS 0 BitBuf.empty 0 =
      .ok ([65, 66, 0, 0, 77, 0, 77], BitBuf.empty) :=
    nb_step (pad := 0) (by decide +kernel) (write_arr_bytes ..) erA
  have hp : padNat 7 2 = 1 := by decide +kernel
  rw [tyR, write_struct, hl]
  simp only [Except.bind, hS, flushBits_empty, List.append_nil, if_true, List.length_cons, List.length_nil, Nat.reduceAdd,
    hp]
  rfl

theorem ex_typed_bits : HasTyD cfgL [] (.record xsS) tyR :=
  .struct (.cons (.chars0 (by decide))
    (.bitsInt (by decide) (by decide) (.bitsEnum (by decide) (by decide) (.cons (.int rfl (by decide)) .nil))))

theorem ex_p2_bits : tyR.pow2Aligned cfgL :=
  ⟨Or.inr ⟨0, rfl⟩, Or.inr ⟨1, rfl⟩, Or.inr ⟨1, rfl⟩, Or.inr ⟨0, rfl⟩, trivial⟩

end Cstruct.Core.ExD
