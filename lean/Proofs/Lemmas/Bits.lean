/-
  Python's bit operations on unbounded integers (`CstructModel/Bits.lean`) in arithmetic form.
-/
import CstructModel.Bits
namespace Cstruct

/-- `M & ~m` for a mask below `2^n`: the complement may be taken inside `n` bits -/
theorem ldiff_lt (M m n : Nat) (hM : M < 2 ^ n) :
    Nat.bitwise (fun a b => a && !b) M m = M &&& (2 ^ n - 1 - m % 2 ^ n) := by
  apply Nat.eq_of_testBit_eq
  intro i
  have h1 : 2 ^ n - 1 - m % 2 ^ n = 2 ^ n - (m % 2 ^ n + 1) := by omega
  rw [Nat.testBit_bitwise (by rfl), Nat.testBit_and, h1,
    Nat.testBit_two_pow_sub_succ (Nat.mod_lt _ (Nat.two_pow_pos n)), Nat.testBit_mod_two_pow]
  by_cases h : i < n
  · simp [h]
  · rw [Nat.testBit_lt_two_pow (Nat.lt_of_lt_of_le hM (Nat.pow_le_pow_right (by decide) (Nat.le_of_not_lt h)))]
    rfl

theorem negSucc_emod_two_pow (m n : Nat) :
    Int.negSucc m % ((2 ^ n : Nat) : Int) = ((2 ^ n - 1 - m % 2 ^ n : Nat) : Int) := by
  have hpos : 0 < 2 ^ n := Nat.two_pow_pos n
  have hlt := Nat.mod_lt m hpos
  rw [Int.negSucc_emod m (by exact_mod_cast hpos), ← Int.natCast_emod]
  omega

theorem land_natCast (x : Int) (M n : Nat) (hM : M < 2 ^ n) :
    land x (M : Int) = ((M &&& (x % ((2 ^ n : Nat) : Int)).toNat : Nat) : Int) := by
  cases x with
  | ofNat m =>
    show ((m &&& M : Nat) : Int) = ((M &&& ((m : Int) % ((2 ^ n : Nat) : Int)).toNat : Nat) : Int)
    have hM' : M &&& (2 ^ n - 1) = M := by rw [Nat.and_two_pow_sub_one_eq_mod, Nat.mod_eq_of_lt hM]
    rw [← Int.natCast_emod, Int.toNat_natCast, ← Nat.and_two_pow_sub_one_eq_mod m n, Nat.and_comm m (2 ^ n - 1),
      ← Nat.and_assoc, hM', Nat.and_comm]
  | negSucc m =>
    show ((Nat.bitwise (fun a b => a && !b) M m : Nat) : Int) = _
    rw [ldiff_lt M m n hM, negSucc_emod_two_pow, Int.toNat_natCast]

theorem shl_one_sub (n : Nat) : shl 1 n - 1 = ((2 ^ n - 1 : Nat) : Int) := by
  have hpos : 0 < 2 ^ n := Nat.two_pow_pos n
  unfold shl
  omega

theorem land_mask (x : Int) (n : Nat) : land x (shl 1 n - 1) = x % ((2 ^ n : Nat) : Int) := by
  have hpos : (0 : Int) < ((2 ^ n : Nat) : Int) := by exact_mod_cast Nat.two_pow_pos n
  have hlt := Int.emod_lt_of_pos x hpos
  have h0 := Int.emod_nonneg x (Int.ne_of_gt hpos)
  rw [shl_one_sub, land_natCast x _ n (by have := Nat.two_pow_pos n; omega), Nat.and_comm,
    Nat.and_two_pow_sub_one_eq_mod, Nat.mod_eq_of_lt (by omega)]
  omega

theorem or_mul_two_pow (n m k : Nat) (h : n < 2 ^ k) : n ||| m * 2 ^ k = n + m * 2 ^ k := by
  rw [Nat.or_comm, Nat.mul_comm, ← Nat.two_pow_add_eq_or_of_lt h, Nat.add_comm]

theorem lor_nat (a b : Nat) : lor (a : Int) (b : Int) = ((a ||| b : Nat) : Int) := rfl

theorem shl_nat (m s : Nat) : shl (m : Int) s = ((m * 2 ^ s : Nat) : Int) := by
  unfold shl; rw [Int.natCast_mul]

end Cstruct
