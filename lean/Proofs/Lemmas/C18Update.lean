/-
  Helper lemmas for `Proofs/C18Update.lean`: the three ways a call of the update protocol can end (`step_cases`) and,
  through them, preservation of the invariant `Inv` and of its one-shot form `InvOneShot`.
-/
import Proofs.Spec.C18Update
import Proofs.Lemmas.C18

namespace Cstruct.C18Update.Lemmas
open Cstruct Cstruct.Commit Cstruct.Update Cstruct.C18.Lemmas Cstruct.Layout

theorem append_assoc : ∀ a b c : Fields, Fields.append (Fields.append a b) c = Fields.append a (Fields.append b c)
  | .nil, _, _ => rfl
  | .cons n an t bits r, b, c => by
    show Fields.cons n an t bits (Fields.append (Fields.append r b) c) = _
    rw [append_assoc r b c]; rfl

theorem length_append : ∀ a b : Fields, (Fields.append a b).length = a.length + b.length
  | .nil, b => by simp [Fields.append, Fields.length]
  | .cons n an t bits r, b => by
    simp only [Fields.append, Fields.length, length_append r b]; omega

theorem length_snoc (a : Fields) (n : String) (an : Bool) (t : Ty) (bits : Option Nat) :
    (Fields.append a (.cons n an t bits .nil)).length = a.length + 1 := by
  rw [length_append]; rfl

theorem length_eq_zero : ∀ a : Fields, a.length = 0 → a = .nil
  | .nil, _ => rfl
  | .cons _ _ _ _ r, h => by simp [Fields.length] at h

theorem layoutP_pad (cfg : Cfg) (al : Bool) : ∀ (fs : Fields) (pre : List (Option Nat)) (st : LState) (n : Nat),
    layoutP cfg al fs (pre ++ List.replicate n none) st = layoutP cfg al fs pre st
  | .nil, pre, st, n => by rw [layoutP, layoutP]
  | .cons nm an ty bits rest, pre, st, n => by
    rw [layoutP_cons, layoutP_cons]
    cases pre with
    | nil =>
      have h1 : (List.replicate n (none : Option Nat)).headD none = none := by cases n <;> rfl
      have h2 : (List.replicate n (none : Option Nat)).drop 1 = [] ++ List.replicate (n - 1) none := by
        cases n <;> simp [List.replicate]
      have h3 : leadOf (List.replicate n none) st = leadOf [] st := by unfold leadOf; rw [h1]; rfl
      simp only [List.nil_append]
      rw [h1, h2, h3]
      exact cont_congr (fun s => layoutP_pad cfg al rest [] s (n - 1))
    | cons x p =>
      show cont (stepL cfg al ty bits (leadOf (x :: (p ++ List.replicate n none)) st) x st)
        (layoutP cfg al rest (p ++ List.replicate n none)) = cont (stepL cfg al ty bits (leadOf (x :: p) st) x st)
        (layoutP cfg al rest p)
      have h3 : leadOf (x :: (p ++ List.replicate n none)) st = leadOf (x :: p) st := rfl
      rw [h3]
      exact cont_congr (fun s => layoutP_pad cfg al rest p s n)

theorem view_ok {cfg : Cfg} {al : Bool} {fs : Fields} {p : List (Option Nat)} {L : Layout}
    (h : view cfg al fs p = .ok L) : commit cfg al fs p = .ok L := by
  unfold view at h
  split at h
  · cases h
  · exact h

/-- the state in which a call reaches its `commit()`, or returns when it does not commit -/
def pre (s : UState) : Op → UState
  | .addField n ty bits =>
    { s with fields := Fields.append s.fields (.cons n false ty bits .nil), persisted := s.persisted ++ [none], commitErr := none }
  | .addFieldFails => { s with commitErr := none }
  | .enter => { s with updating := true, commitErr := none }
  | _ => s

def isExit : Op → Bool
  | .exitOk | .exitExc => true
  | _ => false

theorem pre_atCommit (s : UState) (op : Op) : ((pre s op).fields, (pre s op).persisted) = atCommit s op := by
  cases op <;> rfl

theorem pre_cfields (s : UState) (op : Op) : (pre s op).cfields = s.cfields := by cases op <;> rfl
theorem pre_layout (s : UState) (op : Op) : (pre s op).layout = s.layout := by cases op <;> rfl
theorem pre_broken (s : UState) (op : Op) : (pre s op).broken = s.broken := by cases op <;> rfl

theorem pre_fields (s : UState) (op : Op) : ∃ hs, (pre s op).fields = Fields.append s.fields hs := by
  cases op with
  | addField n ty bits => exact ⟨_, rfl⟩
  | _ => exact ⟨.nil, (append_nil _).symm⟩

theorem pre_commitErr {s : UState} {op : Op} (hc : commits s op = false) : (pre s op).commitErr = none := by
  cases op <;> first | rfl | cases hc

theorem pre_updating {s : UState} {op : Op} (hc : commits s op = true) : (pre s op).updating = s.updating := by
  cases op <;> first | rfl | cases hc

/-- **The three ways a call can end**: without a commit; with a commit that returned (the class is rebuilt from the list
    at that moment, and leaving a block clears the flag); with a commit that raised (no class attribute changes, the flag
    stays, only offsets on the Field objects may have been written). -/
theorem step_cases (cfg : Cfg) (al : Bool) (s : UState) (op : Op) :
    (commits s op = false ∧ step cfg al s op = pre s op) ∨
    (commits s op = true ∧ ∃ sz a offs, view cfg al (pre s op).fields (pre s op).persisted = .ok (sz, a, offs) ∧
      step cfg al s op = { pre s op with persisted := offs, cfields := (pre s op).fields, layout := (sz, a, offs),
                                         commitErr := none, updating := !isExit op && (pre s op).updating }) ∨
    (commits s op = true ∧ ∃ e p, view cfg al (pre s op).fields (pre s op).persisted = .error e ∧
      step cfg al s op = { pre s op with persisted := p, commitErr := some e, broken := true }) := by
  have hshape : step cfg al s op =
      if commits s op then (if isExit op then exitStep cfg al (pre s op) else commitStep cfg al (pre s op)) else pre s op := by
    cases op <;> try rfl
    rename_i n ty bits
    show (if s.updating = true then pre s (.addField n ty bits) else commitStep cfg al (pre s (.addField n ty bits))) =
      if (!s.updating) = true then commitStep cfg al (pre s (.addField n ty bits)) else pre s (.addField n ty bits)
    cases s.updating <;> rfl
  rw [hshape]
  cases hc : commits s op with
  | false => exact .inl ⟨rfl, rfl⟩
  | true =>
    refine .inr ?_
    simp only [if_true]
    unfold exitStep commitStep
    cases hv : view cfg al (pre s op).fields (pre s op).persisted with
    | ok L =>
      obtain ⟨sz, a, offs⟩ := L
      refine .inl ⟨trivial, sz, a, offs, rfl, ?_⟩
      cases isExit op <;> simp
    | error e =>
      refine .inr ⟨trivial, e, if hasDup (names (pre s op).fields) [] then (pre s op).persisted
        else writesP cfg al (pre s op).fields (pre s op).persisted LState.init, rfl, ?_⟩
      cases isExit op <;> rfl

theorem step_not_broken {cfg : Cfg} {al : Bool} {s : UState} {op : Op} (h : (step cfg al s op).broken = false) :
    s.broken = false := by
  rcases step_cases cfg al s op with ⟨_, e⟩ | ⟨_, _, _, _, _, e⟩ | ⟨_, _, _, _, e⟩ <;> rw [e] at h
  · exact (pre_broken s op).symm.trans h
  · exact (pre_broken s op).symm.trans h
  · cases h

theorem run_not_broken {cfg : Cfg} {al : Bool} : ∀ {ops : List Op} {s : UState}, (run cfg al s ops).broken = false →
    s.broken = false
  | [], _, h => h
  | _ :: ops, _, h => step_not_broken (run_not_broken (ops := ops) h)

theorem step_fields (cfg : Cfg) (al : Bool) (s : UState) (op : Op) :
    ∃ hs, (step cfg al s op).fields = Fields.append s.fields hs := by
  rcases step_cases cfg al s op with ⟨_, e⟩ | ⟨_, _, _, _, _, e⟩ | ⟨_, _, _, _, e⟩ <;> rw [e] <;> exact pre_fields s op

theorem run_fields (cfg : Cfg) (al : Bool) : ∀ (ops : List Op) (s : UState),
    ∃ hs, (run cfg al s ops).fields = Fields.append s.fields hs
  | [], s => ⟨.nil, (append_nil _).symm⟩
  | op :: ops, s => by
    obtain ⟨h1, e1⟩ := step_fields cfg al s op
    obtain ⟨h2, e2⟩ := run_fields cfg al ops (step cfg al s op)
    exact ⟨Fields.append h1 h2, by rw [run, e2, e1, append_assoc]⟩

theorem step_prefix {cfg : Cfg} {al : Bool} {s : UState} (op : Op) (h : IsPrefix s.cfields s.fields) :
    IsPrefix (step cfg al s op).cfields (step cfg al s op).fields := by
  have hp : IsPrefix (pre s op).cfields (pre s op).fields := by
    obtain ⟨gs, hg⟩ := h
    obtain ⟨hs, e⟩ := pre_fields s op
    exact ⟨Fields.append gs hs, by rw [pre_cfields, e, hg, append_assoc]⟩
  rcases step_cases cfg al s op with ⟨_, e⟩ | ⟨_, _, _, _, _, e⟩ | ⟨_, _, _, _, e⟩ <;> rw [e]
  · exact hp
  · exact ⟨.nil, (append_nil _).symm⟩
  · exact hp

theorem run_prefix {cfg : Cfg} {al : Bool} : ∀ (ops : List Op) {s : UState}, IsPrefix s.cfields s.fields →
    IsPrefix (run cfg al s ops).cfields (run cfg al s ops).fields
  | [], _, h => h
  | op :: ops, _, h => run_prefix ops (step_prefix op h)

theorem padNat_zero_zero : padNat 0 0 = 0 := by
  show (land 0 (0 - 1)).toNat = 0
  rw [C04.Lemmas.land_zero_left]; rfl

theorem layout_nil_init (cfg : Cfg) (al : Bool) : Fields.layout cfg al .nil LState.init = .ok (some 0, 0, []) := by
  cases al
  · rfl
  · rw [Fields.layout]
    simp only [LState.init, ↓reduceIte, padNat_zero_zero]

/-- `__fields__` runs ahead of the committed list by `gs`, whose Field objects carry no offset yet -/
def Ahead (s : UState) (gs : Fields) : Prop :=
  s.fields = Fields.append s.cfields gs ∧ s.persisted = s.layout.2.2 ++ List.replicate gs.length none

theorem ahead_pre {s : UState} (op : Op) {gs : Fields} (h : Ahead s gs) (hn : s.updating = false → gs = .nil) :
    ∃ gs', Ahead (pre s op) gs' ∧ (commits s op = false → (pre s op).updating = false → gs' = .nil) := by
  cases op with
  | addField n ty bits =>
    refine ⟨Fields.append gs (.cons n false ty bits .nil), ⟨?_, ?_⟩, fun hc hu => ?_⟩
    · show Fields.append s.fields _ = _
      rw [h.1, append_assoc]; rfl
    · show s.persisted ++ [none] = _
      rw [h.2, length_snoc, List.replicate_succ', List.append_assoc]; rfl
    · rw [show (pre s (.addField n ty bits)).updating = s.updating from rfl] at hu
      rw [commits, hu] at hc
      cases hc
  | addFieldFails => exact ⟨gs, h, fun _ => hn⟩
  | enter => exact ⟨gs, h, fun _ hu => nomatch hu⟩
  | exitOk => exact ⟨gs, h, fun hc => nomatch hc⟩
  | exitExc => exact ⟨gs, h, fun hc => nomatch hc⟩
  | commit => exact ⟨gs, h, fun hc => nomatch hc⟩

theorem inv_init (cfg : Cfg) (al : Bool) : Inv cfg al UState.init := by
  refine ⟨.nil, rfl, ⟨[], ?_⟩, rfl, fun _ => rfl⟩
  have h := fresh cfg al .nil LState.init 0
  rw [layout_nil_init] at h
  show (if hasDup (names .nil) [] = true then _ else commit cfg al .nil []) = _
  simp only [names, hasDup, Bool.false_eq_true, ↓reduceIte]
  exact h

theorem step_inv {cfg : Cfg} {al : Bool} {s : UState} (op : Op) (h : Inv cfg al s)
    (hb : (step cfg al s op).broken = false) : Inv cfg al (step cfg al s op) := by
  obtain ⟨gs, hf, hv, hp, hn⟩ := h
  rcases step_cases cfg al s op with ⟨hc, e⟩ | ⟨_, sz, a, offs, hv', e⟩ | ⟨_, _, _, _, e⟩ <;> rw [e] at hb ⊢
  · obtain ⟨gs', ha, hn'⟩ := ahead_pre op ⟨hf, hp⟩ hn
    exact ⟨gs', ha.1, by rw [pre_cfields, pre_layout]; exact hv, ha.2, hn' hc⟩
  · exact ⟨.nil, (append_nil _).symm, ⟨_, hv'⟩, (List.append_nil _).symm, fun _ => rfl⟩
  · cases hb

theorem run_inv {cfg : Cfg} {al : Bool} : ∀ (ops : List Op) {s : UState}, Inv cfg al s →
    (run cfg al s ops).broken = false → Inv cfg al (run cfg al s ops)
  | [], _, h, _ => h
  | op :: ops, _, h, hb => run_inv ops (step_inv op h (run_not_broken (ops := ops) hb)) hb

theorem ahead_outside {s : UState} {gs : Fields} (h : Ahead s gs) (hn : gs = .nil) :
    s.cfields = s.fields ∧ s.persisted = s.layout.2.2 := by
  subst hn
  exact ⟨((append_nil _).symm.trans h.1.symm), h.2.trans (List.append_nil _)⟩

theorem inv_consistent {cfg : Cfg} {al : Bool} {s : UState} (h : Inv cfg al s) : Consistent cfg al s := by
  intro hu
  obtain ⟨gs, hf, ⟨p, hv⟩, hp, hn⟩ := h
  obtain ⟨h1, h2⟩ := ahead_outside ⟨hf, hp⟩ (hn hu)
  exact ⟨h1, ⟨p, h1 ▸ hv⟩, h2⟩

theorem one_init (cfg : Cfg) (al : Bool) : InvOneShot cfg al UState.init :=
  ⟨.nil, rfl, layout_nil_init cfg al, rfl, fun _ => rfl⟩

theorem step_one {cfg : Cfg} {al : Bool} {s : UState} (op : Op) (h : InvOneShot cfg al s)
    (hg : Restep cfg al (step cfg al s op).fields) (hb : (step cfg al s op).broken = false) :
    InvOneShot cfg al (step cfg al s op) := by
  obtain ⟨gs, hf, hl, hp, hn⟩ := h
  obtain ⟨gs', ⟨hf', hp'⟩, hn'⟩ := ahead_pre op ⟨hf, hp⟩ hn
  rcases step_cases cfg al s op with ⟨hc, e⟩ | ⟨_, sz, a, offs, hv, e⟩ | ⟨_, _, _, _, e⟩ <;> rw [e] at hb hg ⊢
  · exact ⟨gs', hf', by rw [pre_cfields, pre_layout]; exact hl, hp', hn' hc⟩
  · refine ⟨.nil, (append_nil _).symm, ?_, (List.append_nil _).symm, fun _ => rfl⟩
    -- the fields reached the commit with the one-shot offsets of the committed list and none on the rest
    rw [pre_cfields] at hf'
    rw [pre_layout] at hp'
    have hc' := view_ok hv
    rw [hp', commit, layoutP_pad] at hc'
    rw [← hc', hf']
    exact (layoutP_extend cfg al s.cfields gs' LState.init s.layout.1 s.layout.2.1 s.layout.2.2
      (restep_append_left cfg al _ gs' (hf' ▸ hg)) hl).symm
  · cases hb

/-- `Restep` of the final `__fields__` suffices: every list the run passes through is a prefix of it -/
theorem run_one {cfg : Cfg} {al : Bool} : ∀ (ops : List Op) {s : UState}, InvOneShot cfg al s →
    Restep cfg al (run cfg al s ops).fields → (run cfg al s ops).broken = false → InvOneShot cfg al (run cfg al s ops)
  | [], _, h, _, _ => h
  | op :: ops, s, h, hg, hb => by
    obtain ⟨hs, e⟩ := run_fields cfg al ops (step cfg al s op)
    exact run_one ops (step_one op h (restep_append_left cfg al _ hs (e ▸ hg)) (run_not_broken (ops := ops) hb)) hg hb

theorem one_result {cfg : Cfg} {al : Bool} {s : UState} (h : InvOneShot cfg al s) :
    Fields.layout cfg al s.cfields LState.init = .ok s.layout ∧
    (s.updating = false →
      s.cfields = s.fields ∧ Fields.layout cfg al s.fields LState.init = .ok s.layout ∧ s.persisted = s.layout.2.2) := by
  obtain ⟨gs, hf, hl, hp, hn⟩ := h
  refine ⟨hl, fun hu => ?_⟩
  obtain ⟨h1, h2⟩ := ahead_outside ⟨hf, hp⟩ (hn hu)
  exact ⟨h1, h1 ▸ hl, h2⟩

theorem writesP_cons_ok (cfg : Cfg) (al : Bool) (n : String) (an : Bool) (ty : Ty) (bits : Option Nat) (rest : Fields)
    (pre : List (Option Nat)) (st st' : LState) (foff : Option Nat)
    (h : stepL cfg al ty bits (leadOf pre st) (pre.headD none) st = .ok (st', foff)) :
    writesP cfg al (.cons n an ty bits rest) pre st = foff :: writesP cfg al rest (pre.drop 1) st' := by
  cases bits with
  | none =>
    simp only [stepL, Except.ok.injEq, Prod.mk.injEq] at h
    rw [writesP]
    · obtain ⟨h1, h2⟩ := h
      rw [← h1, ← h2]; rfl
    · intro b hb; cases hb
  | some b =>
    cases b with
    | zero =>
      simp only [stepL, Except.ok.injEq, Prod.mk.injEq] at h
      rw [writesP]
      · obtain ⟨h1, h2⟩ := h
        rw [← h1, ← h2]; rfl
      · intro b hb; cases hb
    | succ b =>
      rw [writesP]
      unfold stepL at h
      cases hb : ty.bitBase with
      | none => rw [hb] at h; cases h
      | some ft =>
        rw [hb] at h
        dsimp only at h ⊢
        cases hs : ft.size with
        | none => rw [hs] at h; cases h
        | some fsz =>
          rw [hs] at h
          dsimp only at h ⊢
          change (match third st ft (offOf al (ty.alignment cfg) (leadOf pre st)) with
            | .error e => _
            | .ok nu => _) = _ at h
          show (match third st ft (offOf al (ty.alignment cfg) (leadOf pre st)) with
            | .error e => _
            | .ok nu => _) = _
          cases ht : third st ft (offOf al (ty.alignment cfg) (leadOf pre st)) with
          | error e => rw [ht] at h; cases h
          | ok nu =>
            rw [ht] at h
            cases nu with
            | false =>
              simp only [Bool.false_eq_true, ↓reduceIte] at h ⊢
              split at h
              · cases h
              · rename_i hr
                simp only [Except.ok.injEq, Prod.mk.injEq] at h
                obtain ⟨h1, h2⟩ := h
                subst h2
                simp only [hr, ↓reduceIte, ← h1]
                rfl
            | true =>
              simp only [↓reduceIte] at h ⊢
              split at h
              · cases h
              · rename_i hr
                simp only [Except.ok.injEq, Prod.mk.injEq] at h
                obtain ⟨h1, h2⟩ := h
                subst h2
                simp only [hr, ↓reduceIte, ← h1]
                rfl

theorem writesP_ok (cfg : Cfg) (al : Bool) : ∀ (fs : Fields) (pre : List (Option Nat)) (st : LState) (sz : Option Nat) (a : Nat)
    (offs : List (Option Nat)), layoutP cfg al fs pre st = .ok (sz, a, offs) → writesP cfg al fs pre st = offs
  | .nil, pre, st, sz, a, offs, h => by
    rw [layoutP] at h
    simp only [Except.ok.injEq, Prod.mk.injEq] at h
    rw [writesP, ← h.2.2]
  | .cons n an ty bits rest, pre, st, sz, a, offs, h => by
    rw [layoutP_cons] at h
    obtain ⟨st', foff, offs', hs, hk, rfl⟩ := cont_ok_inv h
    rw [writesP_cons_ok cfg al n an ty bits rest pre st st' foff hs, writesP_ok cfg al rest _ _ _ _ _ hk]

end Cstruct.C18Update.Lemmas
