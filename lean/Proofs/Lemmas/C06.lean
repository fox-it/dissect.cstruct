/-
  Helper lemmas for C06: the masks and shifts of `BitBuf.take` / `BitBuf.put` in arithmetic form, and one read or write
  step under the invariants `ReadInv` / `WriteInv`.
-/
import Proofs.Spec.C06
import Proofs.Lemmas.Bits
namespace Cstruct.C06.Lemmas
open Cstruct Cstruct.C06


theorem and_bigmask_div (r lo hi : Nat) :
    (((2 ^ lo - 1) ^^^ (2 ^ hi - 1)) &&& r) / 2 ^ lo = r / 2 ^ lo % 2 ^ (hi - lo) := by
  apply Nat.eq_of_testBit_eq
  intro i
  rw [Nat.testBit_div_two_pow, Nat.testBit_and, Nat.testBit_xor, Nat.testBit_two_pow_sub_one,
    Nat.testBit_two_pow_sub_one, Nat.testBit_mod_two_pow, Nat.testBit_div_two_pow,
    decide_eq_false (Nat.not_lt.2 (Nat.le_add_left lo i)), Bool.false_xor,
    show decide (i + lo < hi) = decide (i < hi - lo) from decide_eq_decide.2 (by omega)]

/-- a slot that lies inside the low `W` bits only depends on the unit modulo `2^W` (signed storage types load the unit as
    a negative number) -/
theorem slotVal_emod (u : Int) (W lo b : Nat) (h : lo + b ≤ W) :
    slotVal (u % ((2 ^ W : Nat) : Int)) lo b = slotVal u lo b := by
  have hW : ((2 ^ W : Nat) : Int) = ((2 ^ lo : Nat) : Int) * (((2 ^ b : Nat) : Int) * ((2 ^ (W - lo - b) : Nat) : Int)) := by
    rw [← Int.natCast_mul, ← Int.natCast_mul, ← Nat.pow_add, ← Nat.pow_add]
    congr 2; omega
  have hlo : ((2 ^ lo : Nat) : Int) ≠ 0 := Int.natCast_ne_zero.2 (Nat.ne_of_gt (Nat.two_pow_pos lo))
  have hu := Int.emod_add_mul_ediv u ((2 ^ W : Nat) : Int)
  generalize u % ((2 ^ W : Nat) : Int) = r at hu ⊢
  rw [hW, Int.mul_assoc, Int.mul_assoc] at hu
  unfold slotVal
  rw [← hu, Int.add_mul_ediv_left _ _ hlo, Int.add_mul_emod_self_left]

theorem slotLo_le (e : Endian) (W k w : Nat) (h : k + w ≤ W) : slotLo e W k w + w ≤ W := by
  cases e <;> simp only [slotLo] <;> omega

/-- the big-endian extraction `(x & (((1 << lo) - 1) ^ ((1 << hi) - 1))) >> lo` is bits `[lo, hi)` of `x`,
    for every integer -/
theorem land_bigmask (x : Int) (lo hi : Nat) (h : lo ≤ hi) :
    shr (land x (lxor (shl 1 lo - 1) (shl 1 hi - 1))) lo = slotVal x lo (hi - lo) := by
  have hlt : (2 ^ lo - 1) ^^^ (2 ^ hi - 1) < 2 ^ hi :=
    Nat.xor_lt_two_pow (Nat.lt_of_lt_of_le (Nat.sub_one_lt (Nat.ne_of_gt (Nat.two_pow_pos lo)))
      (Nat.pow_le_pow_right (by decide) h)) (Nat.sub_one_lt (Nat.ne_of_gt (Nat.two_pow_pos hi)))
  have hpos : (0 : Int) < ((2 ^ hi : Nat) : Int) := by exact_mod_cast Nat.two_pow_pos hi
  rw [shl_one_sub, shl_one_sub]
  show shr (land x (((2 ^ lo - 1) ^^^ (2 ^ hi - 1) : Nat) : Int)) lo = _
  rw [land_natCast x _ hi hlt, ← slotVal_emod x hi lo (hi - lo) (by omega)]
  obtain ⟨r, hr⟩ := Int.eq_ofNat_of_zero_le (Int.emod_nonneg x (Int.ne_of_gt hpos))
  rw [hr, Int.toNat_natCast]
  show (((_ &&& r) / 2 ^ lo : Nat) : Int) = ((r / 2 ^ lo % 2 ^ (hi - lo) : Nat) : Int)
  rw [and_bigmask_div]


theorem or_big (n m r b : Nat) (hb : b ≤ r) (h : m < 2 ^ b) :
    n * 2 ^ r ||| m * 2 ^ (r - b) = (n * 2 ^ b + m) * 2 ^ (r - b) := by
  have hr : 2 ^ r = 2 ^ b * 2 ^ (r - b) := by rw [← Nat.pow_add, Nat.add_sub_cancel' hb]
  rw [hr, ← Nat.mul_assoc]
  simp only [← Nat.shiftLeft_eq]
  rw [← Nat.shiftLeft_or_distrib, Nat.shiftLeft_add_eq_or_of_lt h n]


theorem slotVal_bounds (u : Int) (lo b : Nat) : 0 ≤ slotVal u lo b ∧ slotVal u lo b < 2 ^ b := by
  have hpos : (0 : Int) < ((2 ^ b : Nat) : Int) := by exact_mod_cast Nat.two_pow_pos b
  refine ⟨Int.emod_nonneg _ (Int.ne_of_gt hpos), ?_⟩
  have := Int.emod_lt_of_pos (u / ((2 ^ lo : Nat) : Int)) hpos
  exact_mod_cast this

theorem take_step (e : Endian) (w k b : Nat) (u : Int) (bb : BitBuf) (hinv : ReadInv e w u k bb) (hb : k + b ≤ w) :
    ∃ bb', bb.take e b = some (slotVal u (slotLo e w k b) b, bb') ∧ ReadInv e w u (k + b) bb' ∧
      0 ≤ slotVal u (slotLo e w k b) b ∧ slotVal u (slotLo e w k b) b < 2 ^ b := by
  obtain ⟨ty, buf, rem⟩ := bb
  obtain ⟨hk, hrem, hbuf⟩ := hinv
  simp only at hrem hbuf
  subst hrem
  have hle : b ≤ w - k := Nat.le_sub_of_add_le' hb
  cases e with
  | little =>
    refine ⟨⟨ty, shr buf b, w - k - b⟩, ?_, ⟨hb, Nat.sub_sub w k b, ?_⟩, slotVal_bounds _ _ _⟩
    · rw [BitBuf.take, if_neg (Nat.not_lt.2 hle)]
      simp only [land_mask, hbuf]
      rfl
    · show shr buf b = u / ((2 ^ (k + b) : Nat) : Int)
      rw [hbuf, shr, Int.ediv_ediv_of_nonneg (Int.natCast_nonneg _), ← Int.natCast_mul, ← Nat.pow_add]
  | big =>
    refine ⟨⟨ty, buf, w - k - b⟩, ?_, ⟨hb, Nat.sub_sub w k b, hbuf⟩, slotVal_bounds _ _ _⟩
    rw [BitBuf.take, if_neg (Nat.not_lt.2 hle)]
    simp only [land_bigmask _ _ _ (Nat.sub_le (w - k) b), Nat.sub_sub_self hle, hbuf]
    rfl


theorem starts_bounds : ∀ (bs : List Nat) (k n : Nat), n < bs.length →
    k ≤ (starts bs k).getD n 0 ∧ (starts bs k).getD n 0 + bs.getD n 0 ≤ k + bs.sum
  | [], _, _, h => by simp at h
  | b :: r, k, 0, _ => by simp [starts]
  | b :: r, k, n + 1, h => by
    have := starts_bounds r (k + b) n (by simpa using h)
    simp only [starts, List.getD_cons_succ, List.sum_cons]
    omega

theorem starts_mono : ∀ (bs : List Nat) (k i j : Nat), i < j → j < bs.length →
    (starts bs k).getD i 0 + bs.getD i 0 ≤ (starts bs k).getD j 0
  | [], _, _, _, _, h => by simp at h
  | _ :: _, _, _, 0, h, _ => by omega
  | b :: r, k, 0, j + 1, _, hj => by
    have := (starts_bounds r (k + b) j (by simpa using hj)).1
    simpa [starts] using this
  | b :: r, k, i + 1, j + 1, hij, hj => by
    have := starts_mono r (k + b) i j (by omega) (by simpa using hj)
    simpa [starts] using this

theorem partition (e : Endian) (w : Nat) (bs : List Nat) (hsum : bs.sum ≤ w) (i j : Nat) (hij : i < j)
    (hj : j < bs.length) :
    let ks := starts bs 0
    let lo (n : Nat) := slotLo e w (ks.getD n 0) (bs.getD n 0)
    (lo i + bs.getD i 0 ≤ lo j ∨ lo j + bs.getD j 0 ≤ lo i) ∧ lo i + bs.getD i 0 ≤ w ∧ lo j + bs.getD j 0 ≤ w := by
  intro ks lo
  have hi' := starts_bounds bs 0 i (by omega)
  have hj' := starts_bounds bs 0 j hj
  have hm := starts_mono bs 0 i j hij hj
  cases e <;> simp only [lo, ks, slotLo] <;> omega


theorem takeAll_spec (e : Endian) (w : Nat) (u : Int) : ∀ (bs : List Nat) (k : Nat) (bb : BitBuf),
    ReadInv e w u k bb → k + bs.sum ≤ w →
    ∃ bb', takeAll e bb bs = some ((bs.zip (starts bs k)).map (fun (b, k) => slotVal u (slotLo e w k b) b), bb') ∧
      ReadInv e w u (k + bs.sum) bb'
  | [], k, bb, hinv, _ => ⟨bb, rfl, hinv⟩
  | b :: r, k, bb, hinv, hs => by
    rw [List.sum_cons, ← Nat.add_assoc] at hs
    obtain ⟨bb1, ht, hinv1, _⟩ := take_step e w k b u bb hinv (Nat.le_trans (Nat.le_add_right _ _) hs)
    obtain ⟨bb2, hta, hinv2⟩ := takeAll_spec e w u r (k + b) bb1 hinv1 hs
    refine ⟨bb2, ?_, by rw [List.sum_cons, ← Nat.add_assoc]; exact hinv2⟩
    simp only [takeAll, ht, hta, starts, List.zip_cons_cons, List.map_cons]

theorem readInv_init (e : Endian) (w : Nat) (u : Int) (t : Option Scalar) :
    ReadInv e w u 0 { ty := t, buffer := u, remaining := w } := by
  cases e <;> simp [ReadInv]


/-- after `k` bits were put into a unit of `W` bits the accumulated fields form the number `n` (`< 2^k`): little
    endian holds it as is, big endian holds it shifted to the most significant end -/
def WriteInv (e : Endian) (W k n : Nat) (bb : BitBuf) : Prop :=
  bb.remaining = W - k ∧
  match e with
  | .little => bb.buffer = ((n : Nat) : Int)
  | .big => bb.buffer = ((n * 2^(W - k) : Nat) : Int)

/-- the accumulated number after one more field `m` of `b` bits -/
def acc (e : Endian) (k n m b : Nat) : Nat :=
  match e with
  | .little => n + m * 2^k
  | .big => n * 2^b + m

theorem acc_lt (e : Endian) (k n m b : Nat) (hn : n < 2^k) (hm : m < 2^b) : acc e k n m b < 2^(k + b) := by
  rw [Nat.pow_add]
  cases e with
  | little =>
    show n + m * 2^k < 2^k * 2^b
    have h1 : (m + 1) * 2^k ≤ 2^b * 2^k := Nat.mul_le_mul_right _ hm
    rw [Nat.add_mul, Nat.one_mul, Nat.mul_comm (2^b)] at h1
    omega
  | big =>
    show n * 2^b + m < 2^k * 2^b
    have h1 : (n + 1) * 2^b ≤ 2^k * 2^b := Nat.mul_le_mul_right _ hn
    rw [Nat.add_mul, Nat.one_mul] at h1
    omega

theorem put_step (e : Endian) (size k n b m : Nat) (bb : BitBuf) (hinv : WriteInv e (8 * size) k n bb)
    (hn : n < 2^k) (hm : m < 2^b) (hb : k + b ≤ 8 * size) :
    ∃ bb', bb.put e size (m : Int) b = some bb' ∧ WriteInv e (8 * size) (k + b) (acc e k n m b) bb' := by
  obtain ⟨ty, buf, rem⟩ := bb
  obtain ⟨hrem, hbuf⟩ := hinv
  simp only at hrem hbuf
  subst hrem
  have hle : b ≤ 8 * size - k := Nat.le_sub_of_add_le' hb
  have hrange : ¬ ((m : Int) < 0 ∨ (m : Int) ≥ shl 1 b) := by
    have h1 : ((m : Nat) : Int) < ((2 ^ b : Nat) : Int) := Int.ofNat_lt.mpr hm
    unfold shl
    omega
  have hnot : ¬ b > 8 * size - k := Nat.not_lt.2 hle
  cases e with
  | little =>
    refine ⟨⟨ty, lor buf (shl (m : Int) (size * 8 - (8 * size - k))), 8 * size - k - b⟩,
      by simp only [BitBuf.put, if_neg hnot, if_neg hrange], Nat.sub_sub _ k b, ?_⟩
    show lor buf _ = ((n + m * 2^k : Nat) : Int)
    rw [Nat.mul_comm size 8, Nat.sub_sub_self (Nat.le_trans (Nat.le_add_right k b) hb), hbuf, shl_nat, lor_nat,
      or_mul_two_pow n m k hn]
  | big =>
    refine ⟨⟨ty, lor buf (shl (m : Int) (8 * size - k - b)), 8 * size - k - b⟩,
      by simp only [BitBuf.put, if_neg hnot, if_neg hrange], Nat.sub_sub _ k b, ?_⟩
    show lor buf _ = (((n * 2^b + m) * 2^(8 * size - (k + b)) : Nat) : Int)
    rw [hbuf, shl_nat, lor_nat, or_big n m (8 * size - k) b hle hm, Nat.sub_sub]

theorem little_rel (nF n m k b : Nat) (hn : n < 2^k) (h : nF % 2^(k + b) = n + m * 2^k) :
    nF % 2^k = n ∧ nF / 2^k % 2^b = m := by
  have hpos : 0 < 2^k := Nat.two_pow_pos k
  constructor
  · have hd : 2^k ∣ 2^(k + b) := Nat.pow_dvd_pow 2 (by omega)
    rw [← Nat.mod_mod_of_dvd nF hd, h, Nat.add_mul_mod_self_right, Nat.mod_eq_of_lt hn]
  · rw [← Nat.mod_mul_right_div_self, ← Nat.pow_add, h, Nat.add_mul_div_right _ _ hpos, Nat.div_eq_of_lt hn,
      Nat.zero_add]

theorem big_rel (nF n m b s : Nat) (hm : m < 2^b) (h : nF / 2^s = n * 2^b + m) :
    nF / 2^(b + s) = n ∧ nF / 2^s % 2^b = m := by
  have hpos : 0 < 2^b := Nat.two_pow_pos b
  constructor
  · rw [Nat.add_comm, Nat.pow_add, ← Nat.div_div_eq_div_mul, h, Nat.add_comm, Nat.add_mul_div_right _ _ hpos,
      Nat.div_eq_of_lt hm, Nat.zero_add]
  · rw [h, Nat.mul_add_mod_of_lt hm]

theorem slotVal_nat (x lo b : Nat) : slotVal (x : Int) lo b = ((x / 2^lo % 2^b : Nat) : Int) := rfl

/-- The induction runs forward over the fields; the slot of the first field is recovered from the tail's final number
    `nF` by `little_rel` / `big_rel`, which is why the conclusion says where `n` sits in `nF`. -/
theorem putAll_spec (e : Endian) (size : Nat) : ∀ (fs : List (Int × Nat)) (k n : Nat) (bb : BitBuf),
    WriteInv e (8 * size) k n bb → n < 2^k → (∀ p ∈ fs, 0 ≤ p.1 ∧ p.1 < 2 ^ p.2) →
    k + (fs.map (·.2)).sum ≤ 8 * size →
    ∃ bbF nF, putAll e size bb fs = some bbF ∧ WriteInv e (8 * size) (k + (fs.map (·.2)).sum) nF bbF ∧
      nF < 2^(k + (fs.map (·.2)).sum) ∧
      (match e with
       | .little => nF % 2^k = n
       | .big => nF / 2^((fs.map (·.2)).sum) = n) ∧
      ((fs.map (·.2)).zip (starts (fs.map (·.2)) k)).map
        (fun (b, k) => slotVal bbF.buffer (slotLo e (8 * size) k b) b) = fs.map (·.1)
  | [], k, n, bb, hinv, hn, _, _ => by
    refine ⟨bb, n, rfl, by simpa using hinv, by simpa using hn, ?_, by simp [starts]⟩
    cases e
    · exact Nat.mod_eq_of_lt hn
    · simp
  | (v, b) :: r, k, n, bb, hinv, hn, hfit, hs => by
    simp only [List.map_cons, List.sum_cons] at hs ⊢
    obtain ⟨hv0, hvlt⟩ := hfit (v, b) (by simp)
    obtain ⟨m, rfl⟩ := Int.eq_ofNat_of_zero_le hv0
    simp only at hvlt
    have hm : m < 2^b := by exact_mod_cast hvlt
    obtain ⟨bb1, hput, hinv1⟩ := put_step e size k n b m bb hinv hn hm (by omega)
    obtain ⟨bbF, nF, hall, hinvF, hnF, hrel, hslots⟩ :=
      putAll_spec e size r (k + b) (acc e k n m b) bb1 hinv1 (acc_lt e k n m b hn hm)
        (fun p hp => hfit p (List.mem_cons_of_mem _ hp)) (by omega)
    rw [Nat.add_assoc] at hinvF hnF
    refine ⟨bbF, nF, by simp [putAll, hput, hall], hinvF, hnF, ?_, ?_⟩
    · cases e with
      | little => exact (little_rel nF n m k b hn hrel).1
      | big => exact (big_rel nF n m b _ hm hrel).1
    · simp only [starts, List.zip_cons_cons, List.map_cons, hslots]
      congr 1
      obtain ⟨hremF, hbufF⟩ := hinvF
      cases e with
      | little =>
        simp only at hbufF
        rw [hbufF]
        show slotVal (nF : Int) k b = _
        rw [slotVal_nat, (little_rel nF n m k b hn hrel).2]
      | big =>
        simp only at hbufF
        rw [hbufF]
        show slotVal _ (8 * size - k - b) b = _
        have hd : 8 * size - k - b = (r.map (·.2)).sum + (8 * size - (k + (b + (r.map (·.2)).sum))) := by omega
        rw [slotVal_nat, hd, Nat.pow_add, Nat.mul_div_mul_right _ _ (Nat.two_pow_pos _),
          (big_rel nF n m b _ hm hrel).2]

theorem writeInv_init (e : Endian) (W : Nat) (t : Option Scalar) :
    WriteInv e W 0 0 { ty := t, buffer := 0, remaining := W } := by
  cases e <;> simp [WriteInv]

end Cstruct.C06.Lemmas
