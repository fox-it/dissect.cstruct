/-
  Fragment S as an instance of fragment D (`dynWr_S`, from `dyn_ty`), and the same in the `WR` shape (`wr_ty`: round trip and
  totality of writing); a static size in aligned mode is a multiple of the alignment (`size_sAlign_dvd`).
-/
import Proofs.Lemmas.CoreDynModes
import Proofs.Lemmas.CoreFragments
namespace Cstruct.Core.Lemmas
open Cstruct Cstruct.Core

theorem size_sAlign_dvd (cfg : Cfg) : ∀ (ty : Ty), ty.fragS cfg = true → ty.uniformAlign true = true →
    ty.pow2Aligned cfg → ∀ k, ty.size cfg = some k → sAlign cfg ty ∣ k
  | .sc _ _, _, _, _, _, _ => Nat.one_dvd _
  | .enum _ _ _, _, _, _, _, _ => Nat.one_dvd _
  | .ptr _, _, _, _, _, _ => Nat.one_dvd _
  | .union _ _, _, _, _, _, _ => Nat.one_dvd _
  | .arr e len, hS, hU, hP, k, hk => by
    simp only [Ty.fragS, Bool.and_eq_true] at hS
    simp only [Ty.uniformAlign] at hU
    simp only [Ty.pow2Aligned] at hP
    cases len with
    | fixed n =>
      simp only [Ty.size] at hk
      cases he : e.size cfg with
      | none => rw [he] at hk; cases hk
      | some k' =>
        rw [he] at hk; cases hk
        simp only [sAlign]
        exact Nat.dvd_trans (size_sAlign_dvd cfg e hS.2 hU hP k' he) (Nat.dvd_mul_left _ _)
    | expr _ | nullTerm | eof => simp at hS
  | .struct al fs, hS, hU, hP, k, hk => by
    simp only [Ty.fragS] at hS
    simp only [Ty.uniformAlign, Bool.and_eq_true, beq_iff_eq] at hU
    simp only [Ty.pow2Aligned] at hP
    obtain ⟨rfl, hU⟩ := hU
    rw [struct_size cfg true fs hS] at hk
    cases hk
    simp only [sAlign, Ty.alignment]
    split
    · exact Nat.one_dvd _
    · rename_i h0
      rcases maxAlign_p2 cfg fs hP 0 (Or.inl rfl) with h1 | h1
      · exact absurd h1 h0
      · exact alignTo_dvd h1 _

/-- a value of fragment S is a value of fragment D in every context; without bit-fields every structure has a layout -/
theorem dynWr_S {cfg : Cfg} {al : Bool} {ty : Ty} (hS : ty.fragS cfg = true) (hU : ty.uniformAlign al = true)
    (hP : al = true → ty.pow2Aligned cfg) {v : Val} (hv : HasTy cfg v ty) {pos : Nat} (hpos : al = true → sAlign cfg ty ∣ pos)
    (ctx : Ctx) : DynWr cfg al ty ctx v pos ∧ LaidOut cfg ty :=
  have hSB := fragSB_of_fragS cfg ty hS
  have hD := fragD_of_fragSB cfg ty hSB
  have hB := noBits_of_fragS cfg ty hS
  ⟨dyn_ty cfg al ty ⟨hD, hU, hP, fun _ => bitsNatural_of_noBits cfg ty hB⟩ ctx v
    (hasTyD_of_hasTyB cfg ty hSB ctx v (hasTyB_of_hasTy cfg ty v hv)) pos hpos, laidOut_of_noBits cfg ty hB hD⟩

theorem wr_ty (cfg : Cfg) (al : Bool) : ∀ (ty : Ty), ty.fragS cfg = true → ty.uniformAlign al = true →
    ty.pow2Aligned cfg → ∀ v, HasTy cfg v ty → ∀ pos, (al = true → sAlign cfg ty ∣ pos) → WR cfg ty v pos := by
  intro ty hS hU hP v hv pos hpos
  have h := dynWr_S hS hU (fun _ => hP) hv hpos
  obtain ⟨k, hk⟩ := fragS_size cfg ty hS
  obtain ⟨bs, hw⟩ := (h []).1.1 (h []).2
  have hl := (((h []).1.2 bs hw).1 k hk)
  refine ⟨bs, k, hw, hk, hl, fun pre post ctx hp => ?_⟩
  rw [← hl]
  exact (((h ctx).1.2 bs hw).2.2 _ (.mid hp))

end Cstruct.Core.Lemmas
