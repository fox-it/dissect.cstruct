/-
  Rigid types (`Proofs/Spec/C08Union.lean`).
  A successful read of a rigid type of size `k` from `pos` ends at `pos + k` and, unless `k = 0`, inside the input; a failing
  read fails with `EOFError`. A covered union cannot be read from a buffer shorter than its size.
-/
import Proofs.Spec.C08Union
import Proofs.Lemmas.CoreWinElem
import Proofs.Lemmas.CoreRW
namespace Cstruct.C08.Lemmas
open Cstruct Cstruct.Core Cstruct.Core.Lemmas

/-- a value satisfying `Q`, or `EOFError` -/
def Rig {β : Type} (Q : β → Prop) : Except Err β → Prop
  | .ok b => Q b
  | .error e => e = .eof

theorem rig_bind {α β : Type} {Q : α → Prop} {Q' : β → Prop} {x : Except Err α} {f : α → Except Err β}
    (hx : Rig Q x) (hf : ∀ a, Q a → Rig Q' (f a)) : Rig Q' (x.bind f) := by
  cases x with
  | error e => exact hx
  | ok a => exact hf a hx

/-- result of a rigid read of `k` bytes at `pos` in an input of `len` bytes -/
def RigR {α : Type} (k pos len : Nat) : Except Err (α × Nat) → Prop :=
  Rig fun r => r.2 = pos + k ∧ (k = 0 ∨ r.2 ≤ len)

/-- the same for the member loop of a packed structure: from offset `o` to offset `e` relative to `start` -/
def RigF (e o start len : Nat) : Except Err (Vals × List (String × Nat) × Nat) → Prop
  | .ok (_, _, p) => p = start + e ∧ (e = o ∨ p ≤ len)
  | .error er => er = .eof

theorem rigF_iff {e o start len : Nat} {r : Except Err (Vals × List (String × Nat) × Nat)} :
    RigF e o start len r ↔ Rig (fun r => r.2.2 = start + e ∧ (e = o ∨ r.2.2 ≤ len)) r := by
  rcases r with er | ⟨vs, szs, p⟩ <;> exact Iff.rfl

theorem readExact_rig (d : Bytes) (pos n : Nat) : RigR n pos d.length (readExact d pos n) := by
  unfold readExact
  simp only []
  split
  · exact rfl
  · rename_i h
    rw [ne_eq, Decidable.not_not, sread_length] at h
    exact ⟨rfl, by omega⟩

theorem readBlock_rig {α : Type} {f : Bytes → Except Err α} (hf : ∀ bs, ∃ v, f bs = .ok v) (n : Nat) (d : Bytes) (pos : Nat) :
    RigR n pos d.length (readBlock n f d pos) :=
  rig_bind (readExact_rig d pos n) fun bp h => by
    obtain ⟨v, hv⟩ := hf bp.1
    rw [hv]; exact h

def scRigid : Scalar → Bool
  | .pint _ _ => true | .aint _ _ => true | .pflt _ => true | .char => true | .void => true | _ => false

theorem scRigid_of_isInt {s : Scalar} (h : Scalar.isInt s = true) : scRigid s = true := by
  cases s <;> simp [Scalar.isInt] at h <;> rfl

theorem readScalar_rig (cfg : Cfg) (s : Scalar) (hs : scRigid s = true) :
    ∃ k, s.size = some k ∧ ∀ d pos, RigR k pos d.length (readScalar cfg s d pos) := by
  cases s with
  | wchar => cases hs
  | leb => cases hs
  | _ => exact ⟨_, rfl, fun d pos => by rw [readScalar_sized cfg rfl]; exact readBlock_rig (fun _ => ⟨_, rfl⟩) _ d pos⟩

theorem wrapInt_rig (cfg : Cfg) (f : Int → Val) (s : Scalar) (hi : Scalar.isInt s = true) :
    ∃ k, s.size = some k ∧ ∀ d pos, RigR k pos d.length (wrapInt f (readScalar cfg s d pos)) := by
  obtain ⟨k, hk, h⟩ := readScalar_rig cfg s (scRigid_of_isInt hi)
  refine ⟨k, hk, fun d pos => ?_⟩
  have h1 := h d pos
  rw [readScalar_sized cfg hk] at h1 ⊢
  cases hx : readBlock k (decodeScalar cfg s) d pos with
  | error e => rw [hx] at h1; exact h1
  | ok r =>
    obtain ⟨v, p⟩ := r
    rw [hx] at h1
    have hv := (readBlock_ok hx).2
    cases s <;> first
      | (simp only [decodeScalar, Except.ok.injEq] at hv; subst hv; exact h1)
      | cases hi

def ElemRig (cfg : Cfg) (e : Ty) (k : Nat) : Prop :=
  ∀ (ctx : Ctx) (d : Bytes) (pos : Nat), RigR k pos d.length (read cfg e ctx d pos)

theorem readN_rig (cfg : Cfg) (e : Ty) (k : Nat) (hE : ElemRig cfg e k) :
    ∀ (n : Nat) (ctx : Ctx) (d : Bytes) (pos : Nat), RigR (n * k) pos d.length (readN cfg e n ctx d pos) := by
  intro n
  induction n with
  | zero =>
    intro ctx d pos
    rw [readN_zero]
    exact ⟨by simp, Or.inl (by simp)⟩
  | succ n ih =>
    intro ctx d pos
    rw [readN_succ]
    refine rig_bind (hE ctx d pos) fun r1 h1 => rig_bind (ih ctx d r1.2) fun r2 h2 => ?_
    obtain ⟨a1, a2⟩ := h1
    obtain ⟨b1, b2⟩ := h2
    show r2.2 = pos + (n + 1) * k ∧ ((n + 1) * k = 0 ∨ r2.2 ≤ d.length)
    rw [Nat.succ_mul]
    generalize n * k = m at *
    omega

theorem readN_map_rig (cfg : Cfg) (e : Ty) (k : Nat) (hE : ElemRig cfg e k) (n : Nat) (ctx : Ctx) (d : Bytes) (pos : Nat) :
    RigR (n * k) pos d.length ((readN cfg e n ctx d pos).map fun (x : Vals × Nat) => (Val.list x.1, x.2)) :=
  rig_bind (readN_rig cfg e k hE n ctx d pos) fun _ h => h

theorem readArray_sc_rig (cfg : Cfg) (s : Scalar) (a : Nat) (hs : scRigid s = true) (k : Nat) (hk : s.size = some k)
    (hE : ElemRig cfg (.sc s a) k) (n : Nat) (ctx : Ctx) (d : Bytes) (pos : Nat) :
    RigR (n * k) pos d.length (readArray cfg (.sc s a) n ctx d pos) ∧
    (Scalar.isInt s = true → ∀ v p, readArray cfg (.sc s a) n ctx d pos = .ok (v, p) → ∃ vs, v = .list vs) := by
  rw [readArray.eq_1]
  have loop := readN_map_rig cfg _ k hE n ctx d pos
  have hl : ∀ v p, (readN cfg (.sc s a) n ctx d pos).map (fun (x : Vals × Nat) => (Val.list x.1, x.2)) = .ok (v, p) →
      ∃ vs, v = .list vs := fun v p h => by obtain ⟨r, _, h2⟩ := map_ok h; cases h2; exact ⟨_, rfl⟩
  cases s with
  | pint sz sg =>
    cases hk
    simp only [readScalarArray, bind, pure]
    rw [Nat.mul_comm n k]
    refine ⟨rig_bind (readExact_rig d pos (k * n)) fun _ h => h, fun _ v p h => ?_⟩
    obtain ⟨r, _, h2⟩ := bind_ok h
    cases h2; exact ⟨_, rfl⟩
  | pflt sz =>
    cases hk
    simp only [readScalarArray, bind, pure]
    rw [Nat.mul_comm n k]
    exact ⟨rig_bind (readExact_rig d pos (k * n)) fun _ h => h, fun hi => by cases hi⟩
  | char =>
    cases hk
    simp only [readScalarArray, bind, pure]
    refine ⟨?_, fun hi => by cases hi⟩
    by_cases h0 : n = 0
    · subst h0; exact ⟨rfl, Or.inl rfl⟩
    · rw [if_neg h0, Nat.mul_one]
      exact rig_bind (readExact_rig d pos n) fun _ h => h
  | aint sz sg => exact ⟨loop, fun _ => hl⟩
  | void => exact ⟨loop, fun _ => hl⟩
  | wchar => cases hs
  | leb sg => cases hs

theorem readArray_rig (cfg : Cfg) (e : Ty) (he : e.rigid cfg = true) (k : Nat) (hk : e.size cfg = some k) (hE : ElemRig cfg e k)
    (n : Nat) (ctx : Ctx) (d : Bytes) (pos : Nat) : RigR (n * k) pos d.length (readArray cfg e n ctx d pos) := by
  cases e with
  | sc s a =>
    exact (readArray_sc_rig cfg s a he k hk hE n ctx d pos).1
  | enum b a f =>
    simp only [Ty.rigid] at he
    rw [readArray_enum]
    obtain ⟨k', hk', h⟩ := readScalar_rig cfg b (scRigid_of_isInt he)
    rw [show (Ty.enum b a f).size cfg = b.size from rfl, hk'] at hk; cases hk
    obtain ⟨h1, h2⟩ := readArray_sc_rig cfg b a (scRigid_of_isInt he) k hk'
      (fun ctx d pos => by rw [read_sc]; exact h d pos) n ctx d pos
    cases hx : readArray cfg (.sc b a) n ctx d pos with
    | error er => rw [hx] at h1; exact h1
    | ok r =>
      obtain ⟨v, p⟩ := r
      obtain ⟨vs, rfl⟩ := h2 he v p hx
      rw [hx] at h1; exact h1
  | _ =>
    rw [readArray_loop cfg rfl]
    exact readN_map_rig cfg _ k hE n ctx d pos

theorem read_union (cfg : Cfg) (al fs ctx data pos) :
    read cfg (.union al fs) ctx data pos =
      match (Ty.union al fs).size cfg with
      | none => .error .notImpl
      | some sz =>
        (readMembers cfg fs [] (sread data pos sz)).bind fun vs =>
          .ok (.union (sread data pos sz) vs, pos + sz) := by
  rw [read]
  cases (Ty.union al fs).size cfg with
  | none => rfl
  | some sz =>
    simp only []
    cases readMembers cfg fs [] (sread data pos sz) <;> rfl

theorem read_union_ok {cfg : Cfg} {al : Bool} {fs : Fields} {ctx : Ctx} {d : Bytes} {pos : Nat} {v : Val} {p : Nat}
    (h : read cfg (.union al fs) ctx d pos = .ok (v, p)) :
    ∃ sz vs, (Ty.union al fs).size cfg = some sz ∧ p = pos + sz ∧
      readMembers cfg fs [] (sread d pos sz) = .ok vs ∧ v = .union (sread d pos sz) vs := by
  rw [read_union] at h
  cases hsz : (Ty.union al fs).size cfg with
  | none => rw [hsz] at h; cases h
  | some sz =>
    rw [hsz] at h
    obtain ⟨vs, h1, h4⟩ := bind_ok h
    cases h4
    exact ⟨sz, vs, rfl, rfl, h1, rfl⟩

theorem rig_true_iff {β : Type} {x : Except Err β} : Rig (fun _ => True) x ↔ ∀ e, x = .error e → e = .eof := by
  cases x with
  | error e => exact ⟨fun h e' he => (by cases he; exact h), fun h => h e rfl⟩
  | ok b => exact ⟨fun _ e he => (by cases he), fun _ => trivial⟩

mutual
theorem rig_ty (cfg : Cfg) : ∀ (ty : Ty), ty.rigid cfg = true → ∃ k, ty.size cfg = some k ∧ ElemRig cfg ty k
  | .sc s a, h => by
    obtain ⟨k, hk, hr⟩ := readScalar_rig cfg s h
    exact ⟨k, hk, fun ctx d pos => by rw [read_sc]; exact hr d pos⟩
  | .enum b a f, h => by
    simp only [Ty.rigid] at h
    obtain ⟨k, hk, hr⟩ := wrapInt_rig cfg .enum b h
    exact ⟨k, hk, fun ctx d pos => by rw [read_enum]; exact hr d pos⟩
  | .ptr t, h => by
    simp only [Ty.rigid] at h
    obtain ⟨k, hk, hr⟩ := wrapInt_rig cfg .ptr cfg.ptr h
    exact ⟨k, hk, fun ctx d pos => by rw [read_ptr]; exact hr d pos⟩
  | .arr e len, h => by
    simp only [Ty.rigid, Bool.and_eq_true] at h
    obtain ⟨k, hk, hE⟩ := rig_ty cfg e h.2
    cases len with
    | fixed n =>
      refine ⟨n * k, by simp only [Ty.size, hk], fun ctx d pos => ?_⟩
      rw [read_arr_fixed]
      exact readArray_rig cfg e h.2 k hk hE n ctx d pos
    | expr _ => simp at h
    | nullTerm => simp at h
    | eof => simp at h
  | .struct al fs, h => by
    simp only [Ty.rigid, Bool.and_eq_true, Bool.not_eq_true'] at h
    obtain ⟨rfl, hf⟩ := h
    obtain ⟨L, F, _⟩ := rig_fields cfg fs hf
    refine ⟨endOff cfg false fs 0, ?_, fun ctx d pos => ?_⟩
    · simp only [Ty.size]
      rw [show ({ offset := some 0, alignment := 0, bitsType := none, bitsFieldOffset := some 0, bitsRemaining := 0 } : LState)
        = mkSt (some 0) 0 from rfl, L]
    · rw [read_struct]
      unfold structLayout
      rw [init_eq_mkSt, L]
      have h1 := F 0 pos BitBuf.empty [] d
      rw [Nat.add_zero] at h1
      show RigR _ _ _ ((readFields cfg false fs (offsS cfg false fs 0) pos BitBuf.empty [] d pos).bind _)
      exact rig_bind (rigF_iff.1 h1) fun r hr => hr
  | .union al fs, h => by
    simp only [Ty.rigid, Bool.and_eq_true] at h
    obtain ⟨hf, hc⟩ := h
    cases hsz : (Ty.union al fs).size cfg with
    | none => rw [hsz] at hc; cases hc
    | some sz =>
      rw [hsz] at hc
      refine ⟨sz, rfl, fun ctx d pos => ?_⟩
      rw [read_union, hsz]
      simp only []
      obtain ⟨_, _, M⟩ := rig_fields cfg fs hf
      cases hx : readMembers cfg fs [] (sread d pos sz) with
      | error er => exact M _ _ _ hx
      | ok vs =>
        have hc' := rig_cover cfg fs sz hc [] _ vs hx
        have hl := sread_length d pos sz
        show pos + sz = pos + sz ∧ (sz = 0 ∨ pos + sz ≤ d.length)
        omega
theorem rig_fields (cfg : Cfg) : ∀ (fs : Fields), Fields.rigid cfg fs = true →
    (∀ o a, Fields.layout cfg false fs (mkSt (some o) a) =
      .ok (some (endOff cfg false fs o), Fields.maxAlign cfg fs a, offsS cfg false fs o)) ∧
    (∀ o start bb ctx d, RigF (endOff cfg false fs o) o start d.length
      (readFields cfg false fs (offsS cfg false fs o) start bb ctx d (start + o))) ∧
    (∀ ctx buf e, readMembers cfg fs ctx buf = .error e → e = .eof)
  | .nil, _ => by
    refine ⟨fun o a => ?_, fun o start bb ctx d => ?_, fun ctx buf e h => ?_⟩
    · rw [layout_nil]; rfl
    · rw [readFields_nil]; exact ⟨rfl, Or.inl rfl⟩
    · rw [readMembers_nil] at h; cases h
  | .cons name an ty bits rest, h => by
    simp only [Fields.rigid, Bool.and_eq_true, Option.isNone_iff_eq_none] at h
    obtain ⟨⟨rfl, ht⟩, hr⟩ := h
    obtain ⟨k, hk, hE⟩ := rig_ty cfg ty ht
    obtain ⟨L, F, M⟩ := rig_fields cfg rest hr
    refine ⟨fun o a => ?_, fun o start bb ctx d => ?_, fun ctx buf => rig_true_iff.1 ?_⟩
    · rw [layout_cons cfg false name an ty rest o a k hk, L]
      simp only [Except.bind, endOff, offsS, Fields.maxAlign, hk, Option.getD_some]
    · simp only [offsS, endOff, hk, Option.getD_some, alignTo, Bool.false_eq_true, if_false]
      rw [readFields_cons_S]
      refine rigF_iff.2 (rig_bind (hE ctx d (start + o)) ?_)
      rintro ⟨v, p1⟩ ⟨a1, a2⟩
      dsimp only at a1 a2
      obtain rfl : p1 = start + (o + k) := by omega
      refine rig_bind (rigF_iff.1 (F (o + k) start BitBuf.empty (Ctx.set ctx name v) d)) ?_
      rintro ⟨vs, szs, p'⟩ ⟨b1, b2⟩
      show p' = start + endOff cfg false rest (o + k) ∧ (endOff cfg false rest (o + k) = o ∨ p' ≤ d.length)
      dsimp only at b1 b2
      omega
    · rw [readMembers_cons]
      exact rig_bind (hE ctx buf 0) fun r1 _ => rig_bind (rig_true_iff.2 (M (Ctx.set ctx name r1.1) buf)) fun _ _ => trivial
theorem rig_cover (cfg : Cfg) : ∀ (fs : Fields) (sz : Nat), Fields.covered cfg fs sz = true →
    ∀ ctx buf vs, readMembers cfg fs ctx buf = .ok vs → sz ≤ buf.length
  | .nil, _, h => by simp [Fields.covered] at h
  | .cons name an ty bits rest, sz, h => by
    intro ctx buf vs hm
    rw [readMembers_cons] at hm
    obtain ⟨⟨v, p⟩, h1, h2⟩ := bind_ok hm
    obtain ⟨vs', h3, _⟩ := bind_ok h2
    simp only [Fields.covered, Bool.or_eq_true, Bool.and_eq_true, beq_iff_eq] at h
    rcases h with ⟨ht, hs⟩ | hc
    · obtain ⟨k, hk, hE⟩ := rig_ty cfg ty ht
      rw [hs] at hk; cases hk
      have := hE ctx buf 0
      rw [h1] at this
      obtain ⟨a1, a2⟩ := this
      omega
    · exact rig_cover cfg rest sz hc _ _ _ h3
end

theorem tight_full (cfg : Cfg) (al : Bool) (fs : Fields) (ht : Fields.tightUnion cfg al fs = true) (sz : Nat)
    (hsz : (Ty.union al fs).size cfg = some sz) (ctx : Ctx) (buf : Bytes) (vs : Vals)
    (h : readMembers cfg fs ctx buf = .ok vs) : sz ≤ buf.length := by
  unfold Fields.tightUnion at ht
  rw [hsz] at ht
  exact rig_cover cfg fs sz ht ctx buf vs h

end Cstruct.C08.Lemmas
