/-
  Helper lemmas for C05, wchar part: the UTF-16 codec at the level of code units
  (`decodeWchar`, `unitsOf`, `utf16Ok` in CstructModel/Read.lean, `encodeWchar` in CstructModel/Write.lean).
-/
import CstructModel.Write
import Proofs.Lemmas.C05
namespace Cstruct.C05.Lemmas
open Cstruct

/-- swap the two bytes of every 16-bit unit (a trailing odd byte is kept) -/
def swapPairs : Bytes → Bytes
  | a :: b :: r => b :: a :: swapPairs r
  | r => r

/-- the bytes `encodeWchar` produces for well-formed input -/
def encUnits (e : Endian) (us : List Nat) : Bytes :=
  us.flatMap fun u => match e with
    | .little => [UInt8.ofNat (u % 256), UInt8.ofNat (u / 256)]
    | .big => [UInt8.ofNat (u / 256), UInt8.ofNat (u % 256)]

theorem encUnits_nil (e : Endian) : encUnits e [] = [] := rfl

theorem encUnits_cons (e : Endian) (u : Nat) (r : List Nat) :
    encUnits e (u :: r) = (match e with
      | .little => [UInt8.ofNat (u % 256), UInt8.ofNat (u / 256)]
      | .big => [UInt8.ofNat (u / 256), UInt8.ofNat (u % 256)]) ++ encUnits e r := by
  cases e <;> simp [encUnits]

theorem encodeWchar_ok (e : Endian) (us : List Nat) (hw : utf16Ok us = true) :
    encodeWchar e us = .ok (encUnits e us) := by
  unfold encodeWchar encUnits
  rw [if_pos hw]
  cases e <;> rfl

theorem encodeWchar_ok_inv (e : Endian) (us : List Nat) (bs : Bytes) (h : encodeWchar e us = .ok bs) :
    bs = encUnits e us := by
  unfold encodeWchar at h
  split at h
  · simp only [Except.ok.injEq] at h; exact h.symm
  · cases h

theorem encUnits_length (e : Endian) (us : List Nat) : (encUnits e us).length = 2 * us.length := by
  induction us with
  | nil => rfl
  | cons u r ih =>
    rw [encUnits_cons, List.length_append, ih]
    cases e <;> simp <;> omega

theorem unitsOf_encUnits (e : Endian) (us : List Nat) (hu : ∀ u ∈ us, u < 65536) :
    unitsOf e (encUnits e us) = us := by
  induction us with
  | nil => rfl
  | cons u r ih =>
    have h1 : u < 65536 := hu u (by simp)
    have h2 := ih (fun x hx => hu x (by simp [hx]))
    have hd : (UInt8.ofNat (u / 256)).toNat = u / 256 := u8_small _ (by omega)
    have hm : (UInt8.ofNat (u % 256)).toNat = u % 256 := u8_small _ (by omega)
    rw [encUnits_cons]
    cases e with
    | little =>
      simp only [List.cons_append, List.nil_append, unitsOf, h2, hd, hm]
      congr 1; omega
    | big =>
      simp only [List.cons_append, List.nil_append, unitsOf, h2, hd, hm]
      congr 1; omega

theorem pairs_induct (P : Bytes → Prop) (nil : P []) (one : ∀ a, P [a])
    (step : ∀ a b r, P r → P (a :: b :: r)) : ∀ bs, P bs
  | [] => nil
  | [a] => one a
  | a :: b :: r => step a b r (pairs_induct P nil one step r)

theorem encUnits_unitsOf (e : Endian) (bs : Bytes) (h : bs.length % 2 = 0) :
    encUnits e (unitsOf e bs) = bs := by
  induction bs using pairs_induct with
  | nil => rfl
  | one a => simp at h
  | step a b r ih =>
    have hr : r.length % 2 = 0 := by simp only [List.length_cons] at h; omega
    have ha := a.toNat_lt
    have hb := b.toNat_lt
    simp only [unitsOf]
    rw [encUnits_cons, ih hr]
    cases e with
    | little =>
      simp only [Nat.add_mul_mod_self_left, Nat.add_mul_div_left _ _ (Nat.zero_lt_succ 255), Nat.mod_eq_of_lt ha,
        Nat.div_eq_of_lt ha, Nat.zero_add, UInt8.ofNat_toNat, List.cons_append, List.nil_append]
    | big =>
      simp only [Nat.mul_add_mod, Nat.mul_add_div (Nat.zero_lt_succ 255), Nat.mod_eq_of_lt hb, Nat.div_eq_of_lt hb,
        Nat.add_zero, UInt8.ofNat_toNat, List.cons_append, List.nil_append]

theorem unitsOf_lt (e : Endian) (bs : Bytes) : ∀ u ∈ unitsOf e bs, u < 65536 := by
  induction bs using pairs_induct with
  | nil => intro u hu; simp [unitsOf] at hu
  | one a => intro u hu; simp [unitsOf] at hu
  | step a b r ih =>
    intro u hu
    simp only [unitsOf, List.mem_cons] at hu
    have ha := a.toNat_lt
    have hb := b.toNat_lt
    rcases hu with rfl | hu
    · cases e <;> simp only <;> omega
    · exact ih u hu

theorem decodeWchar_ok_inv (e : Endian) (bs : Bytes) (us : List Nat) (h : decodeWchar e bs = .ok (.wstr us)) :
    bs.length % 2 = 0 ∧ us = unitsOf e bs ∧ utf16Ok us = true := by
  unfold decodeWchar at h
  split at h
  · cases h
  · rename_i hlen
    simp only at h
    split at h
    · rename_i hok
      simp only [Except.ok.injEq, Val.wstr.injEq] at h
      subst h
      exact ⟨by omega, rfl, hok⟩
    · cases h

theorem wchar_roundtrip (e : Endian) (us : List Nat) (hu : ∀ u ∈ us, u < 65536) (hw : utf16Ok us = true) :
    ∃ bs, encodeWchar e us = .ok bs ∧ bs.length = 2 * us.length ∧ decodeWchar e bs = .ok (.wstr us) := by
  refine ⟨_, encodeWchar_ok e us hw, encUnits_length e us, ?_⟩
  unfold decodeWchar
  have hl : ¬ (encUnits e us).length % 2 ≠ 0 := by rw [encUnits_length]; omega
  rw [if_neg hl]
  simp only [unitsOf_encUnits e us hu, hw, if_true]

theorem swapPairs_encUnits (us : List Nat) : encUnits .big us = swapPairs (encUnits .little us) := by
  induction us with
  | nil => rfl
  | cons u r ih =>
    rw [encUnits_cons, encUnits_cons]
    simp only [List.cons_append, List.nil_append, swapPairs, ih]

end Cstruct.C05.Lemmas
