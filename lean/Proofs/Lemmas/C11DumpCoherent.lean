/-
  The dump of a union whose members are coherent with a buffer and whose written member covers the union is the
  buffer; buffer lengths under assignment.
-/
import Proofs.Lemmas.C11DumpWritten
import Proofs.Lemmas.C02Fidelity
import Proofs.C02Bits
import Proofs.C09Shift

namespace Cstruct.C11.DumpLemmas
open Cstruct Cstruct.Union Cstruct.Core Cstruct.C02B

theorem read_union_eq (cfg : Cfg) (al : Bool) (fs : Fields) (ctx : Ctx) (data : Bytes) (pos sz : Nat)
    (hsz : (Ty.union al fs).size cfg = some sz) :
    read cfg (.union al fs) ctx data pos =
      match readMembers cfg fs [] (sread data pos sz) with
      | .error e => .error e
      | .ok vs => .ok (.union (sread data pos sz) vs, pos + sz) := by
  rw [read]
  simp only [hsz]
  rfl

theorem read_union_mid (cfg : Cfg) (al : Bool) (fs : Fields) (n : Nat)
    (hsz : (Ty.union al fs).size cfg = some n) (ctx : Ctx) (pre w post : Bytes) (hw : w.length = n) :
    read cfg (.union al fs) ctx (pre ++ w ++ post) pre.length =
      match readMembers cfg fs [] w with
      | .error e => .error e
      | .ok vs => .ok (.union w vs, pre.length + n) := by
  subst hw
  rw [read_union_eq cfg al fs ctx _ _ _ hsz, Core.Lemmas.sread_mid]

/-- the statement all dump theorems of `Proofs/C11Dump.lean` are instances of; the writer never looks at `b'` -/
theorem dump_of_coherent (cfg : Cfg) (al : Bool) (fs : Fields) (n k : Nat) (t : Ty)
    (hsz : (Ty.union al fs).size cfg = some n) (hk : writtenMember cfg fs = some k) (ht : nthTy fs k = some t)
    (hS : t.fragSB cfg = true) (hu : t.uniformAlign al = true) (hp : t.pow2Aligned cfg)
    (hn : al = true → t.bitsNatural cfg = true) (hd : t.defErr cfg = none)
    (htn : t.size cfg = some n) (hcov : maskB cfg t = List.replicate n 0xFF)
    (buf : Bytes) (vs : Vals) (hm : readMembers cfg fs [] buf = .ok vs) (hbl : n ≤ buf.length)
    (q : Nat) (hal : t.alignsDivide cfg q = true) (b' : Bytes) :
    write cfg (.union al fs) (.union b' vs) q = .ok (buf.take n) := by
  obtain ⟨v, ctx', p', hv, hr⟩ := Lemmas.members_gen cfg buf fs [] vs hm k t ht
  have hzl : (zeros q).length = q := Core.Lemmas.length_zeros q
  have hsh := C09.c09_shift cfg al t (C02B.Lemmas.fragSB_plain cfg t hS) hu hp ctx' (zeros q) buf 0
    (fun _ => by rw [hzl]; exact hal)
  rw [hr, hzl, Nat.add_zero] at hsh
  simp only [C09.shiftRes] at hsh
  obtain ⟨n', hsz', hp'', _, _, hwr⟩ := c02_fidelity_SB_gen cfg al t hS hu hp hn hd ctx' _ q hal v _ hsh
  rw [htn] at hsz'
  have hnn : n' = n := (Option.some.inj hsz').symm
  subst hnn
  have hwr := hwr (by rw [hp'', List.length_append, hzl]; exact Nat.add_le_add_left hbl q)
  have hsr : sread (zeros q ++ buf) q n' = buf.take n' := by
    have := C09.Lemmas.sread_shift (zeros q) buf 0 n'
    rw [hzl, Nat.add_zero] at this
    rw [this]
    rfl
  have hlen : (buf.take n').length = n' := List.length_take_of_le hbl
  rw [hsr, hcov, C02B.Lemmas.andBytes_ff _ _ hlen] at hwr
  have hwm : writeMemberRaw cfg fs vs k q = .ok (buf.take n') := by
    rw [Lemmas.writeMemberRaw_eq cfg fs vs k t v q ht hv]
    exact hwr
  -- a member of size 0 aside, the written member writes something
  have hne : (t.size cfg).getD 0 ≠ 0 → buf.take n' ≠ [] := by
    rw [htn]
    intro h0 he
    rw [he] at hlen
    exact h0 hlen.symm
  rw [write_union_written cfg al fs b' vs q n' hsz (readMembers_length cfg buf fs [] vs hm) k t hk ht _ hwm hne, hlen,
    Nat.sub_self]
  exact congrArg Except.ok (List.append_nil _)

theorem parse_coherent (cfg : Cfg) (fs : Fields) (sz : Nat) (data : Bytes) (pos : Nat) (s : UState) (p : Nat)
    (h : parse cfg fs sz data pos = .ok (s, p)) : readMembers cfg fs [] s.buf = .ok s.vals := by
  unfold parse at h
  simp only at h
  split at h
  · cases h
  · rename_i vs hm
    cases h
    exact hm

theorem overwrite_length (buf enc : Bytes) : (overwrite buf enc).length = max enc.length buf.length := by
  unfold overwrite
  rw [List.length_append, List.length_drop, Nat.add_comm, Nat.sub_add_eq_max, Nat.max_comm]

theorem assign_length (cfg : Cfg) (fs : Fields) (s : UState) (k : Nat) (v : Val) (s' : UState)
    (h : assign cfg fs s k v = .ok s') :
    s.buf.length ≤ s'.buf.length ∧
      ((∀ enc, writeMemberRaw cfg fs (setNth s.vals k v) k 0 = .ok enc → enc.length ≤ s.buf.length) →
        s'.buf.length = s.buf.length) := by
  obtain ⟨enc, hw, hb, _⟩ := Lemmas.assign_ok cfg fs s k v s' h
  have hl : s'.buf.length = max enc.length s.buf.length := by
    rw [hb]
    exact overwrite_length s.buf enc
  refine ⟨by omega, fun hf => ?_⟩
  have := hf enc hw
  omega

end Cstruct.C11.DumpLemmas
