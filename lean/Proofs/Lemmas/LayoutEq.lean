/-
  `Fields.layout` one member at a time: the step `stepL` that a member makes on the layout accumulator (the body of the
  loop of `_calculate_size_and_offsets`), the equation of `Fields.layout` at a member in terms of it, and what a
  successful step looks like. `stepL` takes the offset the member starts from (`lead`) and the offset its `Field` object
  already carries (`keep`) as arguments, so that it also is the step of `Commit.layoutP`; for `Fields.layout` they are
  `st.offset` and `none`.
-/
import CstructModel.Ty
namespace Cstruct.Layout
open Cstruct

/-- the offset a field is placed at, from the leading offset -/
def offOf (align : Bool) (fa : Nat) (lead : Option Nat) : Option Nat :=
  match lead with
  | some o => if align then some (o + padNat o fa) else some o
  | none => none

theorem offOf_some {al : Bool} {fa : Nat} {lead : Option Nat} {o : Nat} (h : offOf al fa lead = some o) :
    ∃ o0, lead = some o0 ∧ o0 ≤ o := by
  cases lead with
  | none => cases h
  | some o0 =>
    refine ⟨o0, rfl, ?_⟩
    simp only [offOf] at h
    split at h <;> cases h <;> omega

/-- does this bit-field start a new storage unit? -/
def third (st : LState) (ft : Scalar) (offset : Option Nat) : Except Err Bool :=
  if st.bitsRemaining = 0 ∨ some ft ≠ st.bitsType then .ok true else
  match st.bitsType with
  | none => .ok false
  | some bt =>
    match offset, st.bitsFieldOffset, bt.size with
    | some o, some bfo, some bs => .ok (decide (o > bfo + bs))
    | some _, some _, none => .error .typeErr
    | _, _, _ => .ok false

/-- the processing of one field: the next accumulator and the offset recorded on the field -/
def stepL (cfg : Cfg) (align : Bool) (ty : Ty) (bits : Option Nat) (lead keep : Option Nat) (st : LState) :
    Except Err (LState × Option Nat) :=
  let fa := ty.alignment cfg
  let offset : Option Nat := offOf align fa lead
  let alignment := max st.alignment fa
  match bits with
  | some (b + 1) =>
    match ty.bitBase with
    | none => .error .typeErr
    | some ft =>
      match ft.size with
      | none => .error .typeErr
      | some fsz =>
        match third st ft offset with
        | .error e => .error e
        | .ok newUnit =>
          let (st1, foff) : LState × Option Nat :=
            if newUnit then
              ({ offset := offset.map (· + fsz), alignment := alignment, bitsType := some ft,
                 bitsFieldOffset := offset, bitsRemaining := (fsz * 8 : Nat) }, offset)
            else ({ st with offset := offset, alignment := alignment }, keep)
          let rem := st1.bitsRemaining - ((b + 1 : Nat) : Int)
          if rem < 0 then .error .value else
          .ok ({ st1 with bitsRemaining := rem }, foff)
  | _ =>
    let st1 : LState := { offset := offset, alignment := alignment, bitsType := none, bitsFieldOffset := some 0, bitsRemaining := 0 }
    let st2 : LState := match offset with
      | some o => match ty.size cfg with
        | some k => { st1 with offset := some (o + k) }
        | none => { st1 with offset := none }
      | none => st1
    .ok (st2, offset)

theorem offOf_false (fa : Nat) (lead : Option Nat) : offOf false fa lead = lead := by
  cases lead <;> rfl

theorem stepL_new {cfg : Cfg} {al : Bool} {ty : Ty} {b : Nat} {lead keep : Option Nat} {st : LState} {ft : Scalar} {fsz : Nat}
    (hbase : ty.bitBase = some ft) (hsz : ft.size = some fsz)
    (ht : third st ft (offOf al (ty.alignment cfg) lead) = .ok true) :
    stepL cfg al ty (some (b + 1)) lead keep st =
      if ((fsz * 8 : Nat) : Int) - ((b + 1 : Nat) : Int) < 0 then .error .value else
      .ok ({ offset := (offOf al (ty.alignment cfg) lead).map (· + fsz), alignment := max st.alignment (ty.alignment cfg),
             bitsType := some ft, bitsFieldOffset := offOf al (ty.alignment cfg) lead,
             bitsRemaining := ((fsz * 8 : Nat) : Int) - ((b + 1 : Nat) : Int) }, offOf al (ty.alignment cfg) lead) := by
  simp only [stepL, hbase, hsz, ht, if_true]

theorem stepL_cont {cfg : Cfg} {al : Bool} {ty : Ty} {b : Nat} {lead keep : Option Nat} {st : LState} {ft : Scalar} {fsz : Nat}
    (hbase : ty.bitBase = some ft) (hsz : ft.size = some fsz)
    (ht : third st ft (offOf al (ty.alignment cfg) lead) = .ok false) :
    stepL cfg al ty (some (b + 1)) lead keep st =
      if st.bitsRemaining - ((b + 1 : Nat) : Int) < 0 then .error .value else
      .ok ({ st with offset := offOf al (ty.alignment cfg) lead, alignment := max st.alignment (ty.alignment cfg),
                     bitsRemaining := st.bitsRemaining - ((b + 1 : Nat) : Int) }, keep) := by
  simp only [stepL, hbase, hsz, ht, Bool.false_eq_true, if_false]

theorem third_cont {st : LState} {ft : Scalar} {fsz : Nat} {off : Option Nat} (hsz : ft.size = some fsz)
    (hrem : st.bitsRemaining ≠ 0) (hty : st.bitsType = some ft) (hoff : off = st.bitsFieldOffset.map (· + fsz)) :
    third st ft off = .ok false := by
  have hc : ¬ (st.bitsRemaining = 0 ∨ some ft ≠ st.bitsType) := fun h => h.elim hrem fun h => h hty.symm
  unfold third
  rw [if_neg hc, hty, hoff]
  cases st.bitsFieldOffset with
  | none => rfl
  | some o =>
    have : ¬ (o + fsz > o + fsz) := Nat.lt_irrefl _
    simp only [Option.map, hsz, this, decide_false]

/-- the remaining members after a step -/
def andRest (r : Except Err (LState × Option Nat)) (k : LState → Except Err (Option Nat × Nat × List (Option Nat))) :
    Except Err (Option Nat × Nat × List (Option Nat)) :=
  match r with
  | .error e => .error e
  | .ok (st', foff) =>
    match k st' with
    | .error e => .error e
    | .ok (sz, al, offs) => .ok (sz, al, foff :: offs)

theorem andRest_step (st' : LState) (foff : Option Nat) (k : LState → Except Err (Option Nat × Nat × List (Option Nat))) :
    andRest (.ok (st', foff)) k =
      match k st' with
      | .error e => .error e
      | .ok (sz, al, offs) => .ok (sz, al, foff :: offs) := rfl

theorem andRest_ok {r : Except Err (LState × Option Nat)} {k} {sz : Option Nat} {a : Nat} {offs : List (Option Nat)}
    (h : andRest r k = .ok (sz, a, offs)) :
    ∃ st' foff offs', r = .ok (st', foff) ∧ k st' = .ok (sz, a, offs') ∧ offs = foff :: offs' := by
  unfold andRest at h
  cases r with
  | error e => cases h
  | ok p =>
    obtain ⟨st', foff⟩ := p
    dsimp only at h
    cases hk : k st' with
    | error e => rw [hk] at h; cases h
    | ok q =>
      obtain ⟨s, a', o'⟩ := q
      rw [hk] at h
      cases h
      exact ⟨st', foff, o', rfl, hk, rfl⟩

theorem layout_cons_eq (cfg : Cfg) (al : Bool) (n : String) (an : Bool) (ty : Ty) (bits : Option Nat) (rest : Fields)
    (st : LState) :
    Fields.layout cfg al (.cons n an ty bits rest) st =
      andRest (stepL cfg al ty bits st.offset none st) (Fields.layout cfg al rest) := by
  rcases bits with _ | _ | b
  · rw [Fields.layout]
    · rfl
    · intro b h; cases h
  · rw [Fields.layout]
    · rfl
    · intro b h; cases h
  · rw [Fields.layout]
    unfold stepL
    cases ty.bitBase with
    | none => rfl
    | some ft =>
      dsimp only
      cases ft.size with
      | none => rfl
      | some fsz =>
        dsimp only
        show (match third st ft (offOf al (ty.alignment cfg) st.offset) with
          | .error e => _
          | .ok nu => _) = _
        cases third st ft (offOf al (ty.alignment cfg) st.offset) with
        | error e => rfl
        | ok nu =>
          cases nu with
          | false =>
            simp only [Bool.false_eq_true, ↓reduceIte]
            split <;> rfl
          | true =>
            simp only [↓reduceIte]
            split <;> rfl

theorem layout_cons_ok {cfg : Cfg} {al : Bool} {n an ty bits rest} {st : LState} {sz a offs}
    (h : Fields.layout cfg al (.cons n an ty bits rest) st = .ok (sz, a, offs)) :
    ∃ st' foff offs', stepL cfg al ty bits st.offset none st = .ok (st', foff) ∧
      Fields.layout cfg al rest st' = .ok (sz, a, offs') ∧ offs = foff :: offs' := by
  rw [layout_cons_eq] at h
  exact andRest_ok h

theorem stepL_ok {cfg : Cfg} {al : Bool} {ty : Ty} {bits lead keep : Option Nat} {st st' : LState} {foff : Option Nat}
    (h : stepL cfg al ty bits lead keep st = .ok (st', foff)) :
    st'.alignment = max st.alignment (ty.alignment cfg) ∧
    (((∀ b, bits ≠ some (b + 1)) ∧ foff = offOf al (ty.alignment cfg) lead ∧
        st'.offset = (offOf al (ty.alignment cfg) lead).bind fun o => (ty.size cfg).map (o + ·)) ∨
      ((∃ b, bits = some (b + 1)) ∧
        ((foff = offOf al (ty.alignment cfg) lead ∧ ∃ fsz, st'.offset = (offOf al (ty.alignment cfg) lead).map (· + fsz)) ∨
          (foff = keep ∧ st'.offset = offOf al (ty.alignment cfg) lead)))) := by
  by_cases hb : ∃ b, bits = some (b + 1)
  · obtain ⟨b, rfl⟩ := hb
    unfold stepL at h
    dsimp only at h
    split at h
    · cases h
    split at h
    · cases h
    split at h
    · cases h
    rename_i nu _
    cases nu <;> simp only [Bool.false_eq_true, ↓reduceIte] at h <;> split at h
    · cases h
    · cases h; exact ⟨rfl, Or.inr ⟨⟨b, rfl⟩, Or.inr ⟨rfl, rfl⟩⟩⟩
    · cases h
    · cases h; exact ⟨rfl, Or.inr ⟨⟨b, rfl⟩, Or.inl ⟨rfl, _, rfl⟩⟩⟩
  · have hb' : ∀ b, bits ≠ some (b + 1) := fun b h => hb ⟨b, h⟩
    unfold stepL at h
    split at h
    · exact absurd rfl (hb' _)
    · cases h
      refine ⟨?_, Or.inl ⟨hb', rfl, ?_⟩⟩
      · dsimp only; split <;> (try split) <;> rfl
      · dsimp only; cases offOf al (ty.alignment cfg) lead <;> (try cases ty.size cfg) <;> rfl

/-- the state after a bit-field of width `w`: it opens a unit of `fsz` bytes at `off` (`nu`) or continues the unit -/
def stAfterBit (st : LState) (ft : Scalar) (fsz w : Nat) (off : Option Nat) (a : Nat) (nu : Bool) : LState :=
  if nu then
    { offset := off.map (· + fsz), alignment := a, bitsType := some ft, bitsFieldOffset := off,
      bitsRemaining := ((fsz * 8 : Nat) : Int) - ((w : Nat) : Int) }
  else { st with offset := off, alignment := a, bitsRemaining := st.bitsRemaining - ((w : Nat) : Int) }

theorem stepL_bits_ok {cfg : Cfg} {al : Bool} {ty : Ty} {b : Nat} {lead keep : Option Nat} {st st' : LState} {foff : Option Nat}
    (h : stepL cfg al ty (some (b + 1)) lead keep st = .ok (st', foff)) :
    ∃ ft fsz nu, ty.bitBase = some ft ∧ ft.size = some fsz ∧
      third st ft (offOf al (ty.alignment cfg) lead) = .ok nu ∧
      foff = (if nu then offOf al (ty.alignment cfg) lead else keep) ∧
      st' = stAfterBit st ft fsz (b + 1) (offOf al (ty.alignment cfg) lead) (max st.alignment (ty.alignment cfg)) nu := by
  unfold stepL at h
  dsimp only at h
  split at h
  · cases h
  rename_i ft hft
  split at h
  · cases h
  rename_i fsz hfsz
  split at h
  · cases h
  rename_i nu hnu
  refine ⟨ft, fsz, nu, hft, hfsz, hnu, ?_⟩
  cases nu <;> simp only [Bool.false_eq_true, ↓reduceIte] at h <;> split at h
  · cases h
  · cases h; exact ⟨rfl, rfl⟩
  · cases h
  · cases h; exact ⟨rfl, rfl⟩

end Cstruct.Layout
