/-
  The member order of `UnionMetaType._write`.
  `insertDesc` (stable insertion into a list sorted by descending key) keeps the list sorted; the first element with a
  given property and the last element after an insertion; hence the first "regular" member and the last member of the
  order built by inserting the members one after the other are what the sort-free scans of `Proofs/Spec/C11Dump.lean`
  (`firstLargestRegular`, `lastSmallest`) compute.
-/
import Proofs.Spec.C11Dump

namespace Cstruct.C11.DumpLemmas
open Cstruct

/-- sorted by descending key -/
def SortedD (l : List (Nat × Nat)) : Prop := l.Pairwise (fun a b => a.1 ≥ b.1)

theorem insertDesc_cons (k i k' i' : Nat) (r : List (Nat × Nat)) :
    insertDesc k i ((k', i') :: r) = if k > k' then (k, i) :: (k', i') :: r else (k', i') :: insertDesc k i r := rfl

theorem mem_insertDesc (k i : Nat) (l : List (Nat × Nat)) (x : Nat × Nat) (h : x ∈ insertDesc k i l) :
    x = (k, i) ∨ x ∈ l := by
  induction l with
  | nil => exact Or.inl (List.mem_singleton.mp h)
  | cons q r ih =>
    rw [insertDesc_cons] at h
    split at h
    · exact List.mem_cons.mp h
    · rcases List.mem_cons.mp h with h | h
      · exact Or.inr (h ▸ List.mem_cons_self)
      · exact (ih h).imp_right (List.mem_cons_of_mem _)

theorem sorted_insertDesc (k i : Nat) (l : List (Nat × Nat)) (h : SortedD l) : SortedD (insertDesc k i l) := by
  induction l with
  | nil => exact List.pairwise_singleton _ _
  | cons q r ih =>
    have h' := List.pairwise_cons.1 h
    rw [insertDesc_cons]
    split
    · rename_i hk
      refine List.pairwise_cons.2 ⟨fun x hx => ?_, h⟩
      rcases List.mem_cons.mp hx with rfl | hx
      · exact Nat.le_of_lt hk
      · exact Nat.le_trans (h'.1 x hx) (Nat.le_of_lt hk)
    · rename_i hk
      refine List.pairwise_cons.2 ⟨fun x hx => ?_, ih h'.2⟩
      rcases mem_insertDesc k i r x hx with rfl | hx
      · exact Nat.le_of_not_lt hk
      · exact h'.1 x hx

theorem find_insertDesc (P : Nat → Bool) (k i : Nat) (l : List (Nat × Nat)) (h : SortedD l) :
    (insertDesc k i l).find? (fun p => P p.2) =
      if P i then
        (match l.find? (fun p => P p.2) with
         | none => some (k, i)
         | some (k', i') => if k > k' then some (k, i) else some (k', i'))
      else l.find? (fun p => P p.2) := by
  induction l with
  | nil => cases hP : P i <;> simp only [insertDesc, List.find?_cons, List.find?_nil, hP] <;> rfl
  | cons q r ih =>
    obtain ⟨k1, i1⟩ := q
    have h' := List.pairwise_cons.1 h
    rw [insertDesc_cons]
    by_cases hk : k > k1
    · rw [if_pos hk]
      cases hP : P i with
      | false => simp only [List.find?_cons, hP]; rfl
      | true =>
        simp only [List.find?_cons, hP, if_true]
        cases hP1 : P i1 with
        | true => simp only [if_pos hk]
        | false =>
          cases hf : r.find? (fun p => P p.2) with
          | none => rfl
          | some q =>
            -- an element found further down has a key `≤ k1 < k`
            have : k > q.1 := Nat.lt_of_le_of_lt (h'.1 _ (List.mem_of_find?_eq_some hf)) hk
            simp only [if_pos this]
    · rw [if_neg hk, List.find?_cons, List.find?_cons]
      cases hP1 : P i1 with
      | true =>
        cases hP : P i with
        | false => rfl
        | true => simp only [if_true, if_neg hk]
      | false => exact ih h'.2

theorem getLast_insertDesc (k i : Nat) (l : List (Nat × Nat)) (h : SortedD l) :
    (insertDesc k i l).getLast? =
      (match l.getLast? with
       | none => some (k, i)
       | some (k', i') => if k > k' then some (k', i') else some (k, i)) := by
  induction l with
  | nil => rfl
  | cons q r ih =>
    obtain ⟨k1, i1⟩ := q
    have h' := List.pairwise_cons.1 h
    rw [insertDesc_cons]
    by_cases hk : k > k1
    · rw [if_pos hk, List.getLast?_cons_cons]
      cases hl : ((k1, i1) :: r).getLast? with
      | none => exact absurd hl (by simp)
      | some q =>
        -- every element of the sorted list has a key `≤ k1 < k`
        have : k > q.1 := by
          rcases List.mem_cons.1 (List.mem_of_getLast? hl) with rfl | hm
          · exact hk
          · exact Nat.lt_of_le_of_lt (h'.1 _ hm) hk
        simp only [if_pos this]
    · rw [if_neg hk]
      cases r with
      | nil => simp only [insertDesc, List.getLast?_cons_cons, List.getLast?_singleton, if_neg hk]
      | cons b r' =>
        obtain ⟨c, l', hc⟩ : ∃ c l', insertDesc k i (b :: r') = c :: l' := by
          rw [insertDesc_cons]; split <;> exact ⟨_, _, rfl⟩
        rw [hc, List.getLast?_cons_cons, ← hc, ih h'.2, List.getLast?_cons_cons]

/-- insert the members `ks` (the first of which has index `i`) into `acc` -/
def foldKeys : List (Nat × Bool) → Nat → List (Nat × Nat) → List (Nat × Nat)
  | [], _, acc => acc
  | (s, _) :: r, i, acc => foldKeys r (i + 1) (insertDesc s i acc)

/-- member `i` is an anonymous structure -/
def anonK (K : List (Nat × Bool)) (i : Nat) : Bool :=
  match K[i]? with
  | some (_, a) => a
  | none => false

theorem sorted_foldKeys : ∀ (ks : List (Nat × Bool)) (c : Nat) (acc : List (Nat × Nat)), SortedD acc →
    SortedD (foldKeys ks c acc)
  | [], _, _, h => h
  | (s, _) :: r, c, acc, h => sorted_foldKeys r (c + 1) _ (sorted_insertDesc s c acc h)

theorem find_foldKeys (K : List (Nat × Bool)) (ks : List (Nat × Bool)) : ∀ (c : Nat) (acc : List (Nat × Nat)),
    K.drop c = ks → SortedD acc →
    (foldKeys ks c acc).find? (fun p => !anonK K p.2) =
      firstLargestRegular ks c (acc.find? (fun p => !anonK K p.2)) := by
  induction ks with
  | nil => intro _ _ _ _; rfl
  | cons sa r ih =>
    intro c acc hK hs
    obtain ⟨s, a⟩ := sa
    have hc : K[c]? = some (s, a) := by rw [← List.head?_drop, hK]; rfl
    have hK' : K.drop (c + 1) = r := by rw [← List.drop_drop, hK]; rfl
    have ha : anonK K c = a := by simp only [anonK, hc]
    show (foldKeys r (c + 1) (insertDesc s c acc)).find? _ = _
    rw [ih (c + 1) _ hK' (sorted_insertDesc s c acc hs), find_insertDesc (fun i => !anonK K i) s c acc hs, ha]
    cases a with
    | true => rfl
    | false =>
      cases acc.find? (fun p => !anonK K p.2) with
      | none => rfl
      | some q => show firstLargestRegular r (c + 1) (if s > q.1 then _ else _) = if s > q.1 then _ else _; split <;> rfl

theorem getLast_foldKeys (ks : List (Nat × Bool)) : ∀ (c : Nat) (acc : List (Nat × Nat)), SortedD acc →
    (foldKeys ks c acc).getLast? = lastSmallest ks c acc.getLast? := by
  induction ks with
  | nil => intro _ _ _; rfl
  | cons sa r ih =>
    intro c acc hs
    show (foldKeys r (c + 1) (insertDesc sa.1 c acc)).getLast? = _
    rw [ih (c + 1) _ (sorted_insertDesc sa.1 c acc hs), getLast_insertDesc sa.1 c acc hs]
    cases acc.getLast? with
    | none => rfl
    | some q => show lastSmallest r (c + 1) (if sa.1 > q.1 then _ else _) = if sa.1 > q.1 then _ else _; split <;> rfl

/-- `for i in range(len(items))` over `items[i]` is a left-to-right scan of `items` -/
def foldIdx {α β : Type} (g : α → Nat → β → β) : List α → Nat → β → β
  | [], _, acc => acc
  | x :: r, c, acc => foldIdx g r (c + 1) (g x c acc)

theorem range_foldl_eq {α β : Type} (g : α → Nat → β → β) (items : List α) : ∀ (c : Nat) (acc : β),
    (List.range items.length).foldl (fun acc i => match items[i]? with | some x => g x (i + c) acc | none => acc) acc =
      foldIdx g items c acc := by
  induction items with
  | nil => intro _ _; rfl
  | cons x r ih =>
    intro c acc
    rw [List.length_cons, List.range_succ_eq_map, List.foldl_cons, List.foldl_map]
    simp only [List.getElem?_cons_zero, List.getElem?_cons_succ, Nat.zero_add]
    show _ = foldIdx g r (c + 1) (g x c acc)
    rw [← ih (c + 1) (g x c acc)]
    congr 1
    funext acc i
    rw [Nat.succ_add, Nat.add_succ]

end Cstruct.C11.DumpLemmas
