/-
  Byte fidelity on fragment S. Fragment S lies inside fragment SB, and on it the bit-level mask is the byte-level mask
  (`C02B.Lemmas.maskB_fragS`), so the statements are those of `Proofs/Lemmas/C02Fidelity.lean` read through
  `applyMask m w = andBytes w (m.map maskByte)`.
-/
import Proofs.Spec.C02
import Proofs.Lemmas.C02Fidelity
import Proofs.Lemmas.C02Mask
namespace Cstruct.C02.Lemmas
open Cstruct Cstruct.C02 Cstruct.Core Cstruct.Core.Lemmas Cstruct.C02B Cstruct.C02B.Lemmas

theorem andBytes_maskByte : ∀ (m : List Bool) (w : Bytes), andBytes w (m.map maskByte) = applyMask m w
  | [], w => by rw [List.map_nil, andBytes_nil_right]; cases w <;> rfl
  | _ :: _, [] => andBytes_nil_left _
  | m :: ms, b :: bs => by
    have ih := andBytes_maskByte ms bs
    unfold andBytes at ih ⊢
    simp only [List.map_cons, List.zipWith_cons_cons, applyMask, ih]
    cases m
    · simp only [maskByte, Bool.false_eq_true, if_false, UInt8.and_zero]
    · simp only [maskByte, if_true, u8_and_ff]

theorem fragS_SB (cfg : Cfg) (ty : Ty) (h : ty.fragS cfg = true) :
    ty.fragSB cfg = true ∧ ty.bitsNatural cfg = true ∧ ty.noBits = true :=
  ⟨fragSB_of_fragS cfg ty h, bitsNatural_of_noBits cfg ty (noBits_of_fragS cfg ty h), noBits_of_fragS cfg ty h⟩
theorem fragS_SB_fields (cfg : Cfg) (fs : Fields) (h : Fields.fragS cfg fs = true) :
    Fields.fragSB cfg fs = true ∧ Fields.bitsNatural cfg fs = true ∧ Fields.noBits fs = true :=
  ⟨fragSB_of_fragS_fields cfg fs h, bitsNaturalF_of_noBits cfg fs (noBits_of_fragS_fields cfg fs h),
    noBits_of_fragS_fields cfg fs h⟩

theorem fragS_plain (cfg : Cfg) (ty : Ty) (h : ty.fragS cfg = true) : ty.plain = true :=
  fragSB_plain cfg ty (fragS_SB cfg ty h).1

theorem fragS_plain_fields (cfg : Cfg) : ∀ fs : Fields, Fields.fragS cfg fs = true → Fields.plain fs = true :=
  fun fs h => fragSB_plain_fields cfg fs (fragS_SB_fields cfg fs h).1

theorem pf_S (cfg : Cfg) (al : Bool) (d : Bytes) (ty : Ty) (hS : ty.fragS cfg = true)
    (hU : ty.uniformAlign al = true) (hP : ty.pow2Aligned cfg) : ElemPF cfg al ty d :=
  pf_ty cfg al d ty (fragS_plain cfg ty hS) (fragS_SB cfg ty hS).2.2 hU hP

theorem tyHyps_S {cfg : Cfg} {al : Bool} {ty : Ty} (hS : ty.fragS cfg = true) (hU : ty.uniformAlign al = true)
    (hP : al = true → ty.pow2Aligned cfg) : TyHyps cfg al ty :=
  ⟨(fragS_SB cfg ty hS).1, hU, hP, fun _ => (fragS_SB cfg ty hS).2.1⟩

mutual
theorem mask_packed_ty (cfg : Cfg) : ∀ ty : Ty, ty.fragS cfg = true → ty.uniformAlign false = true →
    ∀ n, ty.size cfg = some n → tyMask cfg ty = List.replicate n true
  | .sc s _ => fun _ _ n hn => by
    simp only [Ty.size] at hn
    simp only [tyMask, hn, Option.getD_some]
  | .enum b _ _ => fun _ _ n hn => by
    simp only [Ty.size] at hn
    simp only [tyMask, hn, Option.getD_some]
  | .ptr _ => fun _ _ n hn => by
    simp only [Ty.size] at hn
    simp only [tyMask, hn, Option.getD_some]
  | .union _ _ => fun h => by simp [Ty.fragS] at h
  | .arr e len => fun h hU n hn => by
    simp only [Ty.fragS, Bool.and_eq_true] at h
    simp only [Ty.uniformAlign] at hU
    cases len with
    | expr _ => simp at h
    | nullTerm => simp at h
    | eof => simp at h
    | fixed m =>
      simp only [Ty.size] at hn
      cases he : e.size cfg with
      | none => rw [he] at hn; cases hn
      | some k =>
        rw [he] at hn; cases hn
        simp only [tyMask, mask_packed_ty cfg e h.2 hU k he, List.flatten_replicate_replicate]
  | .struct al fs => fun h hU n hn => by
    simp only [Ty.fragS] at h
    simp only [Ty.uniformAlign, Bool.and_eq_true, beq_iff_eq] at hU
    obtain ⟨rfl, hU⟩ := hU
    rw [struct_size cfg false fs h] at hn
    cases hn
    have ih := mask_packed_fields cfg fs h hU 0
    -- in packed mode the size is the end of the last member: no tail padding
    simp only [tyMask, structLayout_S cfg false fs h, ih, List.length_replicate, alignTo, Bool.false_eq_true, if_false,
      Nat.sub_zero, Nat.sub_self, List.replicate_zero, List.append_nil]
theorem mask_packed_fields (cfg : Cfg) : ∀ fs : Fields, Fields.fragS cfg fs = true →
    Fields.uniformAlign false fs = true → ∀ o : Nat,
    fieldsMask cfg fs (offsS cfg false fs o) o = List.replicate (endOff cfg false fs o - o) true
  | .nil => fun _ _ _ => by simp only [fieldsMask, endOff, Nat.sub_self, List.replicate_zero]
  | .cons _ _ ty bits r => fun h hU o => by
    simp only [Fields.fragS, Bool.and_eq_true, Option.isNone_iff_eq_none] at h
    obtain ⟨⟨rfl, h1⟩, h2⟩ := h
    simp only [Fields.uniformAlign, Bool.and_eq_true] at hU
    obtain ⟨k, hk⟩ := fragS_size cfg ty h1
    have hm := mask_packed_ty cfg ty h1 hU.1 k hk
    have hao : alignTo false o (ty.alignment cfg) = o := by simp [alignTo]
    have ih := mask_packed_fields cfg r h2 hU.2 (o + k)
    have hle := le_endOff cfg false r (o + k)
    simp only [offsS, endOff, hk, hao, Option.getD_some, fieldsMask, List.headD_cons, List.drop_succ_cons,
      List.drop_zero, hm, ih, List.length_replicate, Nat.sub_self, List.replicate_zero, List.nil_append,
      List.replicate_append_replicate]
    congr 1; omega
end

theorem fieldsMask_length (cfg : Cfg) (al : Bool) : ∀ fs : Fields, Fields.fragS cfg fs = true →
    Fields.uniformAlign al fs = true → (al = true → fs.pow2Aligned cfg) → ∀ o : Nat,
    o + (fieldsMask cfg fs (offsS cfg al fs o) o).length = endOff cfg al fs o
  | .nil => fun _ _ _ _ => rfl
  | .cons _ _ ty bits r => fun h hU hP o => by
    simp only [Fields.fragS, Bool.and_eq_true, Option.isNone_iff_eq_none] at h
    obtain ⟨⟨rfl, h1⟩, h2⟩ := h
    simp only [Fields.uniformAlign, Bool.and_eq_true] at hU
    obtain ⟨k, hk⟩ := fragS_size cfg ty h1
    have hm := (ty_ok cfg al ty (tyHyps_S h1 hU.1 fun ha => (hP ha).1) k hk).1
    rw [maskB_fragS cfg ty h1, List.length_map] at hm
    have ih := fieldsMask_length cfg al r h2 hU.2 (fun ha => (hP ha).2) (alignTo al o (ty.alignment cfg) + k)
    have hle := le_alignTo al o (ty.alignment cfg)
    simp only [offsS, endOff, hk, Option.getD_some, fieldsMask, List.headD_cons, List.drop_succ_cons, List.drop_zero,
      List.length_append, List.length_replicate, hm] at ih ⊢
    omega

theorem writeFields_S_empty (cfg : Cfg) (al : Bool) : ∀ fs : Fields, Fields.fragS cfg fs = true →
    ∀ (o : Nat) (vs : Vals), HasTysB cfg vs fs → ∀ (start pos : Nat) (out : Bytes) (bbF : BitBuf),
    writeFields cfg al fs (offsS cfg al fs o) vs start BitBuf.empty pos = .ok (out, bbF) → bbF = BitBuf.empty
  | .nil => fun _ _ _ _ _ _ _ _ h => by
    rw [writeFields_nil] at h; cases h; rfl
  | .cons name an ty bits rest => fun hS o vs hvs start pos out bbF h => by
    simp only [Fields.fragS, Bool.and_eq_true, Option.isNone_iff_eq_none] at hS
    obtain ⟨⟨rfl, _⟩, hS2⟩ := hS
    cases hvs with
    | cons _ hvs' =>
      rw [offsS, writeFields_cons_S] at h
      obtain ⟨body, _, h2⟩ := bind_ok h
      obtain ⟨⟨o', bbf⟩, h3, h4⟩ := bind_ok h2
      cases h4
      exact writeFields_S_empty cfg al rest hS2 _ _ hvs' _ _ _ _ h3

theorem rw_fields (cfg : Cfg) (al : Bool) : ∀ (fs : Fields), Fields.fragS cfg fs = true →
    Fields.uniformAlign al fs = true → (al = true → fs.pow2Aligned cfg) →
    ∀ (ctx : Ctx) (d : Bytes) (start o : Nat) (bb : BitBuf) (vs : Vals) (szs : List (String × Nat)) (q : Nat),
    readFields cfg al fs (offsS cfg al fs o) start bb ctx d (start + o) = .ok (vs, szs, q) →
    (al = true → allAlignDvd cfg start fs) →
    q = start + endOff cfg al fs o ∧
    (q ≤ d.length →
      writeFields cfg al fs (offsS cfg al fs o) vs start BitBuf.empty (start + o) =
        .ok (applyMask (fieldsMask cfg fs (offsS cfg al fs o) o) (sread d (start + o) (endOff cfg al fs o - o)),
          BitBuf.empty)) := by
  intro fs hS hU hP ctx d start o bb vs szs q h hdv
  obtain ⟨hSB, hN, _⟩ := fragS_SB_fields cfg fs hS
  obtain ⟨n, _, hml, hrun⟩ := idle_ok cfg al fs ⟨hSB, hU, hP, fun _ => hN⟩ (mkSt (some o) 0) _ _ _
    (fragS_layout cfg fs hS al o 0) (lidle_of_rem _ rfl fs) o rfl
  rw [fieldsMaskB_fragS cfg fs hS, List.length_map] at hml
  have hn := fieldsMask_length cfg al fs hS hU hP o
  rw [hml] at hn
  rw [← hn, Nat.add_sub_cancel_left]
  have hri : RIdle bb fs := by
    cases fs with
    | nil => trivial
    | cons _ _ _ bits _ =>
      simp only [Fields.fragS, Bool.and_eq_true, Option.isNone_iff_eq_none] at hS
      obtain ⟨⟨rfl, _⟩, _⟩ := hS
      trivial
  -- the parse, replayed on an input that is long enough, ends where the member loop says
  obtain ⟨_, _, hr', _⟩ := hrun (d ++ zeros (start + (o + n))) start bb
    (by rw [List.length_append, length_zeros]; omega) hdv hri ctx
  rw [ext_fields cfg d _ fs (fragS_plain_fields cfg fs hS) al _ start bb ctx _ _ h] at hr'
  cases hr'
  refine ⟨rfl, fun hq => ?_⟩
  obtain ⟨_, _, hr'', hvs, out, bbF, fl, hw, hfl, hout⟩ := hrun d start bb hq hdv hri ctx
  rw [h] at hr''
  cases hr''
  cases writeFields_S_empty cfg al fs hS o vs hvs _ _ _ _ hw
  cases hfl
  rw [hw, ← andBytes_maskByte, ← fieldsMaskB_fragS cfg fs hS, ← hout, List.append_nil]

/-- `C02.c02_fidelity_aligned`; `al` is the flag of the type's structures, packed types included -/
theorem fidelity_masked (cfg : Cfg) (al : Bool) (ty : Ty) (hS : ty.fragS cfg = true) (hu : ty.uniformAlign al = true)
    (hp : ty.pow2Aligned cfg) (ctx : Ctx) (d : Bytes) (pos : Nat) (hal : ty.alignsDivide cfg pos = true) (v : Val) (p : Nat)
    (hr : read cfg ty ctx d pos = .ok (v, p)) (hlen : p ≤ d.length) :
    ∃ bs, write cfg ty v pos = .ok bs ∧ bs.length = p - pos ∧ pos ≤ p ∧
      bs = applyMask (tyMask cfg ty) ((d.drop pos).take (p - pos)) ∧ (tyMask cfg ty).length = p - pos := by
  obtain ⟨k, hk⟩ := fragS_size cfg ty hS
  obtain ⟨rfl, _, hml, hw⟩ := fidelity cfg al ty (tyHyps_S hS hu fun _ => hp) k hk ctx d pos
    (fun _ => sAlign_dvd_of_alignsDivide cfg pos ty hal) v p hr
  rw [Nat.add_sub_cancel_left]
  refine ⟨_, hw hlen, andBytes_window_length d pos k _ hml hlen, Nat.le_add_right _ _, ?_, ?_⟩
  · rw [maskB_fragS cfg ty hS, andBytes_maskByte]; rfl
  · rwa [maskB_fragS cfg ty hS, List.length_map] at hml

theorem sread_ext_ne (d : Bytes) (pos k m : Nat) (hpos : pos ≤ d.length) (h1 : d.length < pos + k)
    (h2 : pos + k ≤ d.length + m) :
    sread (d ++ List.replicate m 0) pos k ≠ sread (d ++ List.replicate m 1) pos k := by
  intro h
  have := congrArg (fun l => l[d.length - pos]?) h
  have hlt : d.length - pos < k := by omega
  have hm : 0 < m := by omega
  have e : pos + (d.length - pos) = d.length := by omega
  simp only [sread, List.getElem?_take, List.getElem?_drop, hlt, if_true, e,
    List.getElem?_append_right (Nat.le_refl _), Nat.sub_self, List.getElem?_replicate, hm] at this
  exact absurd this (by decide)

/-- The consumed bytes all exist: the dump does not depend on the input, so were the end beyond the input, two extensions
    of the input by different filler bytes would give two different dumps of the same value. -/
theorem fidelity_packed (cfg : Cfg) (ty : Ty) (hS : ty.fragS cfg = true) (hu : ty.uniformAlign false = true)
    (ctx : Ctx) (d : Bytes) (pos : Nat) (hpos : pos ≤ d.length) (v : Val) (p : Nat)
    (hr : read cfg ty ctx d pos = .ok (v, p)) :
    write cfg ty v pos = .ok ((d.drop pos).take (p - pos)) ∧ pos ≤ p ∧ p ≤ d.length := by
  obtain ⟨k, hk⟩ := fragS_size cfg ty hS
  have hT : TyHyps cfg false ty := tyHyps_S hS hu nofun
  have hm : maskB cfg ty = List.replicate k 0xFF := by
    rw [maskB_fragS cfg ty hS, mask_packed_ty cfg ty hS hu k hk, map_replicate_true]
  -- on an input `d'` in which the `k` bytes from `pos` exist, the dump is these bytes
  have key : ∀ d' : Bytes, d <+: d' → pos + k ≤ d'.length → write cfg ty v pos = .ok (sread d' pos k) := fun d' hpre hl => by
    obtain ⟨hp, _, _, hw⟩ := fidelity cfg false ty hT k hk ctx d' pos nofun v p
      (Core.read_extend cfg ty (fragS_plain cfg ty hS) ctx d pos v p hr d' hpre)
    rw [hw (by omega), hm, andBytes_ff k _ (sread_length_of_le d' pos k hl)]
  obtain ⟨rfl, _⟩ := fidelity cfg false ty hT k hk ctx d pos nofun v p hr
  have hle : pos + k ≤ d.length := by
    apply Decidable.byContradiction
    intro hn
    have w0 := key (d ++ List.replicate (k + 1) 0) (List.prefix_append _ _)
      (by rw [List.length_append, List.length_replicate]; omega)
    rw [key (d ++ List.replicate (k + 1) 1) (List.prefix_append _ _)
      (by rw [List.length_append, List.length_replicate]; omega)] at w0
    exact sread_ext_ne d pos k (k + 1) hpos (by omega) (by omega) (Except.ok.inj w0).symm
  rw [Nat.add_sub_cancel_left]
  exact ⟨key d (List.prefix_refl d) hle, Nat.le_add_right _ _, hle⟩

/-- `C02.c02_fidelity_packed` without its hypothesis `pos ≤ d.length` is false: a zero-size type read at a position beyond
    the end of the input "succeeds" without touching the input and ends where it started -/
theorem c02_fidelity_packed_counterexample :
    ¬ (∀ (cfg : Cfg) (ty : Ty) (_ : ty.fragS cfg = true) (_ : ty.uniformAlign false = true)
      (ctx : Ctx) (d : Bytes) (pos : Nat) (v : Val) (p : Nat) (_ : read cfg ty ctx d pos = .ok (v, p)),
      write cfg ty v pos = .ok ((d.drop pos).take (p - pos)) ∧ pos ≤ p ∧ p ≤ d.length) := by
  intro h
  exact absurd (h cfg0 (.sc .void 0) rfl rfl [] [] 1 .void 1 (by rw [read_sc]; rfl)).2.2 (Nat.not_succ_le_zero 0)

end Cstruct.C02.Lemmas
