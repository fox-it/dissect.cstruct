/-
  Alignment arithmetic (powers of two, `padNat`, `alignTo`, the alignments occurring in a type), the equation of
  `Fields.layout` at a member without bit width, and the layout of structures of fragment S (closed forms `offsS`,
  `endOff`).
-/
import Proofs.Lemmas.CoreUnfold
import Proofs.C04
namespace Cstruct.Core.Lemmas
open Cstruct Cstruct.Core

def IsP2 (a : Nat) : Prop := ∃ k, a = 2 ^ k

theorem IsP2.pos {a : Nat} (h : IsP2 a) : 0 < a := C04.Lemmas.isPow2_pos h

theorem isP2_one : IsP2 1 := ⟨0, rfl⟩

theorem p2_dvd_of_le {x y : Nat} (hx : IsP2 x) (hy : IsP2 y) (h : x ≤ y) : x ∣ y := by
  obtain ⟨i, rfl⟩ := hx
  obtain ⟨j, rfl⟩ := hy
  have hij : i ≤ j := (Nat.pow_le_pow_iff_right (by decide)).mp h
  exact Nat.pow_dvd_pow 2 hij

theorem isP2_max {x y : Nat} (hx : IsP2 x) (hy : y = 0 ∨ IsP2 y) : IsP2 (max y x) := by
  rcases hy with rfl | hy
  · simpa using hx
  · exact C04.Lemmas.isPow2_max hy hx

theorem dvd_max_right {x y : Nat} (hx : IsP2 x) (hy : y = 0 ∨ IsP2 y) : x ∣ max y x := by
  rcases hy with rfl | hy
  · simp
  · rcases Nat.le_total y x with h | h
    · rw [Nat.max_eq_right h]; exact Nat.dvd_refl _
    · rw [Nat.max_eq_left h]; exact p2_dvd_of_le hx hy h

theorem dvd_max_left {x y : Nat} (hx : IsP2 x) (hy : IsP2 y) : y ∣ max y x := by
  rcases Nat.le_total y x with h | h
  · rw [Nat.max_eq_right h]; exact p2_dvd_of_le hy hx h
  · rw [Nat.max_eq_left h]; exact Nat.dvd_refl _

theorem padNat_zero (o : Nat) : padNat o 0 = 0 := by
  cases o with
  | zero => decide +kernel
  | succ n =>
    show (land (Int.negSucc n) (Int.negSucc 0)).toNat = 0
    rfl

theorem padNat_p2_mod {a : Nat} (ha : IsP2 a) (o : Nat) : (o + padNat o a) % a = 0 := by
  obtain ⟨k, rfl⟩ := ha; exact (C04.c04_pad o k).2.2.1

theorem padNat_p2_dvd {a : Nat} (ha : IsP2 a) (o : Nat) : a ∣ o + padNat o a :=
  Nat.dvd_of_mod_eq_zero (padNat_p2_mod ha o)

theorem padNat_p2_eq {a : Nat} (ha : IsP2 a) (o : Nat) : padNat o a = (a - o % a) % a := by
  obtain ⟨k, rfl⟩ := ha; exact (C04.c04_pad o k).1

theorem padNat_of_dvd {a : Nat} (ha : IsP2 a) (x : Nat) (h : a ∣ x) : padNat x a = 0 := by
  rw [padNat_p2_eq ha, Nat.mod_eq_zero_of_dvd h, Nat.sub_zero, Nat.mod_self]

theorem padNat_add_of_dvd {a : Nat} (ha : a = 0 ∨ IsP2 a) (s e : Nat) (h : a ∣ s) : padNat (s + e) a = padNat e a := by
  rcases ha with rfl | ha
  · rw [padNat_zero, padNat_zero]
  · rw [padNat_p2_eq ha, padNat_p2_eq ha]
    obtain ⟨c, rfl⟩ := h
    rw [Nat.mul_add_mod]

/-- the aligned (or, in packed mode, unchanged) offset -/
def alignTo (al : Bool) (o a : Nat) : Nat := if al then o + padNat o a else o

theorem le_alignTo (al : Bool) (o a : Nat) : o ≤ alignTo al o a := by
  unfold alignTo; split <;> omega

theorem alignTo_dvd {a : Nat} (ha : IsP2 a) (o : Nat) : a ∣ alignTo true o a := by
  simp only [alignTo, if_true]; exact padNat_p2_dvd ha o

theorem alignTo_of_dvd {a : Nat} (ha : IsP2 a) (al : Bool) (x : Nat) (h : al = true → a ∣ x) : alignTo al x a = x := by
  unfold alignTo
  cases al with
  | false => rfl
  | true => simp only [if_true, padNat_of_dvd ha x (h rfl), Nat.add_zero]

theorem alignTo_add {a : Nat} (ha : a = 0 ∨ IsP2 a) (al : Bool) (s e : Nat) (h : a ∣ s) :
    alignTo al (s + e) a = s + alignTo al e a := by
  unfold alignTo
  cases al with
  | false => simp
  | true => simp only [if_true]; rw [padNat_add_of_dvd ha s e h]; omega

def allAlignDvd (cfg : Cfg) (m : Nat) : Fields → Prop
  | .nil => True
  | .cons _ _ t _ r => t.alignment cfg ∣ m ∧ allAlignDvd cfg m r

theorem allAlignDvd_trans (cfg : Cfg) {m n : Nat} (h : m ∣ n) : ∀ fs, allAlignDvd cfg m fs → allAlignDvd cfg n fs
  | .nil, _ => trivial
  | .cons _ _ _ _ r, hm => ⟨Nat.dvd_trans hm.1 h, allAlignDvd_trans cfg h r hm.2⟩

theorem scAlign_p2 {a : Nat} (h : a = 0 ∨ ∃ k, a = 2 ^ k) : IsP2 (if a = 0 then 1 else a) := by
  rcases h with rfl | h
  · exact isP2_one
  · have := IsP2.pos h
    rw [if_neg (by omega)]; exact h

mutual
theorem alignment_p2 (cfg : Cfg) : ∀ ty : Ty, ty.pow2Aligned cfg → IsP2 (ty.alignment cfg)
  | .sc _ a, h => by simp only [Ty.pow2Aligned] at h; simp only [Ty.alignment]; exact scAlign_p2 h
  | .enum _ a _, h => by simp only [Ty.pow2Aligned] at h; simp only [Ty.alignment]; exact scAlign_p2 h
  | .ptr t, h => by simp only [Ty.pow2Aligned] at h; simp only [Ty.alignment]; exact scAlign_p2 h.1
  | .arr e _, h => by
    simp only [Ty.pow2Aligned] at h; simp only [Ty.alignment]; exact alignment_p2 cfg e h
  | .struct _ fs, h => by
    simp only [Ty.pow2Aligned] at h; simp only [Ty.alignment]
    rcases maxAlign_p2 cfg fs h 0 (Or.inl rfl) with h0 | h0
    · rw [if_pos h0]; exact isP2_one
    · rw [if_neg (by have := h0.pos; omega)]; exact h0
  | .union _ fs, h => by
    simp only [Ty.pow2Aligned] at h; simp only [Ty.alignment]
    rcases maxAlign_p2 cfg fs h 0 (Or.inl rfl) with h0 | h0
    · rw [if_pos h0]; exact isP2_one
    · rw [if_neg (by have := h0.pos; omega)]; exact h0
theorem maxAlign_p2 (cfg : Cfg) : ∀ fs : Fields, fs.pow2Aligned cfg → ∀ a, (a = 0 ∨ IsP2 a) →
    (Fields.maxAlign cfg fs a = 0 ∨ IsP2 (Fields.maxAlign cfg fs a))
  | .nil, _, a, ha => by simpa only [Fields.maxAlign] using ha
  | .cons _ _ t _ r, h, a, ha => by
    simp only [Fields.pow2Aligned] at h
    simp only [Fields.maxAlign]
    exact maxAlign_p2 cfg r h.2 _ (Or.inr (isP2_max (alignment_p2 cfg t h.1) ha))
end

theorem maxAlign_dvd (cfg : Cfg) : ∀ fs : Fields, fs.pow2Aligned cfg → ∀ a, (a = 0 ∨ IsP2 a) →
    allAlignDvd cfg (Fields.maxAlign cfg fs a) fs ∧ (a = 0 ∨ a ∣ Fields.maxAlign cfg fs a)
  | .nil, _, a, _ => ⟨trivial, by simp only [Fields.maxAlign]; exact Or.inr (Nat.dvd_refl _)⟩
  | .cons _ _ t _ r, h, a, ha => by
    simp only [Fields.pow2Aligned] at h
    have ht := alignment_p2 cfg t h.1
    obtain ⟨h1, h2⟩ := maxAlign_dvd cfg r h.2 (max a (t.alignment cfg)) (Or.inr (isP2_max ht ha))
    have h2 : max a (t.alignment cfg) ∣ Fields.maxAlign cfg r (max a (t.alignment cfg)) := by
      rcases h2 with h2 | h2
      · have := (isP2_max ht ha).pos; omega
      · exact h2
    simp only [Fields.maxAlign, allAlignDvd]
    refine ⟨⟨Nat.dvd_trans (dvd_max_right ht ha) h2, h1⟩, ?_⟩
    rcases ha with rfl | ha
    · exact Or.inl rfl
    · exact Or.inr (Nat.dvd_trans (dvd_max_left ht ha) h2)

theorem scAlign_dvd {a m : Nat} (h : decide (m % (if a = 0 then 1 else a) = 0) = true) :
    (if a = 0 then 1 else a) ∣ m := Nat.dvd_of_mod_eq_zero (of_decide_eq_true h)

mutual
theorem alignment_dvd_of_alignsDivide (cfg : Cfg) (m : Nat) : ∀ ty : Ty, ty.alignsDivide cfg m = true →
    ty.alignment cfg ∣ m
  | .sc _ a, h => by simp only [Ty.alignsDivide] at h; simp only [Ty.alignment]; exact scAlign_dvd h
  | .enum _ a _, h => by simp only [Ty.alignsDivide] at h; simp only [Ty.alignment]; exact scAlign_dvd h
  | .ptr t, h => by simp only [Ty.alignsDivide] at h; simp only [Ty.alignment]; exact scAlign_dvd h
  | .arr e _, h => by
    simp only [Ty.alignsDivide] at h; simp only [Ty.alignment]; exact alignment_dvd_of_alignsDivide cfg m e h
  | .struct _ fs, h => by
    simp only [Ty.alignsDivide] at h; simp only [Ty.alignment]
    rcases maxAlign_dvd_of_alignsDivide cfg m fs h 0 (Or.inl rfl) with h0 | h0
    · rw [if_pos h0]; exact Nat.one_dvd _
    · split
      · exact Nat.one_dvd _
      · exact h0
  | .union _ fs, h => by
    simp only [Ty.alignsDivide] at h; simp only [Ty.alignment]
    rcases maxAlign_dvd_of_alignsDivide cfg m fs h 0 (Or.inl rfl) with h0 | h0
    · rw [if_pos h0]; exact Nat.one_dvd _
    · split
      · exact Nat.one_dvd _
      · exact h0
theorem maxAlign_dvd_of_alignsDivide (cfg : Cfg) (m : Nat) : ∀ fs : Fields, Fields.alignsDivide cfg m fs = true →
    ∀ a, (a = 0 ∨ a ∣ m) → (Fields.maxAlign cfg fs a = 0 ∨ Fields.maxAlign cfg fs a ∣ m)
  | .nil, _, a, ha => by simpa only [Fields.maxAlign] using ha
  | .cons _ _ t _ r, h, a, ha => by
    simp only [Fields.alignsDivide, Bool.and_eq_true] at h
    simp only [Fields.maxAlign]
    apply maxAlign_dvd_of_alignsDivide cfg m r h.2
    right
    have ht := alignment_dvd_of_alignsDivide cfg m t h.1
    rcases Nat.le_total a (t.alignment cfg) with hle | hle
    · rw [Nat.max_eq_right hle]; exact ht
    · rw [Nat.max_eq_left hle]
      rcases ha with rfl | ha
      · have : t.alignment cfg = 0 := by omega
        rw [this] at ht; exact ht
      · exact ha
end

/-- the alignment that matters for the start position: that of the structures reached through arrays -/
def sAlign (cfg : Cfg) : Ty → Nat
  | .arr e _ => sAlign cfg e
  | .struct al fs => (Ty.struct al fs).alignment cfg
  | _ => 1

theorem sAlign_dvd_alignment (cfg : Cfg) : ∀ ty : Ty, sAlign cfg ty ∣ ty.alignment cfg
  | .sc _ _ => Nat.one_dvd _
  | .enum _ _ _ => Nat.one_dvd _
  | .ptr _ => Nat.one_dvd _
  | .arr e _ => by simp only [sAlign, Ty.alignment]; exact sAlign_dvd_alignment cfg e
  | .struct _ _ => by simp only [sAlign]; exact Nat.dvd_refl _
  | .union _ _ => Nat.one_dvd _

theorem sAlign_dvd_of_alignsDivide (cfg : Cfg) (m : Nat) (ty : Ty) (h : ty.alignsDivide cfg m = true) :
    sAlign cfg ty ∣ m :=
  Nat.dvd_trans (sAlign_dvd_alignment cfg ty) (alignment_dvd_of_alignsDivide cfg m ty h)


theorem le_maxAlign (cfg : Cfg) : ∀ (fs : Fields) (a : Nat), a ≤ Fields.maxAlign cfg fs a
  | .nil, a => Nat.le_refl _
  | .cons _ _ t _ r, a => by
    simp only [Fields.maxAlign]
    have := le_maxAlign cfg r (max a (t.alignment cfg))
    have := Nat.le_max_left a (t.alignment cfg)
    omega

theorem maxAlign_eq_zero (cfg : Cfg) (fs : Fields) (hp : fs.pow2Aligned cfg) (h : Fields.maxAlign cfg fs 0 = 0) :
    fs = .nil := by
  cases fs with
  | nil => rfl
  | cons n an t b r =>
    simp only [Fields.pow2Aligned] at hp
    simp only [Fields.maxAlign] at h
    have h1 := le_maxAlign cfg r (max 0 (t.alignment cfg))
    have h2 := (alignment_p2 cfg t hp.1).pos
    have h3 := Nat.le_max_right 0 (t.alignment cfg)
    omega

theorem allAlignDvd_of_sAlign (cfg : Cfg) (al : Bool) (fs : Fields) (hp : fs.pow2Aligned cfg) (pos : Nat)
    (h : sAlign cfg (.struct al fs) ∣ pos) : allAlignDvd cfg pos fs := by
  simp only [sAlign, Ty.alignment] at h
  by_cases h0 : Fields.maxAlign cfg fs 0 = 0
  · rw [maxAlign_eq_zero cfg fs hp h0]; trivial
  · rw [if_neg h0] at h
    exact allAlignDvd_trans cfg h fs (maxAlign_dvd cfg fs hp 0 (Or.inl rfl)).1

theorem padNat_struct (cfg : Cfg) (al : Bool) (fs : Fields) (hp : fs.pow2Aligned cfg) (pos e : Nat)
    (h : sAlign cfg (.struct al fs) ∣ pos) :
    padNat (pos + e) (Fields.maxAlign cfg fs 0) = padNat e (Fields.maxAlign cfg fs 0) := by
  simp only [sAlign, Ty.alignment] at h
  by_cases h0 : Fields.maxAlign cfg fs 0 = 0
  · rw [h0, padNat_zero, padNat_zero]
  · rw [if_neg h0] at h
    exact padNat_add_of_dvd (maxAlign_p2 cfg fs hp 0 (Or.inl rfl)) pos e h


def mkSt (o : Option Nat) (a : Nat) : LState :=
  { offset := o, alignment := a, bitsType := none, bitsFieldOffset := some 0, bitsRemaining := 0 }

theorem init_eq_mkSt : LState.init = mkSt (some 0) 0 := rfl

/-- closed form of the member offsets -/
def offsS (cfg : Cfg) (al : Bool) : Fields → Nat → List (Option Nat)
  | .nil, _ => []
  | .cons _ _ ty _ r, o =>
    some (alignTo al o (ty.alignment cfg)) :: offsS cfg al r (alignTo al o (ty.alignment cfg) + (ty.size cfg).getD 0)

/-- closed form of the end of the last member -/
def endOff (cfg : Cfg) (al : Bool) : Fields → Nat → Nat
  | .nil, o => o
  | .cons _ _ ty _ r, o => endOff cfg al r (alignTo al o (ty.alignment cfg) + (ty.size cfg).getD 0)

theorem le_endOff (cfg : Cfg) (al : Bool) : ∀ (fs : Fields) (o : Nat), o ≤ endOff cfg al fs o
  | .nil, o => Nat.le_refl _
  | .cons _ _ ty _ r, o => by
    simp only [endOff]
    have h1 := le_alignTo al o (ty.alignment cfg)
    have h2 := le_endOff cfg al r (alignTo al o (ty.alignment cfg) + (ty.size cfg).getD 0)
    omega

theorem layout_nil (cfg : Cfg) (al : Bool) (st : LState) :
    Fields.layout cfg al .nil st = .ok (st.offset.map fun o => alignTo al o st.alignment, st.alignment, []) := by
  rw [Fields.layout]
  cases st.offset <;> cases al <;> rfl

def alignedOff (cfg : Cfg) (al : Bool) (ty : Ty) (st : LState) : Option Nat :=
  st.offset.map fun o => alignTo al o (ty.alignment cfg)

def stNext (cfg : Cfg) (al : Bool) (ty : Ty) (st : LState) : LState :=
  { offset := (alignedOff cfg al ty st).bind fun o => (ty.size cfg).map (o + ·),
    alignment := max st.alignment (ty.alignment cfg), bitsType := none, bitsFieldOffset := some 0, bitsRemaining := 0 }

-- the same case tree on both sides (`CoreUnfold`, unfolding the reader, says why the option)
set_option smartUnfolding false in
theorem layout_cons_nobits (cfg : Cfg) (al : Bool) (n an ty bits rest st) (hb : isBitW bits = false) :
    Fields.layout cfg al (.cons n an ty bits rest) st =
      (Fields.layout cfg al rest (stNext cfg al ty st)).bind fun (sz, sa, offs) =>
        .ok (sz, sa, alignedOff cfg al ty st :: offs) := by
  rw [Fields.layout]
  · unfold stNext
    obtain ⟨_ | o, sal, bt, bfo, br⟩ := st
    · rfl
    · cases al <;> cases ty.size cfg <;> rfl
  · intro b h; subst h; cases hb

theorem layout_cons (cfg : Cfg) (al : Bool) (n : String) (an : Bool) (ty : Ty) (rest : Fields) (o a k : Nat)
    (hk : ty.size cfg = some k) :
    Fields.layout cfg al (.cons n an ty none rest) (mkSt (some o) a) =
      (Fields.layout cfg al rest (mkSt (some (alignTo al o (ty.alignment cfg) + k)) (max a (ty.alignment cfg)))).bind
        fun (sz, sa, offs) => .ok (sz, sa, some (alignTo al o (ty.alignment cfg)) :: offs) := by
  rw [layout_cons_nobits cfg al n an ty none rest _ rfl]
  simp only [stNext, alignedOff, mkSt, hk, Option.map, Option.bind]

mutual
theorem fragS_size (cfg : Cfg) : ∀ ty : Ty, ty.fragS cfg = true → ∃ k, ty.size cfg = some k
  | .sc s _, h => by
    cases s <;> simp [Ty.fragS] at h <;> simp [Ty.size, Scalar.size]
  | .enum b _ _, h => by
    simp only [Ty.fragS] at h
    cases b <;> simp [Scalar.isInt] at h <;> simp [Ty.size, Scalar.size]
  | .ptr _, h => by
    simp only [Ty.fragS] at h
    simp only [Ty.size]
    cases hp : cfg.ptr <;> rw [hp] at h <;> simp [Scalar.isInt] at h <;> simp [Scalar.size]
  | .arr e len, h => by
    simp only [Ty.fragS, Bool.and_eq_true] at h
    cases len with
    | fixed n =>
      obtain ⟨k, hk⟩ := fragS_size cfg e h.2
      exact ⟨n * k, by simp only [Ty.size, hk]⟩
    | expr _ | nullTerm | eof => simp at h
  | .struct al fs, h => by
    simp only [Ty.fragS] at h
    have := fragS_layout cfg fs h al 0 0
    refine ⟨alignTo al (endOff cfg al fs 0) (Fields.maxAlign cfg fs 0), ?_⟩
    simp only [Ty.size]
    rw [show ({ offset := some 0, alignment := 0, bitsType := none, bitsFieldOffset := some 0, bitsRemaining := 0 } : LState)
      = mkSt (some 0) 0 from rfl, this]
  | .union _ _, h => by simp [Ty.fragS] at h
theorem fragS_layout (cfg : Cfg) : ∀ fs : Fields, Fields.fragS cfg fs = true → ∀ (al : Bool) (o a : Nat),
    Fields.layout cfg al fs (mkSt (some o) a) =
      .ok (some (alignTo al (endOff cfg al fs o) (Fields.maxAlign cfg fs a)), Fields.maxAlign cfg fs a, offsS cfg al fs o)
  | .nil, _, al, o, a => by rw [layout_nil]; rfl
  | .cons n an ty bits r, h, al, o, a => by
    simp only [Fields.fragS, Bool.and_eq_true, Option.isNone_iff_eq_none] at h
    obtain ⟨⟨rfl, h1⟩, h2⟩ := h
    obtain ⟨k, hk⟩ := fragS_size cfg ty h1
    rw [layout_cons cfg al n an ty r o a k hk, fragS_layout cfg r h2]
    simp only [Except.bind, endOff, offsS, Fields.maxAlign, hk, Option.getD_some]
end

theorem struct_size (cfg : Cfg) (al : Bool) (fs : Fields) (h : Fields.fragS cfg fs = true) :
    (Ty.struct al fs).size cfg = some (alignTo al (endOff cfg al fs 0) (Fields.maxAlign cfg fs 0)) := by
  simp only [Ty.size]
  rw [show ({ offset := some 0, alignment := 0, bitsType := none, bitsFieldOffset := some 0, bitsRemaining := 0 } : LState)
      = mkSt (some 0) 0 from rfl, fragS_layout cfg fs h]

theorem structLayout_S (cfg : Cfg) (al : Bool) (fs : Fields) (h : Fields.fragS cfg fs = true) :
    structLayout cfg al fs =
      .ok (some (alignTo al (endOff cfg al fs 0) (Fields.maxAlign cfg fs 0)), Fields.maxAlign cfg fs 0, offsS cfg al fs 0) := by
  unfold structLayout; rw [init_eq_mkSt, fragS_layout cfg fs h]

end Cstruct.Core.Lemmas
