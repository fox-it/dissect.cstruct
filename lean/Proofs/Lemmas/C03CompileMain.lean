/-
  Every plan the compiler model emits is accepted by the validator (`genFields_ok`).  The generator (`genFields`), the layout
  (`Fields.layout`) and the validator (`planOKAux`) are walked along the field list together; the invariant `CInv` ties
  the generator's bookkeeping (`GState`), the layout state (`LState`) and the validator's state (`VSt`).
-/
import Proofs.Lemmas.C03CompileInstr

namespace Cstruct.Compiler
open Cstruct Cstruct.Core.Lemmas

/-- the layout's running offset `off` is the end of a storage unit of `fsz` bytes that starts at `bfo` (at a multiple of
    its size in an aligned structure), or it is unknown -/
def UnitAt (al : Bool) (off bfo : Option Nat) (fsz : Nat) : Prop :=
  off = none ∨ ∃ b, bfo = some b ∧ off = some (b + fsz) ∧ (al = true → fsz ∣ b)

/-- the storage unit of the bit reader as the validator (`u`), the generator and the layout keep it -/
structure UnitAgree (al : Bool) (u : Option (Scalar × Nat)) (gst : GState) (lst : LState) : Prop where
  gRem : gst.bitsRem = (unitRem u : Int)
  lRem : lst.bitsRemaining = (unitRem u : Int)
  ty : ∀ ft rem, u = some (ft, rem) → gst.prevBitsTy = some ft ∧ lst.bitsType = some ft ∧
    ∃ fsz, ft.size = some fsz ∧ UnitAt al lst.offset lst.bitsFieldOffset fsz

/-- the state in front of the statements of a member when no block is pending -/
structure Front (al : Bool) (gst : GState) (vst : VSt) (lst : LState) : Prop where
  la : vst.lastAlign = none
  known : Known vst.spos lst.offset gst.cur
  unit : UnitAgree al vst.unit gst lst

structure BitRun (al : Bool) (gst : GState) (vst : VSt) (lst : LState) : Prop where
  blk : gst.block = []
  pb : gst.prevBits = true
  front : Front al gst vst lst

structure CInv (cfg : Cfg) (al : Bool) (gst : GState) (vst : VSt) (lst : LState)
    (fsV : Fields) (offsV : List (Option Nat)) (fs : Fields) (offs : List (Option Nat)) : Prop where
  /-- the tracked `current_offset` never runs ahead of the layout (it ignores alignment padding) -/
  cur : ∀ c l, gst.cur = some c → lst.offset = some l → c ≤ l
  roll : gst.rollover = true → lst.offset = none
  mode : ((∃ bs, PlainSt cfg al gst vst bs lst.offset fsV offsV fs offs) ∧ lst.bitsRemaining = 0) ∨
    (BitRun al gst vst lst ∧ fsV = fs ∧ offsV = offs)

theorem fieldType_size (cfg : Cfg) (ty : Ty) : (fieldType ty).size cfg = ty.size cfg := by
  cases ty <;> rfl

theorem fieldType_bitBase (ty : Ty) : (fieldType ty).bitBase = ty.bitBase := by
  cases ty <;> rfl

/-- after a member without a bit width whose layout offset is `o`: the parts `cur` and `roll` of `CInv` -/
theorem advance_plain (st : GState) (size : Option Nat) (et : Ty) (o : Option Nat)
    (hle : ∀ c oo, st.cur = some c → o = some oo → c ≤ oo) (hr : st.rollover = true → o = none) :
    (∀ c l, (advance st false size et).cur = some c → addOpt o size = some l → c ≤ l) ∧
    ((advance st false size et).rollover = true → addOpt o size = none) := by
  cases o with
  | none => exact ⟨fun c l _ hl => (by cases hl), fun _ => rfl⟩
  | some oo =>
    cases size with
    | none => exact ⟨fun c l _ hl => (by cases hl), fun _ => rfl⟩
    | some z =>
      unfold advance
      simp only [Bool.not_false, Bool.true_or, if_true, Bool.and_true]
      cases hc : st.cur with
      | none =>
        dsimp only
        refine ⟨fun c l h _ => ?_, fun h => ?_⟩
        · split at h
          · cases h
          · rw [hc] at h
            cases h
        · have : st.rollover = true := by split at h <;> exact h
          cases hr this
      | some c0 =>
        have := hle c0 oo hc rfl
        dsimp only
        refine ⟨fun c l h hl => ?_, fun h => ?_⟩
        · simp only [addOpt, Option.some.injEq] at hl
          split at h
          · cases h
          · simp only [Option.some.injEq] at h
            omega
        · split at h <;> cases h

theorem blockState_flush (al : Bool) (st : GState) (f : CField) (h : al = true ∧ f.off.isNone = true) :
    blockState al st f = { st with block := [f], blockOff := st.cur } := by
  unfold blockState
  simp [h]

theorem blockState_keep (al : Bool) (st : GState) (f : CField) (h : ¬ (al = true ∧ f.off.isNone = true)) :
    blockState al st f =
      { st with block := st.block ++ [f], blockOff := if st.block.isEmpty = true then st.cur else st.blockOff } := by
  unfold blockState
  simp only [if_neg h]
  split <;> simp_all

theorem blockState_cur (al : Bool) (st : GState) (f : CField) :
    (blockState al st f).cur = st.cur ∧ (blockState al st f).rollover = st.rollover := by
  unfold blockState
  simp only
  split <;> split <;> exact ⟨rfl, rfl⟩

theorem chain_none (cfg : Cfg) (al : Bool) : ∀ (B : List CField) (e : Option Nat), Chain cfg al B none e → e = none
  | [], e, h => h.symm
  | f :: B, e, h => by
    obtain ⟨h1, h2⟩ := h
    have : f.off = none := h1
    rw [this] at h2
    exact chain_none cfg al B e h2

theorem flush_nil (cfg : Cfg) (al : Bool) (st : GState) (h : st.block = []) : flush cfg al st = .ok [] := by
  unfold flush
  rw [h]

theorem pre_plain {cfg : Cfg} {al : Bool} (salign : Nat) {gst : GState} {vst : VSt} {lst : LState}
    {fsV : Fields} {offsV : List (Option Nat)} {fs : Fields} {offs : List (Option Nat)}
    (hI : CInv cfg al gst vst lst fsV offsV fs offs) (hnb : nonBitHead fs = true) (hwf : compileWF cfg al fs = true)
    (p : Plan) :
    ∃ vst1 bs, planOKAux cfg al salign (preOf gst false ++ p) fsV offsV vst = planOKAux cfg al salign p fsV offsV vst1 ∧
      PlainSt cfg al (afterPre gst false) vst1 bs lst.offset fsV offsV fs offs := by
  rcases hI.mode with ⟨⟨bs, hP⟩, _⟩ | ⟨hB, rfl, rfl⟩
  · refine ⟨vst, bs, ?_, ?_⟩
    · rw [preOf_of_not _ _ hP.np, List.nil_append]
    · rw [afterPre_of_not _ _ hP.np]; exact hP
  · obtain ⟨sp, la, u, d⟩ := vst
    obtain rfl : la = none := hB.front.la
    refine ⟨syncSt sp, lst.offset, ?_, ?_⟩
    · unfold preOf
      simp only [hB.pb, Bool.false_eq_true, not_false_eq_true, and_self, if_true, List.cons_append, List.nil_append]
      rw [planOKAux_bitsReset, hnb, Bool.true_and]
      rfl
    · unfold afterPre
      simp only [hB.pb, Bool.false_eq_true, not_false_eq_true, and_self, if_true]
      exact PlainSt.empty hB.blk rfl rfl hB.front.known hwf

theorem step_nil {cfg : Cfg} {al : Bool} {salign : Nat} {offs : List (Option Nat)} {lst : LState} {gst : GState}
    {vst : VSt} {fsV : Fields} {offsV : List (Option Nat)} {plan : Plan}
    (hI : CInv cfg al gst vst lst fsV offsV .nil offs) (hg : genFields cfg al .nil offs gst = .ok plan) :
    planOKAux cfg al salign plan fsV offsV vst = true := by
  obtain ⟨fl, hfl, rfl⟩ := genFields_nil_ok hg
  have htail : NoReset (if al = true then [Instr.alignCls] else []) := by cases al <;> simp [NoReset]
  rcases hI.mode with ⟨⟨bs, hP⟩, _⟩ | ⟨hB, rfl, rfl⟩
  · obtain ⟨sp', he, _⟩ := flush_ok salign hP hfl
      ⟨_, dropVoids_of_noVoid cfg al (fs := .nil) trivial offs _⟩ _ htail
    rw [he]
    cases al <;> simp [planOKAux_nil, planOKAux_alignCls, syncSt]
  · rw [flush_nil cfg al gst hB.blk] at hfl
    cases hfl
    cases al <;> simp [planOKAux_nil, planOKAux_alignCls, hB.front.la]

theorem afterPre_cur (st : GState) (isB : Bool) : (afterPre st isB).cur = st.cur := by
  unfold afterPre; split <;> rfl

theorem afterPre_rollover (st : GState) (isB : Bool) : (afterPre st isB).rollover = st.rollover := by
  unfold afterPre; split <;> rfl

/-- `current_offset` after `align_to_field` -/
def curAfter (al : Bool) (o cur : Option Nat) : Option Nat :=
  match o with
  | some oo => some oo
  | none => if al = true then none else cur

theorem alignToField_snd (cfg : Cfg) (al : Bool) (f : CField) (cur : Option Nat) :
    (alignToField cfg al f cur).2 = curAfter al f.off cur := by
  unfold alignToField curAfter
  cases f.off with
  | none => simp only; split <;> rfl
  | some o =>
    simp only
    split
    · rfl
    · rename_i h
      simp only [ne_eq, Decidable.not_not] at h
      exact h.symm

/-- `align_to_field` emits no seek only where the validator knows the stream to be -/
theorem Known.at_member {al : Bool} {sp lo cur : Option Nat} {fa oo : Nat} (hK : Known sp lo cur)
    (hcur : ∀ c l, cur = some c → lo = some l → c ≤ l) (ho : alignOpt al lo fa = some oo) (hc : cur = some oo) :
    sp = some oo := by
  obtain ⟨l, hl, hle, _, _⟩ := alignOpt_some ho
  obtain rfl : l = oo := Nat.le_antisymm hle (hcur oo l hc hl)
  exact (hK.of_some hc).trans hl

theorem sub_not_void {ty : Ty} {size : Option Nat}
    (h : isStructTy (fieldType ty) = true ∨ isSubArray (fieldType ty) size = true) : isVoid ty = false := by
  cases ty with
  | sc s a => cases s <;> simp [fieldType, isStructTy, isSubArray] at h <;> rfl
  | _ => rfl

theorem subSpos_afterAlign (al : Bool) (fa : Nat) (rs : Bool) (o lo z : Option Nat) :
    subSpos rs o (afterAlign al fa o (syncSt lo)).spos z = if rs = true then none else addOpt o z := by
  cases o with
  | none => cases z <;> simp [subSpos, addOpt]
  | some oo => cases z <;> simp [subSpos, addOpt, afterAlign]

theorem advance_struct (st : GState) (size : Option Nat) (et : Ty) (h : isStructTy et = true) :
    (advance st false size et).cur = none := by
  unfold advance
  rw [h]
  rfl

theorem step_sub {cfg : Cfg} {al : Bool} {salign : Nat} {name : String} {an : Bool} {ty : Ty} {rest : Fields}
    {o : Option Nat} {offs' : List (Option Nat)} {lst : LState} {gst : GState} {vst : VSt} {fsV : Fields}
    {offsV : List (Option Nat)} {fl p : Plan} {gst1 : GState} (hg1 : gst1 = afterPre gst false)
    (ho : o = alignOpt al lst.offset (ty.alignment cfg))
    (hI : CInv cfg al gst vst lst fsV offsV (.cons name an ty none rest) (o :: offs'))
    (hall : compileWF cfg al (.cons name an ty none rest) = true) (had : al = true → ty.alignment cfg ∣ salign)
    (hsub : isStructTy (fieldType ty) = true ∨ isSubArray (fieldType ty) ((fieldType ty).size cfg) = true)
    (hfl : flush cfg al gst1 = .ok fl)
    (ih : ∀ gst' vst' fsV' offsV',
      CInv cfg al gst' vst' ⟨addOpt o (ty.size cfg), max lst.alignment (ty.alignment cfg), none, some 0, 0⟩ fsV' offsV'
        rest offs' →
      genFields cfg al rest offs' gst' = .ok p → planOKAux cfg al salign p fsV' offsV' vst' = true)
    (hp : genFields cfg al rest offs'
      (advance { gst1 with block := [], cur := (alignToField cfg al ⟨name, ty, o⟩ gst1.cur).2 } false
        (ty.size cfg) (elementType (fieldType ty))) = .ok p) :
    planOKAux cfg al salign
      (preOf gst false ++ fl ++ (alignToField cfg al ⟨name, ty, o⟩ gst1.cur).1 ++ [.sub name] ++ p)
      fsV offsV vst = true := by
  have hnv : isVoid ty = false := sub_not_void hsub
  obtain ⟨hwf, _, hwfr⟩ := compileWF_cons hall
  simp only [List.append_assoc, List.cons_append, List.nil_append]
  obtain ⟨vst1, bs, hpre, P1⟩ := pre_plain salign hI rfl hall
    (fl ++ ((alignToField cfg al ⟨name, ty, o⟩ gst1.cur).1 ++ (.sub name :: p)))
  rw [hpre]
  have hcur1 : gst1.cur = gst.cur := by rw [hg1]; exact afterPre_cur _ _
  have hroll1 : gst1.rollover = gst.rollover := by rw [hg1]; exact afterPre_rollover _ _
  rw [← hg1] at P1
  obtain ⟨sp', hfe, hK⟩ := flush_ok salign P1 hfl
    ⟨_, dropVoids_of_noVoid cfg al (noVoid_of_not hnv) _ _⟩
    ((alignToField cfg al ⟨name, ty, o⟩ gst1.cur).1 ++ (.sub name :: p))
    (NoReset.append (alignToField_noReset _ _ _ _) (noReset_cons (by simp) _))
  rw [hfe]
  rw [align_step cfg al salign name an ty none rest o offs' gst1.cur (syncSt sp') _ (by simp [hnv]) rfl ?_
    (fun hal => ⟨had hal, memberWF_p2 hwf hal⟩)]
  · rw [sub_instr cfg al salign name an ty rest o offs' _ p hnv (by cases o <;> (simp only [afterAlign]; try split) <;> rfl)
        (posOK_afterAlign al _ o _ rfl), subSpos_afterAlign]
    obtain ⟨hadv1, hadv2⟩ := advance_plain
      { gst1 with block := [], cur := (alignToField cfg al ⟨name, ty, o⟩ gst1.cur).2 }
      (ty.size cfg) (elementType (fieldType ty)) o
      (fun c oo hc hoo => by
        simp only [alignToField_snd, hoo, curAfter, Option.some.injEq] at hc
        omega)
      (fun hr => by rw [ho, hI.roll (hroll1 ▸ hr)]; rfl)
    refine ih _ _ _ _ ⟨hadv1, hadv2, Or.inl ⟨⟨addOpt o (ty.size cfg), ?_⟩, rfl⟩⟩ hp
    · refine PlainSt.empty (by rw [advance_block]) (by rw [advance_prevBits]; exact P1.np)
        (by rw [advance_bitsRem]; exact P1.rem0) ?_ hwfr
      cases hrs : readsStruct ty with
      | false => exact Or.inl (by simp)
      | true =>
        rw [readsStruct_eq] at hrs
        exact Or.inr ⟨by simp, advance_struct _ _ _ hrs⟩
  · intro oo hoo hc
    exact hK.at_member (hcur1 ▸ hI.cur) (ho.symm.trans hoo) hc

theorem alignOpt_none {al : Bool} {s : Option Nat} {a : Nat} (h : alignOpt al s a = none) : s = none := by
  cases s with
  | none => rfl
  | some l => simp [alignOpt] at h

theorem step_block {cfg : Cfg} {al : Bool} {salign : Nat} {name : String} {an : Bool} {ty : Ty} {rest : Fields}
    {o : Option Nat} {offs' : List (Option Nat)} {lst : LState} {sz : Option Nat} {sa : Nat} {gst : GState} {vst : VSt}
    {fsV : Fields} {offsV : List (Option Nat)} {fl p : Plan} {gst1 : GState} (hg1 : gst1 = afterPre gst false)
    (ho : o = alignOpt al lst.offset (ty.alignment cfg))
    (hI : CInv cfg al gst vst lst fsV offsV (.cons name an ty none rest) (o :: offs'))
    (hall : compileWF cfg al (.cons name an ty none rest) = true)
    (hlay : Fields.layout cfg al (.cons name an ty none rest) lst = .ok (sz, sa, o :: offs'))
    (h1 : unsupported (fieldType ty) = false)
    (h2 : ¬ (isPtrTy (elementType (fieldType ty)) = true ∧ ¬ isPacked cfg.ptr = true))
    (h3 : ¬ (isStructTy (fieldType ty) = true ∨ isSubArray (fieldType ty) ((fieldType ty).size cfg) = true))
    (hfl : (if al = true ∧ o.isNone = true then flush cfg al gst1 else .ok []) = .ok fl)
    (ih : ∀ gst' vst' fsV' offsV',
      CInv cfg al gst' vst' ⟨addOpt o (ty.size cfg), max lst.alignment (ty.alignment cfg), none, some 0, 0⟩ fsV' offsV'
        rest offs' →
      genFields cfg al rest offs' gst' = .ok p → planOKAux cfg al salign p fsV' offsV' vst' = true)
    (hp : genFields cfg al rest offs'
      (advance (blockState al gst1 ⟨name, ty, o⟩) false (ty.size cfg) (elementType (fieldType ty))) = .ok p) :
    planOKAux cfg al salign (preOf gst false ++ fl ++ p) fsV offsV vst = true := by
  obtain ⟨hwf, _, _⟩ := compileWF_cons hall
  have hm : Member cfg al ⟨name, ty, o⟩ := member_of_block cfg al name ty o none hwf h1 h2 h3
  simp only [List.append_assoc]
  obtain ⟨vst1, bs, hpre, P1⟩ := pre_plain salign hI rfl hall (fl ++ p)
  rw [hpre]
  have hcur1 : gst1.cur = gst.cur := by rw [hg1]; exact afterPre_cur _ _
  have hroll1 : gst1.rollover = gst.rollover := by rw [hg1]; exact afterPre_rollover _ _
  rw [← hg1] at P1
  obtain ⟨hadv1, hadv2⟩ := advance_plain (blockState al gst1 ⟨name, ty, o⟩) (ty.size cfg) (elementType (fieldType ty)) o
    (fun c oo hc hoo => by
      rw [(blockState_cur al gst1 _).1, hcur1] at hc
      obtain ⟨l0, hl0, hle, _, _⟩ := alignOpt_some (ho.symm.trans hoo)
      have := hI.cur c l0 hc hl0
      omega)
    (fun hr => by
      rw [(blockState_cur al gst1 _).2, hroll1] at hr
      rw [ho, hI.roll hr]
      rfl)
  have hnp : (advance (blockState al gst1 ⟨name, ty, o⟩) false (ty.size cfg)
      (elementType (fieldType ty))).prevBits = false := by
    rw [advance_prevBits, blockState_prevBits]; exact P1.np
  by_cases hc : al = true ∧ o.isNone = true
  · -- an aligned structure, a dynamically placed member: the pending block is flushed, the member starts a new one
    rw [if_pos hc] at hfl
    have ho' : o = none := Option.isNone_iff_eq_none.mp hc.2
    subst ho'
    have hlo : lst.offset = none := alignOpt_none ho.symm
    have hfs := dropVoids_dyn cfg al _ lst sz sa _ hlay hlo hall
    obtain ⟨sp', hfe, hK⟩ := flush_ok salign P1 hfl
      (by rw [hlo]; exact hfs) p (genFields_noReset cfg al _ _ _ _ hp hnp)
    rw [hfe]
    have hsp' : sp' = lst.offset := by rw [hlo] at hK ⊢; exact hK.of_none
    subst hsp'
    refine ih _ _ _ _ ⟨hadv1, hadv2, Or.inl ⟨⟨lst.offset, ?_⟩, rfl⟩⟩ hp
    rw [blockState_flush al gst1 _ hc] at hnp ⊢
    · exact {
        pend := by rw [advance_block]; exact Pending.cons name an ty none (Pending.nil _ _)
        chain := by rw [advance_block]; exact ⟨ho, rfl⟩
        sync := Or.inl rfl
        mem := by
          rw [advance_block]
          intro f hf
          simp only [List.mem_singleton] at hf
          subst hf
          exact hm
        wfV := hall
        boff := by
          rw [advance_block, advance_blockOff]
          intro _ c l hc' hl
          rw [hcur1] at hc'
          exact hI.cur c l hc' hl
        dyn := by rw [advance_block]; intro _ _; exact Nat.le_refl _
        vsync := rfl
        np := hnp
        rem0 := by rw [advance_bitsRem]; exact P1.rem0 }
  · -- the member is appended to the pending block; the validator does not move
    rw [if_neg hc] at hfl
    cases hfl
    rw [List.nil_append]
    refine ih _ _ _ _ ⟨hadv1, hadv2, Or.inl ⟨⟨bs, ?_⟩, rfl⟩⟩ hp
    rw [blockState_keep al gst1 _ hc] at hnp ⊢
    · have hsp : gst1.block = [] → bs = lst.offset := by
        intro hb
        have := P1.chain
        rw [hb] at this
        exact this
      exact {
        pend := by rw [advance_block]; exact P1.pend.snoc
        chain := by
          rw [advance_block]
          exact Chain.snoc cfg al gst1.block bs lst.offset ⟨name, ty, o⟩ P1.chain ho
        sync := by
          rw [advance_block, advance_blockOff]
          have hne : (gst1.block ++ [(⟨name, ty, o⟩ : CField)]).isEmpty = false := by cases gst1.block <;> rfl
          simp only [hne, Bool.false_eq_true, if_false]
          exact P1.sync
        mem := by
          rw [advance_block]
          intro f hf
          rcases List.mem_append.mp hf with hf | hf
          · exact P1.mem f hf
          · simp only [List.mem_singleton] at hf
            subst hf
            exact hm
        wfV := P1.wfV
        boff := by
          rw [advance_block, advance_blockOff]
          intro _ c l hc' hl
          simp only at hc'
          cases hb : gst1.block with
          | nil =>
            rw [hb] at hc'
            simp only [List.isEmpty_nil, if_true] at hc'
            rw [hsp hb] at hl
            rw [hcur1] at hc'
            exact hI.cur c l hc' hl
          | cons g B =>
            rw [hb] at hc'
            simp only [List.isEmpty_cons, Bool.false_eq_true, if_false] at hc'
            exact P1.boff (by rw [hb]; simp) c l hc' hl
        dyn := by
          rw [advance_block]
          intro hal hs
          exfalso
          apply hc
          refine ⟨hal, ?_⟩
          have := P1.chain
          rw [hs] at this
          have hlo := chain_none cfg al _ _ this
          rw [hlo] at ho
          subst ho
          rfl
        vsync := P1.vsync
        np := hnp
        rem0 := by rw [advance_bitsRem]; simp only; exact P1.rem0 }

theorem bitBase_shape {ty : Ty} {ft : Scalar} (h : ty.bitBase = some ft) :
    (∃ a, ty = .sc ft a) ∨ (∃ a fl, ty = .enum ft a fl) := by
  cases ty with
  | sc s a => simp only [Ty.bitBase, Option.some.injEq] at h; subst h; exact Or.inl ⟨a, rfl⟩
  | enum b a fl => simp only [Ty.bitBase, Option.some.injEq] at h; subst h; exact Or.inr ⟨a, fl, rfl⟩
  | _ => simp [Ty.bitBase] at h

theorem bitBase_size (cfg : Cfg) {ty : Ty} {ft : Scalar} (h : ty.bitBase = some ft) : ty.size cfg = ft.size := by
  rcases bitBase_shape h with ⟨a, rfl⟩ | ⟨a, fl, rfl⟩ <;> rfl

theorem bitBase_et {ty : Ty} {ft : Scalar} (h : ty.bitBase = some ft) :
    isStructTy (elementType (fieldType ty)) = false := by
  rcases bitBase_shape h with ⟨a, rfl⟩ | ⟨a, fl, rfl⟩ <;> rfl

theorem bitBase_not_sub {ty : Ty} {ft : Scalar} (h : ty.bitBase = some ft) (size : Option Nat) :
    ¬ (isStructTy (fieldType ty) = true ∨ isSubArray (fieldType ty) size = true) := by
  rcases bitBase_shape h with ⟨a, rfl⟩ | ⟨a, fl, rfl⟩ <;> simp [fieldType, isStructTy, isSubArray]

theorem advance_bits (st : GState) (z : Nat) (et : Ty) (het : isStructTy et = false) :
    advance st true (some z) et =
      match st.cur with
      | some c => if st.rollover = true then { st with cur := some (c + z), rollover := false } else st
      | none => st := by
  unfold advance
  simp only [het, Bool.not_true, Bool.false_or, Bool.false_and, Bool.false_eq_true, if_false]
  cases st.cur with
  | none => rfl
  | some c => rfl

theorem advance_bits_cur (st : GState) (z : Nat) (et : Ty) (het : isStructTy et = false) :
    (∀ c', (advance st true (some z) et).cur = some c' →
      ∃ c, st.cur = some c ∧ ((st.rollover = true ∧ c' = c + z) ∨ (st.rollover = false ∧ c' = c))) ∧
    ((advance st true (some z) et).rollover = true → st.rollover = true ∧ st.cur = none) := by
  rw [advance_bits st z et het]
  cases hc : st.cur with
  | none => simp [hc]
  | some c =>
    cases hr : st.rollover with
    | true => simp
    | false => simp [hc, hr]

theorem memberWF_bitsAlign {cfg : Cfg} {al : Bool} {ty : Ty} {n : Nat} (h : memberWF cfg al ty (some n) = true)
    (hal : al = true) : ty.size cfg = some (ty.alignment cfg) := by
  simp only [memberWF, Bool.and_eq_true, Bool.or_eq_true, Bool.not_eq_true', beq_iff_eq] at h
  rcases h.2 with (h | h) | h
  · rw [hal] at h; cases h
  · simp at h
  · exact h

theorem bitsState_new (st : GState) (ft : Ty) (sz n : Nat) (h : st.bitsRem = 0 ∨ st.prevBitsTy ≠ ft.bitBase) :
    bitsState st ft sz n =
      { st with prevBits := true, prevBitsTy := ft.bitBase, bitsRem := ((sz * 8 : Nat) : Int) - ((n : Nat) : Int), rollover := true } := by
  unfold bitsState
  simp only [if_pos h]

theorem bitsState_cont (st : GState) (ft : Ty) (sz n : Nat) (h : ¬ (st.bitsRem = 0 ∨ st.prevBitsTy ≠ ft.bitBase)) :
    bitsState st ft sz n = { st with prevBits := true, bitsRem := st.bitsRem - ((n : Nat) : Int) } := by
  unfold bitsState
  simp only [if_neg h]

theorem bitsState_block (st : GState) (ft : Ty) (sz n : Nat) :
    (bitsState st ft sz n).block = st.block ∧ (bitsState st ft sz n).blockOff = st.blockOff ∧
      (bitsState st ft sz n).cur = st.cur := by
  unfold bitsState
  simp only
  split <;> exact ⟨rfl, rfl, rfl⟩

theorem flush_congr (cfg : Cfg) (al : Bool) (st st' : GState) (h1 : st.block = st'.block) (h2 : st.blockOff = st'.blockOff) :
    flush cfg al st = flush cfg al st' := by
  unfold flush
  rw [h1, h2]

theorem preOf_true (st : GState) : preOf st true = [] := by
  unfold preOf; simp

theorem afterPre_true (st : GState) : afterPre st true = st := by
  unfold afterPre; simp

theorem afterAlign_unit (al : Bool) (fa : Nat) (o : Option Nat) (st : VSt) : (afterAlign al fa o st).unit = st.unit := by
  unfold afterAlign
  cases o <;> (simp only; try split) <;> rfl

theorem bitsSpos_false (sp : Option Nat) (fsz : Nat) : bitsSpos sp false fsz = sp := by
  cases sp <;> rfl

/-- the layout's check `bits_remaining - bits >= 0`, for a count of free bits -/
theorem natCast_sub_of_nonneg {r n : Nat} (h : (0 : Int) ≤ (r : Int) - (n : Int)) :
    n ≤ r ∧ (r : Int) - (n : Int) = ((r - n : Nat) : Int) := by
  omega

/-- the end of a naturally aligned storage unit is aligned for the next bit-field of the same type -/
theorem UnitAt.aligned {al : Bool} {off bfo : Option Nat} {fsz fa : Nat} (h : UnitAt al off bfo fsz)
    (hfa : al = true → fsz = fa ∧ IsP2 fa) : alignOpt al off fa = off := by
  rcases h with rfl | ⟨b, _, rfl, hd⟩
  · rfl
  · cases hal : al with
    | false => rfl
    | true =>
      have hdvd : fa ∣ b + fsz := by
        rw [← (hfa hal).1]
        exact Nat.dvd_add (hd hal) (Nat.dvd_refl _)
      simp only [alignOpt, Option.map_some, if_true, padNat_of_dvd (hfa hal).2 hdvd, Nat.add_zero]

/-- the generator starts a new storage unit exactly when the validator's bit reader loads one -/
theorem UnitAgree.gen_new {al : Bool} {u : Option (Scalar × Nat)} {gst : GState} {lst : LState}
    (h : UnitAgree al u gst lst) (ft0 : Scalar) :
    (gst.bitsRem = 0 ∨ gst.prevBitsTy ≠ some ft0) ↔ unitNew u ft0 = true := by
  cases u with
  | none => simp [unitNew, h.gRem, unitRem]
  | some x =>
    obtain ⟨ft, rem⟩ := x
    simp [unitNew, h.gRem, unitRem, (h.ty ft rem rfl).1]

theorem unitNew_false {u : Option (Scalar × Nat)} {ft0 : Scalar} (h : unitNew u ft0 = false) :
    ∃ rem, u = some (ft0, rem) ∧ rem ≠ 0 := by
  cases u with
  | none => cases h
  | some x =>
    obtain ⟨ft, rem⟩ := x
    simp only [unitNew, Bool.or_eq_false_iff, beq_eq_false_iff_ne, ne_eq, bne_eq_false_iff_eq] at h
    exact ⟨rem, by rw [h.2], h.1⟩

/-- and so does the layout: inside a run the running offset is the end of the unit, which is aligned for a bit-field of the
    same type, so the layout's test "the aligned offset lies behind the unit" fails -/
theorem UnitAgree.lay_new {al : Bool} {u : Option (Scalar × Nat)} {gst : GState} {lst : LState}
    (h : UnitAgree al u gst lst) {ft0 : Scalar} {fsz fa : Nat} (hsz : ft0.size = some fsz)
    (hfa : al = true → fsz = fa ∧ IsP2 fa) {nu : Bool}
    (ht : Layout.third lst ft0 (alignOpt al lst.offset fa) = .ok nu) : nu = unitNew u ft0 := by
  cases hnew : unitNew u ft0 with
  | true =>
    have hc : lst.bitsRemaining = 0 ∨ some ft0 ≠ lst.bitsType := by
      cases u with
      | none => exact Or.inl h.lRem
      | some x =>
        obtain ⟨ft, rem⟩ := x
        simp only [unitNew, Bool.or_eq_true, beq_iff_eq, bne_iff_ne, ne_eq] at hnew
        rcases hnew with h0 | hne
        · exact Or.inl (by rw [h.lRem, h0]; rfl)
        · exact Or.inr (by rw [(h.ty ft rem rfl).2.1]; exact fun hc => hne (Option.some.inj hc).symm)
    unfold Layout.third at ht
    rw [if_pos hc] at ht
    cases ht
    rfl
  | false =>
    obtain ⟨rem, rfl, hrem⟩ := unitNew_false hnew
    obtain ⟨_, hbt, fsz1, hsz1, hat⟩ := h.ty ft0 rem rfl
    obtain rfl : fsz = fsz1 := Option.some.inj (hsz.symm.trans hsz1)
    have hr : lst.bitsRemaining ≠ 0 := by
      rw [h.lRem]
      exact fun h0 => hrem (by exact_mod_cast h0)
    rw [hat.aligned hfa] at ht
    rcases hat with ho | ⟨b, hb, ho, _⟩
    · unfold Layout.third at ht
      rw [if_neg (fun hc => hc.elim hr fun hc => hc hbt.symm), hbt, ho] at ht
      cases ht
      rfl
    · rw [Layout.third_cont hsz hr hbt (by rw [ho, hb]; rfl)] at ht
      cases ht
      rfl

theorem bits_tail {cfg : Cfg} {al : Bool} {salign : Nat} {name : String} {an : Bool} {ty : Ty} {b : Nat} {rest : Fields}
    {offs : List (Option Nat)} {lst : LState} {sz : Option Nat} {sa : Nat} {gst : GState} {vst : VSt} {p : Plan} {fsz : Nat}
    (hFr : Front al gst vst lst)
    (hcur : ∀ c l, gst.cur = some c → lst.offset = some l → c ≤ l) (hroll : gst.rollover = true → lst.offset = none)
    (hwf : memberWF cfg al ty (some (b + 1)) = true) (had : al = true → ty.alignment cfg ∣ salign)
    (hL : BitsStep cfg al ty b rest lst sz sa offs (alignOpt al lst.offset (ty.alignment cfg)))
    (hsz' : (fieldType ty).size cfg = some fsz)
    {gst2 : GState} (hg2 : gst2 = bitsState gst (fieldType ty) fsz (b + 1))
    (ihT : ∀ lst', Fields.layout cfg al rest lst' = .ok (sz, sa, offs.drop 1) → ∀ gst' vst' fsV' offsV',
      CInv cfg al gst' vst' lst' fsV' offsV' rest (offs.drop 1) →
      genFields cfg al rest (offs.drop 1) gst' = .ok p → planOKAux cfg al salign p fsV' offsV' vst' = true)
    (hp : genFields cfg al rest (offs.drop 1)
      (advance { gst2 with block := [], cur := (alignToField cfg al ⟨name, ty, hdOff offs⟩ gst2.cur).2 } true (some fsz)
        (elementType (fieldType ty))) = .ok p) :
    planOKAux cfg al salign
      ((alignToField cfg al ⟨name, ty, hdOff offs⟩ gst2.cur).1 ++ (.bits name (b + 1) (bitsViaOf ty) :: p))
      (.cons name an ty (some (b + 1)) rest) offs vst = true := by
  obtain ⟨ft0, fsz0, nu, offs', hbb, hsz, ht, hT, hF⟩ := hL
  obtain rfl : fsz0 = fsz := by
    rw [fieldType_size, bitBase_size cfg hbb, hsz] at hsz'
    exact Option.some.inj hsz'
  have hfa : al = true → fsz0 = ty.alignment cfg ∧ IsP2 (ty.alignment cfg) := by
    intro hal
    have h1 := memberWF_bitsAlign hwf hal
    rw [bitBase_size cfg hbb, hsz] at h1
    exact ⟨Option.some.inj h1, memberWF_p2 hwf hal⟩
  obtain ⟨sp, la, u, d⟩ := vst
  obtain ⟨hla, hK, hU⟩ := hFr
  simp only at hla hK hU
  subst hla
  have hnu := hU.lay_new hsz hfa ht
  cases hnew : unitNew u ft0 with
  | true =>
    -- a new storage unit: the member has the aligned running offset, the unit ends `fsz0` bytes behind it
    rw [hnew] at hnu
    subst hnu
    obtain ⟨hfit, rfl, hl'⟩ := hT rfl
    obtain ⟨hfit, hsub⟩ := natCast_sub_of_nonneg hfit
    obtain ⟨hg1, hg3⟩ := advance_bits_cur
      { gst2 with block := [], cur := (alignToField cfg al ⟨name, ty, alignOpt al lst.offset (ty.alignment cfg)⟩ gst2.cur).2 }
      fsz0 _ (bitBase_et hbb)
    simp only [hdOff, List.drop_one, List.tail_cons, alignToField_snd] at hg1 hg3 hp ihT ⊢
    rw [bitsState_new _ _ _ _ (by rw [fieldType_bitBase, hbb]; exact (hU.gen_new ft0).mpr hnew), fieldType_bitBase, hbb] at hg2
    have hcur2 : gst2.cur = gst.cur := by rw [hg2]
    have hr2 : gst2.rollover = true := by rw [hg2]
    generalize hoff : alignOpt al lst.offset (ty.alignment cfg) = off at hp hl' hg1 hg3 ⊢
    rw [align_step cfg al salign name an ty (some (b + 1)) rest off offs' gst2.cur ⟨sp, none, u, d⟩ _ (by simp) rfl ?_
        (fun hal => ⟨had hal, (hfa hal).2⟩),
      bits_instr cfg al salign name an ty b rest off offs' _ p ft0 fsz0 true (fsz0 * 8) (bitsVia_of cfg al ty _ hwf ft0 hbb) hbb hsz
        (posOK_afterAlign al _ off _ rfl) (by rw [afterAlign_unit]; exact hnew) (by rw [if_pos rfl]) hfit]
    · refine ihT _ hl' _ _ _ _ ⟨?_, ?_, Or.inr ⟨⟨by rw [advance_block], by rw [advance_prevBits, hg2], rfl, ?_, ?_, ?_, ?_⟩,
        rfl, rfl⟩⟩ hp
      · intro c' l hc' hl
        obtain ⟨c, hcA, hcase⟩ := hg1 c' hc'
        rw [hr2] at hcase
        cases off with
        | none => cases hl
        | some oo =>
          simp only [curAfter, Option.some.injEq, Option.map_some] at hcA hl
          rcases hcase with ⟨_, rfl⟩ | ⟨h, _⟩
          · omega
          · cases h
      · intro hr
        cases off with
        | none => rfl
        | some oo => cases (hg3 hr).2
      · -- the position after the read is the end of the unit
        cases off with
        | some oo => exact Or.inl rfl
        | none =>
          rw [alignOpt_none hoff] at hK
          left
          simp only [afterAlign, hK.of_none]
          split <;> rfl
      · rw [advance_bitsRem, hg2]
        exact hsub
      · exact hsub
      · intro ft rem hu
        cases hu
        refine ⟨by rw [advance_prevBitsTy, hg2], rfl, fsz0, hsz, ?_⟩
        cases off with
        | none => exact Or.inl rfl
        | some oo =>
          refine Or.inr ⟨oo, rfl, rfl, fun hal => ?_⟩
          obtain ⟨l, _, _, _, h4⟩ := alignOpt_some hoff
          rw [h4 hal, (hfa hal).1]
          exact padNat_p2_dvd (hfa hal).2 l
    · -- no seek is emitted only where the stream is known to be
      intro oo hoo hc
      exact hK.at_member hcur (hoo ▸ hoff) (hcur2 ▸ hc)
  | false =>
    -- the unit continues: the running offset, which is the end of the unit, does not move
    rw [hnew] at hnu
    subst hnu
    obtain ⟨hfit, rfl, hl'⟩ := hF rfl
    obtain ⟨hg1, hg3⟩ := advance_bits_cur { gst2 with block := [], cur := (alignToField cfg al ⟨name, ty, none⟩ gst2.cur).2 }
      fsz0 _ (bitBase_et hbb)
    simp only [hdOff, List.drop_one, List.tail_cons, alignToField_snd] at hg1 hg3 hp ihT ⊢
    obtain ⟨rem, rfl, hrem⟩ := unitNew_false hnew
    obtain ⟨hty, hbt, fsz1, hsz1, hat⟩ := hU.ty ft0 rem rfl
    obtain rfl : fsz0 = fsz1 := Option.some.inj (hsz.symm.trans hsz1)
    have hgR : gst.bitsRem = (rem : Int) := hU.gRem
    have hlR : lst.bitsRemaining = (rem : Int) := hU.lRem
    rw [hlR] at hfit
    obtain ⟨hfit, hsub⟩ := natCast_sub_of_nonneg hfit
    rw [hat.aligned hfa] at hl'
    rw [bitsState_cont _ _ _ _ (by
      rw [fieldType_bitBase, hbb]
      intro h
      have := (hU.gen_new ft0).mp h
      rw [hnew] at this
      cases this)] at hg2
    have hcur2 : gst2.cur = gst.cur := by rw [hg2]
    rw [align_step cfg al salign name an ty (some (b + 1)) rest none offs' gst2.cur ⟨sp, none, some (ft0, rem), d⟩ _ (by simp) rfl
        (fun oo hoo => by cases hoo) (fun hal => ⟨had hal, (hfa hal).2⟩),
      bits_instr cfg al salign name an ty b rest none offs' (afterAlign al (ty.alignment cfg) none ⟨sp, none, some (ft0, rem), d⟩)
        p ft0 fsz0 false rem (bitsVia_of cfg al ty _ hwf ft0 hbb) hbb hsz
        (posOK_afterAlign al _ none _ rfl) (by rw [afterAlign_unit]; exact hnew) (by rw [afterAlign_unit]; rfl) hfit,
      bitsSpos_false]
    have hcn : curAfter al none gst2.cur = none →
        (advance { gst2 with block := [], cur := curAfter al none gst2.cur } true (some fsz0)
          (elementType (fieldType ty))).cur = none := by
      intro h
      cases hc : (advance { gst2 with block := [], cur := curAfter al none gst2.cur } true (some fsz0)
          (elementType (fieldType ty))).cur with
      | none => rfl
      | some c' =>
        obtain ⟨c, hcA, _⟩ := hg1 c' hc
        rw [h] at hcA
        cases hcA
    refine ihT _ hl' _ _ _ _ ⟨?_, ?_, Or.inr ⟨⟨by rw [advance_block], by rw [advance_prevBits, hg2], rfl, ?_, ?_, ?_, ?_⟩,
      rfl, rfl⟩⟩ hp
    · intro c' l hc' hl
      obtain ⟨c, hcA, hcase⟩ := hg1 c' hc'
      have hcA' : gst.cur = some c := by
        rw [← hcur2]
        cases al with
        | true => cases hcA
        | false => exact hcA
      rcases hcase with ⟨hr, _⟩ | ⟨_, rfl⟩
      · rw [hg2] at hr
        rw [hroll hr] at hl
        cases hl
      · exact hcur c' l hcA' hl
    · intro hr
      have hr2 := (hg3 hr).1
      rw [hg2] at hr2
      exact hroll hr2
    · -- the position is still the end of the unit, or the alignment statement made the validator forget it (and the
      -- generator has forgotten it as well)
      simp only [afterAlign]
      by_cases hc : al = true ∧ ty.alignment cfg ≠ 1
      · rw [if_pos hc]
        exact Or.inr ⟨rfl, hcn (by simp [curAfter, hc.1])⟩
      · rw [if_neg hc]
        rcases hK with h | ⟨h1, h2⟩
        · exact Or.inl h
        · refine Or.inr ⟨h1, hcn ?_⟩
          rw [hcur2, h2]
          cases al <;> rfl
    · rw [advance_bitsRem, hg2]
      show gst.bitsRem - ((b + 1 : Nat) : Int) = _
      rw [hgR]
      exact hsub
    · show lst.bitsRemaining - ((b + 1 : Nat) : Int) = _
      rw [hlR]
      exact hsub
    · intro ft rem' hu
      cases hu
      exact ⟨by rw [advance_prevBitsTy, hg2]; exact hty, hbt, fsz0, hsz, hat⟩

/-- outside a run the pending block is flushed in front of a bit-field, inside a run nothing is pending -/
theorem bits_front {cfg : Cfg} {al : Bool} (salign : Nat) {gst : GState} {vst : VSt} {lst : LState} {fsV : Fields}
    {offsV : List (Option Nat)} {fs : Fields} {offs : List (Option Nat)} (hI : CInv cfg al gst vst lst fsV offsV fs offs)
    (hnv : NoVoidHead fs) {gst2 : GState} (hb : gst2.block = gst.block) (hbo : gst2.blockOff = gst.blockOff)
    {fl : Plan} (hfl : flush cfg al gst2 = .ok fl) (rest : Plan) (hh : NoReset rest) :
    ∃ vstA, planOKAux cfg al salign (fl ++ rest) fsV offsV vst = planOKAux cfg al salign rest fs offs vstA ∧
      Front al gst vstA lst := by
  rcases hI.mode with ⟨⟨bs, P⟩, hremL⟩ | ⟨B, rfl, rfl⟩
  · rw [flush_congr cfg al gst2 gst hb hbo] at hfl
    obtain ⟨sp', hfe, hK⟩ := flush_ok salign P hfl
      ⟨_, dropVoids_of_noVoid cfg al hnv _ _⟩ rest hh
    exact ⟨syncSt sp', hfe, rfl, hK, P.rem0, hremL, fun _ _ h => by cases h⟩
  · rw [flush_nil cfg al gst2 (hb.trans B.blk)] at hfl
    cases hfl
    exact ⟨vst, rfl, B.front⟩

theorem genFields_ok (cfg : Cfg) (al : Bool) (salign : Nat) : ∀ (fs : Fields) (offs : List (Option Nat)) (lst : LState)
    (sz : Option Nat) (sa : Nat), Fields.layout cfg al fs lst = .ok (sz, sa, offs) → compileWF cfg al fs = true →
    AlignDvd cfg al salign fs → ∀ (gst : GState) (vst : VSt) (fsV : Fields) (offsV : List (Option Nat)) (plan : Plan),
    CInv cfg al gst vst lst fsV offsV fs offs → genFields cfg al fs offs gst = .ok plan →
    planOKAux cfg al salign plan fsV offsV vst = true
  | .nil, offs, lst, _, _, _, _, _, gst, vst, fsV, offsV, plan, hI, hg =>
    step_nil hI hg
  | .cons name an ty bits rest, offs, lst, sz, sa, hl, hwf, had, gst, vst, fsV, offsV, plan, hI, hg => by
    obtain ⟨hm, _, hwfr⟩ := compileWF_cons hwf
    obtain ⟨hadh, hadr⟩ := had
    obtain ⟨h1, h2, hstep⟩ := genFields_cons_ok hg
    cases bits with
    | none =>
      obtain ⟨offs', rfl, hl'⟩ := layout_plain cfg al name an ty none rest lst sz sa offs rfl hl
      have ih := genFields_ok cfg al salign rest offs' _ sz sa hl' hwfr hadr
      cases hstep with
      | sub fl p hsub hfl hp hplan =>
        simp only [hdOff, List.drop_one, List.tail_cons, isBitsField, fieldType_size] at hfl hp hplan
        rw [hplan]
        exact step_sub rfl rfl hI hwf hadh hsub hfl
          (fun gst' vst' fsV' offsV' hI' hg' => ih gst' vst' fsV' offsV' p hI' hg') hp
      | bits _ _ _ _ hB => cases hB
      | block fl p hsub _ hfl hp hplan =>
        simp only [hdOff, List.drop_one, List.tail_cons, fieldType_size] at hfl hp hplan
        rw [hplan]
        exact step_block rfl rfl hI hwf hl
          h1 h2 hsub hfl (fun gst' vst' fsV' offsV' hI' hg' => ih gst' vst' fsV' offsV' p hI' hg') hp
    | some k =>
      cases k with
      | zero => exact absurd rfl (memberWF_bits_ne hm)
      | succ b =>
        have hL := layout_bits cfg al name an ty b rest lst sz sa offs hl
        cases hstep with
        | sub _ _ hsub =>
          obtain ⟨_, _, _, _, hbb, _⟩ := hL
          exact absurd hsub (bitBase_not_sub hbb _)
        | block _ _ _ hB => cases hB
        | bits fsz fl p _ _ hsz' hfl hp hplan =>
          simp only [Option.getD_some, afterPre_true, preOf_true, List.nil_append, List.append_assoc, List.cons_append] at hfl hp hplan
          obtain ⟨vstA, he, hFr⟩ := bits_front salign hI (noVoid_of_bits name an ty (b + 1) rest)
            (bitsState_block gst _ fsz (b + 1)).1 (bitsState_block gst _ fsz (b + 1)).2.1 hfl _
            (NoReset.append (alignToField_noReset cfg al ⟨name, ty, hdOff offs⟩ (bitsState gst (fieldType ty) fsz (b + 1)).cur)
              (noReset_cons (i := .bits name (b + 1) (bitsViaOf ty)) (by simp) p))
          rw [hplan, he]
          exact bits_tail hFr hI.cur hI.roll hm hadh hL hsz' rfl
            (fun lst' hl' gst' vst' fsV' offsV' hI' hg' =>
              genFields_ok cfg al salign rest _ lst' sz sa hl' hwfr hadr gst' vst' fsV' offsV' p hI' hg') hp

theorem inv_init (cfg : Cfg) (al : Bool) (fs : Fields) (offs : List (Option Nat)) (hwf : compileWF cfg al fs = true) :
    CInv cfg al GState.init ⟨some 0, none, none, false⟩ LState.init fs offs fs offs := by
  refine ⟨?_, (fun h => by cases h), Or.inl ⟨⟨some 0, ?_⟩, rfl⟩⟩
  · intro c l hc hl
    simp only [GState.init, Option.some.injEq] at hc
    omega
  · exact PlainSt.empty rfl rfl rfl (Or.inl rfl) hwf

end Cstruct.Compiler
