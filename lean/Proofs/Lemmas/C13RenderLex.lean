/-
  C13, round trip — the lexemes of a rendered declaration are well formed, and a rendered declarator parses to the declarator it
  was rendered from (digits, `][`-joined dimensions, stars).
-/
import Proofs.Spec.C13Render
import Proofs.Lemmas.C13Obs

namespace Cstruct.DefParser.C13
open Cstruct.DefParser

theorem digitChar_spec : ∀ k, k < 10 → (digitChar k).toNat - '0'.toNat = k ∧ (digitChar k).isDigit = true := by decide

def digStep (n : Nat) (c : Char) : Nat := 10 * n + (c.toNat - '0'.toNat)

theorem natDigitsAux_foldl : ∀ (f n : Nat) (acc : List Char), n < f →
    (natDigitsAux f n acc).foldl digStep 0 = acc.foldl digStep n
  | 0, _, _, h => by omega
  | f + 1, n, acc, h => by
    unfold natDigitsAux
    split
    · rename_i hn
      have := (digitChar_spec n hn).1
      simp only [List.foldl, digStep, Nat.mul_zero, Nat.zero_add, this]
    · rename_i hn
      rw [natDigitsAux_foldl f (n / 10) _ (by omega)]
      have := (digitChar_spec (n % 10) (Nat.mod_lt _ (by omega))).1
      simp only [List.foldl, digStep, this]
      congr 1
      omega

theorem digitsToNat_natDigits (n : Nat) : digitsToNat (natDigits n) = n := by
  have := natDigitsAux_foldl (n + 1) n [] (by omega)
  exact this

theorem natDigitsAux_digits : ∀ (f n : Nat) (acc : List Char), acc.all Char.isDigit = true →
    (natDigitsAux f n acc).all Char.isDigit = true
  | 0, _, _, h => h
  | f + 1, n, acc, h => by
    unfold natDigitsAux
    split
    · rename_i hn; simp [(digitChar_spec n hn).2, h]
    · exact natDigitsAux_digits f _ _ (by simp [(digitChar_spec (n % 10) (Nat.mod_lt _ (by omega))).2, h])

theorem natDigitsAux_ne_nil : ∀ (f n : Nat) (acc : List Char), acc ≠ [] ∨ 0 < f → natDigitsAux f n acc ≠ []
  | 0, _, _, h => h.resolve_right (Nat.lt_irrefl 0)
  | f + 1, n, acc, _ => by
    rw [natDigitsAux]
    split
    · exact List.cons_ne_nil _ _
    · exact natDigitsAux_ne_nil f _ _ (.inl (List.cons_ne_nil _ _))

theorem natDigits_ok (n : Nat) : natDigits n ≠ [] ∧ (natDigits n).all Char.isDigit = true :=
  ⟨natDigitsAux_ne_nil _ _ _ (.inr (Nat.succ_pos n)), natDigitsAux_digits _ _ _ rfl⟩

theorem splitDims_single' (l : List Char) (h : ∀ c ∈ l, c ≠ ']') : splitDims l = [l] := splitDims_single l h

theorem splitDims_cons (d : List Char) (rest : List Char) (h : ∀ c ∈ d, c ≠ ']') :
    splitDims (d ++ ']' :: '[' :: rest) = d :: splitDims rest := by
  induction d with
  | nil => simp [splitDims]
  | cons c d ih =>
    have hc : c ≠ ']' := h c (by simp)
    have ih' := ih (fun x hx => h x (by simp [hx]))
    cases d with
    | nil => simp [splitDims, hc] at ih' ⊢
    | cons e d' =>
      simp only [List.cons_append] at ih' ⊢
      simp [splitDims, hc, ih']

theorem splitDims_joinDims : ∀ (ds : List (List Char)), ds ≠ [] → (∀ d ∈ ds, ∀ c ∈ d, c ≠ ']') → splitDims (joinDims ds) = ds
  | [], h, _ => absurd rfl h
  | [d], _, h => splitDims_single d (h d (by simp))
  | d :: e :: r, _, h => by
    simp only [joinDims]
    rw [splitDims_cons d _ (h d (by simp)), splitDims_joinDims (e :: r) (by simp) (fun x hx => h x (by simp [hx]))]

theorem map_strip_id : ∀ (l : List (List Char)), (∀ x ∈ l, strip x = x) → l.map strip = l
  | [], _ => rfl
  | x :: r, h => by simp [h x (by simp), map_strip_id r (fun y hy => h y (by simp [hy]))]

theorem preOK_replicate (n : Nat) : preOK (List.replicate n '*') = true := by
  cases n with
  | zero => rfl
  | succ n => simp [List.replicate, preOK]

theorem stars_replicate (n : Nat) : stars (List.replicate n '*') = n := by simp [stars]

theorem joinDims_all (p : Char → Bool) (h1 : p ']' = true) (h2 : p '[' = true) : ∀ (ds : List (List Char)), (∀ d ∈ ds, d.all p = true) →
    (joinDims ds).all p = true
  | [], _ => rfl
  | [d], h => h d (by simp)
  | d :: e :: r, h => by
    simp only [joinDims, List.all_append, List.all_cons, h1, h2, Bool.true_and, Bool.and_eq_true]
    exact ⟨h d (by simp), joinDims_all p h1 h2 (e :: r) (fun x hx => h x (by simp [hx]))⟩

theorem dimOK_spec (d : List Char) (h : dimOK d = true) :
    (∀ c ∈ d, c ≠ ']') ∧ d.all (fun c => c != ';' && c != '\n') = true ∧ strip d = d ∧ plainText d = true := by
  simp only [dimOK, Bool.and_eq_true, beq_iff_eq, List.all_eq_true, bne_iff_ne, ne_eq] at h
  refine ⟨fun c hc => (h.1.1 c hc).1.1.1, ?_, h.2, h.1.2⟩
  simp only [List.all_eq_true, Bool.and_eq_true, bne_iff_ne, ne_eq]
  exact fun c hc => ⟨(h.1.1 c hc).1.2, (h.1.1 c hc).2⟩

theorem declrLex_wf (ab : Bool) (d : Declarator) (h : declrWF ab d = true) : (declrLex d).wf = true := by
  obtain ⟨ptr, name, dims, bits⟩ := d
  simp only [declrWF, Bool.and_eq_true, Bool.or_eq_true, bne_iff_ne, ne_eq, Bool.not_eq_true'] at h
  obtain ⟨⟨⟨⟨hname, hkw⟩, hdims⟩, -⟩, -⟩ := h
  have hpre := preOK_replicate ptr
  have hk : (!(List.replicate ptr '*').isEmpty || !isKeyword name) = true := by
    rcases hkw with h | h
    · cases ptr with
      | zero => exact absurd rfl h
      | succ n => simp [List.replicate]
    · simp [h]
  simp only [declrLex, Lexeme.wf, hpre, hk, hname, Bool.and_self, Bool.true_and]
  have h1 : ∀ b : Nat, (blank [] && blank [] && !(natDigits b).isEmpty && (natDigits b).all Char.isDigit) = true := by
    intro b
    have := natDigits_ok b
    simp [blank, this.2, this.1]
  cases bits with
  | none =>
    cases dims with
    | nil => rfl
    | cons e r =>
      simp only [Option.map, List.isEmpty_cons, Bool.false_eq_true, if_false, Bool.true_and]
      exact joinDims_all _ (by decide) (by decide) (e :: r) (fun x hx => (dimOK_spec x ((List.all_eq_true.mp hdims) x hx)).2.1)
  | some b =>
    cases dims with
    | nil => simp only [Option.map, h1 b]; rfl
    | cons e r =>
      simp only [Option.map, h1 b, List.isEmpty_cons, Bool.false_eq_true, if_false, Bool.true_and]
      exact joinDims_all _ (by decide) (by decide) (e :: r) (fun x hx => (dimOK_spec x ((List.all_eq_true.mp hdims) x hx)).2.1)

theorem parseDeclarator_declrLex (ab : Bool) (d : Declarator) (h : declrWF ab d = true) :
    parseDeclarator (declrLex d).text = .ok d := by
  have hwf := declrLex_wf ab d h
  have := parseDeclarator_lexeme _ _ _ _ hwf
  obtain ⟨ptr, name, dims, bits⟩ := d
  simp only [declrLex] at this ⊢
  rw [this]
  simp only [declrWF, Bool.and_eq_true, Bool.or_eq_true, bne_iff_ne, ne_eq, Bool.not_eq_true'] at h
  obtain ⟨⟨⟨-, hdims⟩, hdrop⟩, -⟩ := h
  have hdrop' : (dims.dropLast.any fun x => x.isEmpty) = false := by simpa using hdrop
  have hb : Option.map (fun t : List Char × List Char × List Char => digitsToNat t.2.2) (Option.map (fun b => (([] : List Char), ([] : List Char), natDigits b)) bits) = bits := by
    cases bits with
    | none => rfl
    | some b => simp [digitsToNat_natDigits]
  cases dims with
  | nil => simp [stars_replicate, hb]
  | cons e r =>
    have hall : ∀ x ∈ e :: r, dimOK x = true := List.all_eq_true.mp hdims
    have hd : (splitDims (joinDims (e :: r))).map strip = e :: r := by
      rw [splitDims_joinDims (e :: r) (by simp) (fun x hx => (dimOK_spec x (hall x hx)).1)]
      exact map_strip_id _ (fun x hx => (dimOK_spec x (hall x hx)).2.2.1)
    simp only [List.isEmpty_cons, Bool.false_eq_true, if_false, hd, hdrop', stars_replicate, hb]

theorem splitOn1_ne_nil (sep : Char) (l : List Char) : splitOn1 sep l ≠ [] := by
  cases l with
  | nil => simp [splitOn1]
  | cons c r =>
    simp only [splitOn1]
    cases splitOn1 sep r with
    | nil => simp
    | cons h t => by_cases hc : c = sep <;> simp [hc]

theorem typeWordsOf_ne_nil (n : List Char) : typeWordsOf n ≠ [] := splitOn1_ne_nil ' ' n

theorem ident_word (w : List Char) (h : isIdent w = true) : isWordStr w = true ∧ isKeyword w = false := by
  simp only [isIdent, Lexeme.wf, Bool.and_eq_true, Bool.not_eq_true'] at h
  refine ⟨?_, h.2⟩
  cases w with
  | nil => simp at h
  | cons c r => simp [isWordStr, h.1.2]

theorem nameLex_wf (n : List Char) (h : isIdent n = true) : (Lexeme.name [] n none none).wf = true := by
  obtain ⟨h1, h2⟩ := ident_word n h
  simp [Lexeme.wf, preOK, h1, h2]

theorem moreOK_map : ∀ (r : List (List Char)), (∀ m ∈ r, isIdent m = true) → moreOK (r.map fun m => (([] : List Char), [' '], m)) = true
  | [], _ => rfl
  | m :: r, h => by
    simp only [List.map_cons, moreOK, (ident_word m (h m (by simp))).1, moreOK_map r (fun x hx => h x (by simp [hx]))]
    rfl

theorem defsLex_wf (n : List Char) (r : List (List Char)) (hn : isIdent n = true) (hr : ∀ m ∈ r, isIdent m = true) (hne : r ≠ []) :
    (Lexeme.defs [' '] n (r.map fun m => (([] : List Char), [' '], m))).wf = true := by
  have := moreOK_map r hr
  cases r with
  | nil => exact absurd rfl hne
  | cons m r' => simp only [Lexeme.wf, (ident_word n hn).1, this]; rfl

theorem membersText_nobrace : ∀ (ms : List (List Char × Option (List Char))), ms.all memberWF = true →
    (membersText ms).all (· != '}') = true
  | [], _ => rfl
  | m :: r, h => by
    simp only [List.all_cons, Bool.and_eq_true] at h
    have hm : (memberText m).all (· != '}') = true := by
      obtain ⟨k, v⟩ := m
      have h1 := h.1
      simp only [memberWF, Bool.and_eq_true, List.all_eq_true, bne_iff_ne, ne_eq, Bool.not_eq_true'] at h1
      cases v with
      | none =>
        simp only [memberText, List.all_eq_true, bne_iff_ne, ne_eq]
        exact fun c hc => (h1.1.1.2 c hc).1.2
      | some v =>
        simp only [Bool.and_eq_true, List.all_eq_true, bne_iff_ne, ne_eq, Bool.not_eq_true'] at h1
        simp only [memberText, List.all_append, List.all_cons, Bool.and_eq_true, List.all_eq_true, bne_iff_ne, ne_eq]
        exact ⟨fun c hc => (h1.1.1.2 c hc).1.2, by decide, by decide, by decide, fun c hc => (h1.2.2 c hc).1.2⟩
    have ih := membersText_nobrace r h.2
    cases r with
    | nil => simp only [membersText, List.all_append, hm]; rfl
    | cons m2 r2 => simp only [membersText, List.all_append, List.all_cons, hm, ih]; rfl

theorem enumLex_wf (fl : Bool) (n b : List Char) (ms : List (List Char × Option (List Char))) (h : wfDecl (.enum fl n b ms) = true) :
    (Lexeme.enum fl [' '] n (if n.isEmpty then [] else [' ']) (some ([' '], b, [' '])) (' ' :: membersText ms)).wf = true := by
  simp only [wfDecl, baseWF, Bool.and_eq_true] at h
  obtain ⟨⟨hn, ⟨⟨hb1, hb2⟩, hb3⟩, -⟩, hms⟩ := h
  have hb1' : b.all (fun c => isWord c || isWsA c) = true := by
    simp only [List.all_eq_true, Bool.or_eq_true, beq_iff_eq] at hb1 ⊢
    exact fun c hc => (hb1 c hc).imp id (fun e => by subst e; rfl)
  have hv := membersText_nobrace ms hms
  have hws2 : blank (if n.isEmpty then ([] : List Char) else [' ']) = true := by split <;> rfl
  have hor : (!n.isEmpty || (if n.isEmpty then ([] : List Char) else [' ']).isEmpty) = true := by
    cases n <;> simp
  cases b with
  | nil => simp at hb2
  | cons c b' =>
    cases hg : (c :: b').getLast? with
    | none => simp at hg
    | some d =>
      rw [hg] at hb3
      simp only [Lexeme.wf, hn, hws2, hor, hb1', hg]
      simp only at hb2 hb3
      have hsp : isWsA ' ' = true := by decide
      simp [blank, hb2, hb3, hv, hsp]

theorem defineLex_wf (n v : List Char) (h : wfDecl (.const n v) = true) : (Lexeme.define [' '] n [' '] v).wf = true := by
  simp only [wfDecl, Bool.and_eq_true] at h
  obtain ⟨⟨⟨⟨⟨hne, hall⟩, -⟩, hhead⟩, hnoteol⟩, -⟩ := h
  cases v with
  | nil => simp at hhead
  | cons c v' =>
    simp only at hhead
    simp only [Lexeme.wf, hne, hall, hhead, hnoteol]
    rfl

theorem joinComma_all (p : Char → Bool) (hp : p ',' = true) : ∀ (vs : List (List Char)), (∀ v ∈ vs, v.all p = true) → (joinComma vs).all p = true
  | [], _ => rfl
  | [v], h => h v (by simp)
  | v :: w :: r, h => by
    simp only [joinComma, List.all_append, List.all_cons, hp, Bool.true_and, Bool.and_eq_true]
    exact ⟨h v (by simp), joinComma_all p hp (w :: r) (fun x hx => h x (by simp [hx]))⟩

theorem configLex_wf (vs : List (List Char)) (h : wfDecl (.config vs) = true) : (Lexeme.config (joinComma vs)).wf = true := by
  simp only [wfDecl, Bool.and_eq_true, List.all_eq_true] at h
  obtain ⟨⟨-, hne⟩, hall⟩ := h
  have := joinComma_all (· != ']') (by decide) vs (fun v hv => by
    have := (hall v hv).1
    simp only [List.all_eq_true] at this ⊢
    exact fun c hc => (this c hc).2)
  simp only [Lexeme.wf, hne, this]
  rfl

end Cstruct.DefParser.C13
