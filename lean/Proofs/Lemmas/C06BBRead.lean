/-
  The `BitBuffer` object: one call of `read` in each situation the class distinguishes.
-/
import Proofs.Spec.C06BitBuffer
import Proofs.Lemmas.C06
import Proofs.Lemmas.CoreRW
namespace Cstruct.C06.BB
open Cstruct Cstruct.BBuf Cstruct.C06 Cstruct.C06.Lemmas

/-- the object after `read` loaded a unit of `n` bytes of type `t` -/
def loaded (bb : BB) (t : BTy) (n : Nat) : BB :=
  { bb with ty := some t, remaining := (n : Int) * 8,
            buffer := unitVal bb.endian t (sread bb.stream.data bb.stream.pos n),
            stream := { bb.stream with pos := bb.stream.pos + n } }

/-- the extraction part of `read` on an object that holds a unit with `r` bits left -/
def extract (bb : BB) (r bits : Nat) : R Int :=
  if bits > r then .error (.value, bb) else
  match BitBuf.take bb.endian { ty := none, buffer := bb.buffer, remaining := r } bits with
  | none => .error (.value, bb)
  | some (v, b) => .ok ({ bb with buffer := b.buffer, remaining := (b.remaining : Int) }, v)

theorem readExact_eof (d : Bytes) (pos n : Nat) (hn : 0 < n) (h : d.length < pos + n) : readExact d pos n = .error .eof := by
  have : (sread d pos n).length ≠ n := by
    simp only [sread, List.length_take, List.length_drop, Nat.min_def]; split <;> omega
  simp only [readExact, this, ne_eq, not_false_eq_true, if_true]

theorem read_cont (bb : BB) (t : BTy) (bits r : Nat) (hty : bb.ty = some t) (hrem : bb.remaining = (r : Int)) (hr : r ≠ 0) :
    bb.read t bits = extract bb r bits := by
  have h1 : ¬ (bb.remaining = 0 ∨ bb.ty ≠ some t) :=
    fun h => h.elim (by rw [hrem]; exact Int.natCast_ne_zero.2 hr) (fun h => h hty)
  simp only [BB.read, if_neg h1]
  simp only [extract, hrem, Int.toNat_natCast, gt_iff_lt, Int.ofNat_lt]
  rfl

theorem read_load (bb : BB) (t : BTy) (n bits : Nat) (hnew : bb.remaining = 0 ∨ bb.ty ≠ some t) (hsz : t.size = some n)
    (hlen : bb.stream.pos + n ≤ bb.stream.data.length) :
    bb.read t bits = extract (loaded bb t n) (n * 8) bits := by
  have h2 : (n : Int) * 8 = ((n * 8 : Nat) : Int) := (Int.natCast_mul n 8).symm
  simp only [BB.read, if_pos hnew, hsz, Core.Lemmas.readExact_of_le _ _ _ hlen, extract, loaded, h2, Int.toNat_natCast, gt_iff_lt,
    Int.ofNat_lt]
  rfl

theorem read_eof (bb : BB) (t : BTy) (n bits : Nat) (hnew : bb.remaining = 0 ∨ bb.ty ≠ some t) (hsz : t.size = some n)
    (hn : 0 < n) (hlen : bb.stream.data.length < bb.stream.pos + n) :
    bb.read t bits = .error (.eof, { bb with ty := some t, remaining := (n : Int) * 8, stream := bb.stream.afterShort n }) := by
  simp only [BB.read, if_pos hnew, hsz, readExact_eof _ _ _ hn hlen]

theorem read_varlen (bb : BB) (t : BTy) (bits : Nat) (hnew : bb.remaining = 0 ∨ bb.ty ≠ some t) (hsz : t.size = none) :
    bb.read t bits = .error (.value, bb) := by
  simp only [BB.read, if_pos hnew, hsz]

theorem extract_ok (bb : BB) (w k b : Nat) (u : Int) (hk : k + b ≤ w)
    (hinv : ReadInv bb.endian w u k { ty := none, buffer := bb.buffer, remaining := w - k }) :
    ∃ buf, extract bb (w - k) b = .ok ({ bb with buffer := buf, remaining := ((w - (k + b) : Nat) : Int) },
        slotVal u (slotLo bb.endian w k b) b) ∧
      ReadInv bb.endian w u (k + b) { ty := none, buffer := buf, remaining := w - (k + b) } := by
  obtain ⟨b', ht, hinv', _⟩ := take_step bb.endian w k b u _ hinv hk
  have hb : ¬ b > w - k := by omega
  have hrem : b'.remaining = w - (k + b) := hinv'.2.1
  refine ⟨b'.buffer, ?_, ?_⟩
  · simp only [extract, if_neg hb, ht, hrem]
  · obtain ⟨h1, h2, h3⟩ := hinv'
    exact ⟨h1, rfl, by cases he : bb.endian <;> simp only [he] at h3 ⊢ <;> exact h3⟩

theorem extract_straddle (bb : BB) (r bits : Nat) (h : r < bits) : extract bb r bits = .error (.value, bb) := by
  simp only [extract, if_pos h]

end Cstruct.C06.BB
