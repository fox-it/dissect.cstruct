/-
  What a successful layout (`_calculate_size_and_offsets`) says about one member, in the form the simulation uses; the
  alignment of every member divides the alignment of the structure; `compileWF` member by member.
-/
import Proofs.Lemmas.C03CompileFlush
import Proofs.Lemmas.LayoutEq

namespace Cstruct.Compiler
open Cstruct Cstruct.Core.Lemmas

theorem layout_offset_eq (al : Bool) (so : Option Nat) (fa : Nat) :
    (match so with
      | some o => if al = true then some (o + padNat o fa) else some o
      | none => none) = alignOpt al so fa := by
  cases so with
  | none => rfl
  | some o => cases al <;> rfl

theorem layout_plain (cfg : Cfg) (al : Bool) (n : String) (an : Bool) (ty : Ty) (bits : Option Nat) (rest : Fields)
    (st : LState) (sz : Option Nat) (sa : Nat) (offs : List (Option Nat)) (hb : isBitsField bits = false)
    (h : Fields.layout cfg al (.cons n an ty bits rest) st = .ok (sz, sa, offs)) :
    ∃ offs', offs = alignOpt al st.offset (ty.alignment cfg) :: offs' ∧
      Fields.layout cfg al rest ⟨addOpt (alignOpt al st.offset (ty.alignment cfg)) (ty.size cfg),
        max st.alignment (ty.alignment cfg), none, some 0, 0⟩ = .ok (sz, sa, offs') := by
  have hb' : isBitW bits = false := by
    rcases bits with _ | _ | b
    · rfl
    · rfl
    · cases hb
  rw [layout_cons_nobits cfg al n an ty bits rest st hb'] at h
  obtain ⟨r, hr, h2⟩ := bind_ok h
  cases h2
  refine ⟨r.2.2, rfl, ?_⟩
  rw [← hr]
  congr 2
  unfold alignedOff alignOpt addOpt alignTo
  cases st.offset <;> cases ty.size cfg <;> rfl

/-- what a successful iteration for a bit-field says -/
def BitsStep (cfg : Cfg) (al : Bool) (ty : Ty) (b : Nat) (rest : Fields) (st : LState) (sz : Option Nat) (sa : Nat)
    (offs : List (Option Nat)) (offset : Option Nat) : Prop :=
  ∃ ft fsz nu offs', ty.bitBase = some ft ∧ ft.size = some fsz ∧ Layout.third st ft offset = .ok nu ∧
    (nu = true →
      (0 : Int) ≤ ((fsz * 8 : Nat) : Int) - ((b + 1 : Nat) : Int) ∧ offs = offset :: offs' ∧
      Fields.layout cfg al rest ⟨offset.map (· + fsz), max st.alignment (ty.alignment cfg), some ft, offset,
        ((fsz * 8 : Nat) : Int) - ((b + 1 : Nat) : Int)⟩ = .ok (sz, sa, offs')) ∧
    (nu = false →
      (0 : Int) ≤ st.bitsRemaining - ((b + 1 : Nat) : Int) ∧ offs = none :: offs' ∧
      Fields.layout cfg al rest ⟨offset, max st.alignment (ty.alignment cfg), st.bitsType, st.bitsFieldOffset,
        st.bitsRemaining - ((b + 1 : Nat) : Int)⟩ = .ok (sz, sa, offs'))

theorem layout_bits (cfg : Cfg) (al : Bool) (n : String) (an : Bool) (ty : Ty) (b : Nat) (rest : Fields)
    (st : LState) (sz : Option Nat) (sa : Nat) (offs : List (Option Nat))
    (h : Fields.layout cfg al (.cons n an ty (some (b + 1)) rest) st = .ok (sz, sa, offs)) :
    BitsStep cfg al ty b rest st sz sa offs (alignOpt al st.offset (ty.alignment cfg)) := by
  obtain ⟨st', foff, offs', hs, hr, rfl⟩ := Layout.layout_cons_ok h
  obtain ⟨ft, fsz, nu, hbb, hsz, ht, _, _⟩ := Layout.stepL_bits_ok hs
  have hoff : Layout.offOf al (ty.alignment cfg) st.offset = alignOpt al st.offset (ty.alignment cfg) :=
    layout_offset_eq al st.offset (ty.alignment cfg)
  refine ⟨ft, fsz, nu, offs', hbb, hsz, hoff ▸ ht, fun hnu => ?_, fun hnu => ?_⟩
  · subst hnu
    rw [Layout.stepL_new hbb hsz ht, hoff] at hs
    split at hs
    · cases hs
    · rename_i hge
      cases hs
      exact ⟨Int.not_lt.mp hge, rfl, hr⟩
  · subst hnu
    rw [Layout.stepL_cont hbb hsz ht, hoff] at hs
    split at hs
    · cases hs
    · rename_i hge
      cases hs
      exact ⟨Int.not_lt.mp hge, rfl, hr⟩

/-- in an aligned structure the alignment of every member divides the alignment of the structure -/
def AlignDvd (cfg : Cfg) (al : Bool) (salign : Nat) : Fields → Prop
  | .nil => True
  | .cons _ _ ty _ rest => (al = true → ty.alignment cfg ∣ salign) ∧ AlignDvd cfg al salign rest

def AllP2 (cfg : Cfg) : Fields → Prop
  | .nil => True
  | .cons _ _ ty _ rest => IsP2 (ty.alignment cfg) ∧ AllP2 cfg rest

theorem layout_alignDvd (cfg : Cfg) (al : Bool) : ∀ (fs : Fields) (st : LState) (sz : Option Nat) (sa : Nat)
    (offs : List (Option Nat)), Fields.layout cfg al fs st = .ok (sz, sa, offs) →
    (st.alignment = 0 ∨ IsP2 st.alignment) → AllP2 cfg fs →
    (st.alignment = 0 ∨ st.alignment ∣ sa) ∧ AlignDvd cfg al sa fs
  | .nil, st, sz, sa, offs, h, _, _ => by
    rw [Fields.layout] at h
    simp only [Except.ok.injEq, Prod.mk.injEq] at h
    obtain ⟨_, rfl, _⟩ := h
    exact ⟨Or.inr (Nat.dvd_refl _), trivial⟩
  | .cons n an ty bits rest, st, sz, sa, offs, h, hst, hp2 => by
    obtain ⟨hfa, hrest⟩ := hp2
    obtain ⟨st', _, offs', hs, hr, _⟩ := Layout.layout_cons_ok h
    have hal : st'.alignment = max st.alignment (ty.alignment cfg) := (Layout.stepL_ok hs).1
    have hmax : IsP2 (max st.alignment (ty.alignment cfg)) := isP2_max hfa hst
    obtain ⟨h1, h2⟩ := layout_alignDvd cfg al rest st' sz sa offs' hr (by rw [hal]; exact Or.inr hmax) hrest
    have hd : max st.alignment (ty.alignment cfg) ∣ sa := by
      rw [hal] at h1
      rcases h1 with h1 | h1
      · have := hmax.pos; omega
      · exact h1
    refine ⟨?_, fun _ => Nat.dvd_trans (dvd_max_right hfa hst) hd, h2⟩
    rcases hst with h0 | hp
    · exact Or.inl h0
    · exact Or.inr (Nat.dvd_trans (dvd_max_left hfa hp) hd)

theorem memberWF_bits_ne {cfg : Cfg} {al : Bool} {ty : Ty} {bits : Option Nat} (h : memberWF cfg al ty bits = true) :
    bits ≠ some 0 := by
  simp only [memberWF, Bool.and_eq_true, bne_iff_ne, ne_eq] at h
  exact h.1.1.1.1

theorem memberWF_p2 {cfg : Cfg} {al : Bool} {ty : Ty} {bits : Option Nat} (h : memberWF cfg al ty bits = true)
    (hal : al = true) : IsP2 (ty.alignment cfg) := by
  simp only [memberWF, Bool.and_eq_true, Bool.or_eq_true, Bool.not_eq_true'] at h
  rcases h.1.1.1.2 with h | h
  · rw [hal] at h; cases h
  · exact isPow2b_spec h

theorem memberWF_void {cfg : Cfg} {al : Bool} {ty : Ty} {bits : Option Nat} (h : memberWF cfg al ty bits = true)
    (hv : isVoid ty = true) : (!al || ty.alignment cfg == 1) = true := by
  simp only [memberWF, Bool.and_eq_true, Bool.or_eq_true, Bool.not_eq_true', beq_iff_eq] at h
  rcases h.1.1.2 with (h | h) | h
  · simp [h]
  · rw [hv] at h; cases h
  · simp [h]

theorem compileWF_allP2 (cfg : Cfg) : ∀ fs : Fields, compileWF cfg true fs = true → AllP2 cfg fs
  | .nil, _ => trivial
  | .cons _ _ _ _ rest, h => by
    obtain ⟨h1, _, h3⟩ := compileWF_cons h
    exact ⟨memberWF_p2 h1 rfl, compileWF_allP2 cfg rest h3⟩

theorem alignDvd_false (cfg : Cfg) (sa : Nat) : ∀ fs : Fields, AlignDvd cfg false sa fs
  | .nil => trivial
  | .cons _ _ _ _ rest => ⟨(fun h => by cases h), alignDvd_false cfg sa rest⟩

theorem dropVoids_dyn (cfg : Cfg) (al : Bool) : ∀ (fs : Fields) (st : LState) (sz : Option Nat) (sa : Nat)
    (offs : List (Option Nat)), Fields.layout cfg al fs st = .ok (sz, sa, offs) → st.offset = none →
    compileWF cfg al fs = true → ∃ r, dropVoids cfg al fs offs none = some r
  | .nil, _, _, _, offs, _, _, _ => ⟨_, dropVoids_of_noVoid cfg al (fs := .nil) trivial offs none⟩
  | .cons n an ty bits rest, st, sz, sa, offs, h, hst, hwf => by
    by_cases hv : isVoid ty = true ∧ bits.isNone = true
    · obtain ⟨hv1, hv2⟩ := hv
      have hb : bits = none := Option.isNone_iff_eq_none.mp hv2
      subst hb
      obtain ⟨hm, _, hrest⟩ := compileWF_cons hwf
      obtain ⟨offs', rfl, hr⟩ := layout_plain cfg al n an ty none rest st sz sa offs rfl h
      rw [hst] at hr ⊢
      obtain ⟨r, hr'⟩ := dropVoids_dyn cfg al rest _ sz sa offs' hr rfl hrest
      obtain ⟨a, b, c⟩ := r
      refine ⟨(a, b, true), ?_⟩
      rw [dropVoids_void cfg al n an rest _ none hv1]
      have : voidOK cfg al ty (hdOff (alignOpt al none (ty.alignment cfg) :: offs')) none = true := memberWF_void hm hv1
      rw [if_pos this, List.drop_one, List.tail_cons, hr']
      rfl
    · exact ⟨_, dropVoids_of_noVoid cfg al (fs := .cons n an ty bits rest) hv _ _⟩

end Cstruct.Compiler
