/-
  The member loop of "parse, then dump" for structures with bit-fields, packed or aligned. The case split is that of the
  round trip (`Proofs/Lemmas/CoreDynLoop.lean`): between units / inside a unit, member without bit width / bit-field
  opening / continuing a unit. Unlike there, everything here is for layouts with a static total and static member offsets
  (`.ok (some total, …)`, `some (o + p) :: offs`): that is what a data mask needs. `Run` is established member by member
  from the equations of `readFields` / `writeFields`; `IdleFaithful` / `PendFaithful` tie it to the layout and the mask.
-/
import Proofs.Lemmas.C02Units
import Proofs.Lemmas.C02Mask
import Proofs.Lemmas.CoreSB
import Proofs.C04
namespace Cstruct.C02B.Lemmas
open Cstruct Cstruct.Core Cstruct.Core.Lemmas Cstruct.C06 Cstruct.C06.Lemmas Cstruct.C02B

/-- `n`: bytes read = bytes written; `m`: the mask ANDed onto the `n` input bytes -/
def TyRun (cfg : Cfg) (ty : Ty) (d : Bytes) (pos n : Nat) (m : Bytes) : Prop :=
  ∀ ctx : Ctx, ∃ v, read cfg ty ctx d pos = .ok (v, pos + n) ∧ HasTyB cfg v ty ∧
    write cfg ty v pos = .ok (andBytes (sread d pos n) m)

/-- `start`: position of the structure; `r`, `w`: offsets of reader and writer from it. Between units `r = w`; inside a
    unit the reader is the unit's size ahead of the writer, which has emitted nothing for it yet. `n`: what the writer
    emits from `start + w` on, the final flush of `bbF` included (a unit still pending at the end of the list belongs to
    it), which is where the reader ends; `m`: the mask ANDed onto these `n` input bytes. -/
def Run (cfg : Cfg) (al : Bool) (fs : Fields) (offs : List (Option Nat)) (d : Bytes) (start r w n : Nat)
    (bbR bbW : BitBuf) (m : Bytes) : Prop :=
  ∀ ctx : Ctx, ∃ vs szs, readFields cfg al fs offs start bbR ctx d (start + r) = .ok (vs, szs, start + (w + n)) ∧
    HasTysB cfg vs fs ∧
    ∃ out bbF fl, writeFields cfg al fs offs vs start bbW (start + w) = .ok (out, bbF) ∧ flushBits cfg bbF = .ok fl ∧
      out ++ fl = andBytes (sread d (start + w) n) m

theorem run_nil (cfg : Cfg) (al offs d start o bbR) : Run cfg al .nil offs d start o o 0 bbR BitBuf.empty [] :=
  fun _ => ⟨.nil, [], by rw [readFields_nil, Nat.add_zero], .nil, [], BitBuf.empty, [], writeFields_nil .., rfl,
    by rw [andBytes_nil_right]; rfl⟩

theorem run_nil_pend {cfg : Cfg} {d start uo ft fsz k M bbR bbW} (al offs)
    (hU : Units cfg d (start + uo) ft fsz k M bbR bbW) (hsz : ft.size = some fsz) (hlen : start + uo + fsz ≤ d.length) :
    Run cfg al .nil offs d start (uo + fsz) uo fsz bbR bbW (unitBytes cfg.endian fsz M) :=
  fun _ => ⟨.nil, [], by rw [readFields_nil], .nil, [], bbW, _, writeFields_nil .., hU.flush hsz hlen, List.nil_append _⟩

/-- behind a unit written back under `pm`: where the writer stands, and the window in two parts -/
theorem after_unit {d : Bytes} {start uo fsz n : Nat} {pm m out fl : Bytes} (hub : pm.length = fsz)
    (hlen : start + uo + fsz ≤ d.length) (hout : out ++ fl = andBytes (sread d (start + (uo + fsz)) n) m) :
    start + uo + (andBytes (sread d (start + uo) fsz) pm).length = start + (uo + fsz) ∧
      andBytes (sread d (start + uo) fsz) pm ++ out ++ fl = andBytes (sread d (start + uo) (fsz + n)) (pm ++ m) :=
  ⟨by rw [andBytes_window_length _ _ _ _ hub hlen, Nat.add_assoc],
    window_prefix hub hlen (Nat.add_assoc start uo fsz ▸ hout)⟩

theorem run_flush {cfg : Cfg} {al name an ty bits rest offs d start uo ft fsz k M n bbR bbW m}
    (hU : Units cfg d (start + uo) ft fsz k M bbR bbW) (hsz : ft.size = some fsz) (hlen : start + uo + fsz ≤ d.length)
    (hne : isBitW bits = false ∨ ty.bitBase ≠ some ft)
    (h : Run cfg al (.cons name an ty bits rest) offs d start (uo + fsz) (uo + fsz) n bbR BitBuf.empty m) :
    Run cfg al (.cons name an ty bits rest) offs d start (uo + fsz) uo (fsz + n) bbR bbW
      (unitBytes cfg.endian fsz M ++ m) := by
  intro ctx
  obtain ⟨vs, szs, hrr, hvs, out, bbF, fl, hwr, hfl, hout⟩ := h ctx
  obtain ⟨v, vs', rfl⟩ := hasTysB_cons_vals hvs
  obtain ⟨e, hw⟩ := after_unit (unitBytes_length cfg.endian fsz M) hlen hout
  refine ⟨_, szs, by rw [hrr, Nat.add_assoc], hvs,
    andBytes (sread d (start + uo) fsz) (unitBytes cfg.endian fsz M) ++ out, bbF, fl, ?_, hfl, hw⟩
  rw [writeFields_flush cfg al name an ty bits rest offs v vs' start bbW _ ft hU.wty hne, hU.flush hsz hlen]
  simp only [Except.bind]
  rw [e, hwr]

theorem padW_some (cfg : Cfg) (al : Bool) (ty : Ty) (start o p : Nat) : padW cfg al ty (some (o + p)) start (start + o) = p := by
  show (if start + o < start + (o + p) then start + (o + p) - (start + o) else 0) = p
  rw [← Nat.add_assoc, Nat.add_sub_cancel_left]
  split
  · rfl
  · rename_i h; exact (Nat.eq_zero_of_not_pos fun hp => h (Nat.lt_add_of_pos_right hp)).symm

theorem run_cons_nb {cfg : Cfg} {al name an ty rest offs d start o p k n bbR mt mr}
    (ht : TyRun cfg ty d (start + (o + p)) k mt) (hmt : mt.length = k) (hlen : start + (o + p) + k ≤ d.length)
    (h : Run cfg al rest offs d start (o + p + k) (o + p + k) n BitBuf.empty BitBuf.empty mr) :
    Run cfg al (.cons name an ty none rest) (some (o + p) :: offs) d start o o (p + (k + n)) bbR BitBuf.empty
      (zeros p ++ (mt ++ mr)) := by
  intro ctx
  obtain ⟨v, hr, hv, hw⟩ := ht ctx
  obtain ⟨vs, szs, hrr, hvs, out, bbF, fl, hwr, hfl, hout⟩ := h (ctx.set name v)
  have e1 : start + (o + p) + k = start + (o + p + k) := Nat.add_assoc ..
  have e2 : start + o + p = start + (o + p) := Nat.add_assoc ..
  have hbl := andBytes_window_length d _ k mt hmt hlen
  refine ⟨.cons v vs, (name, start + (o + p) + k - (start + (o + p))) :: szs, ?_, .cons hv hvs,
    zeros p ++ andBytes (sread d (start + (o + p)) k) mt ++ out, bbF, fl, ?_, hfl, ?_⟩
  · rw [readFields_cons_S, hr]
    simp only [Except.bind]
    rw [e1, hrr, Nat.add_assoc (o + p), Nat.add_assoc o]
  · rw [writeFields_nb, padW_some, e2, hw]
    simp only [Except.bind, List.length_append, length_zeros, hbl]
    rw [← Nat.add_assoc (start + o), e2, e1, hwr]
  · rw [← e1] at hout
    have h1 := window_prefix hmt hlen hout
    rw [← e2] at h1 hlen ⊢
    rw [List.append_assoc (zeros p)]
    exact window_pad (Nat.le_trans (Nat.le_add_right _ k) hlen) h1

/-- The part common to a bit-field that opens a unit and one that continues it, once both sides are at the unit at `uo`:
    the reader's take of `w` bits succeeds with a value `0 ≤ v < 2^w`, and then the reader on `rest` and the writer's
    `putStep` of `v` are a `Run` (reader from behind the unit, writer from the unit, `n` bytes under `m`). -/
def BitRun (cfg : Cfg) (al : Bool) (rest : Fields) (offs : List (Option Nat)) (d : Bytes) (start uo fsz w n : Nat)
    (bbR bbW : BitBuf) (m : Bytes) : Prop :=
  ∃ v bbR2, bbR.take cfg.endian w = some (v, bbR2) ∧ 0 ≤ v ∧ v < 2 ^ w ∧ ∀ ctx : Ctx, ∃ vs szs,
    readFields cfg al rest offs start bbR2 ctx d (start + (uo + fsz)) = .ok (vs, szs, start + (uo + n)) ∧
    HasTysB cfg vs rest ∧
    ∃ out bbF fl, putStep cfg al rest offs vs start fsz v w bbW (start + uo) = .ok (out, bbF) ∧
      flushBits cfg bbF = .ok fl ∧ out ++ fl = andBytes (sread d (start + uo) n) m

theorem bitRun_full {cfg : Cfg} {al rest offs d start uo ft fsz k M w n bbR bbW m}
    (hU : Units cfg d (start + uo) ft fsz k M bbR bbW) (hsz : ft.size = some fsz) (hlen : start + uo + fsz ≤ d.length)
    (hkw : k + w = 8 * fsz)
    (h : ∀ bbR2, RIdle bbR2 rest → Run cfg al rest offs d start (uo + fsz) (uo + fsz) n bbR2 BitBuf.empty m) :
    BitRun cfg al rest offs d start uo fsz w (fsz + n) bbR bbW
      (unitBytes cfg.endian fsz (M ||| slotMask (slotLo cfg.endian (8 * fsz) k w) w) ++ m) := by
  obtain ⟨v, bbR2, bbW2, ht, h0, h1, hput, hU2⟩ := hU.step w (Nat.le_of_eq hkw)
  generalize M ||| slotMask (slotLo cfg.endian (8 * fsz) k w) w = M' at hU2 ⊢
  refine ⟨v, bbR2, ht, h0, h1, fun ctx => ?_⟩
  have hrem : bbW2.remaining = 0 := by rw [hU2.wrem, hkw, Nat.sub_self]
  obtain ⟨U, _, hR2⟩ := hU2.rinv
  obtain ⟨vs, szs, hrr, hvs, out, bbF, fl, hwr, hfl, hout⟩ :=
    h bbR2 (ridle_of_rem bbR2 (by rw [hR2.2.1, hkw, Nat.sub_self]) rest) ctx
  obtain ⟨e, hw⟩ := after_unit (unitBytes_length cfg.endian fsz M') hlen hout
  refine ⟨vs, szs, by rw [hrr, Nat.add_assoc], hvs,
    andBytes (sread d (start + uo) fsz) (unitBytes cfg.endian fsz M') ++ out, bbF, fl, ?_, hfl, hw⟩
  simp only [putStep, hput, hrem, if_true, hU2.flush hsz hlen, Except.bind]
  rw [e, hwr]

theorem bitRun_part {cfg : Cfg} {al rest offs d start uo ft fsz k M w n bbR bbW m}
    (hU : Units cfg d (start + uo) ft fsz k M bbR bbW) (hkw : k + w < 8 * fsz)
    (h : ∀ bbR2 bbW2, Units cfg d (start + uo) ft fsz (k + w) (M ||| slotMask (slotLo cfg.endian (8 * fsz) k w) w)
      bbR2 bbW2 → Run cfg al rest offs d start (uo + fsz) uo n bbR2 bbW2 m) :
    BitRun cfg al rest offs d start uo fsz w n bbR bbW m := by
  obtain ⟨v, bbR2, bbW2, ht, h0, h1, hput, hU2⟩ := hU.step w (Nat.le_of_lt hkw)
  refine ⟨v, bbR2, ht, h0, h1, fun ctx => ?_⟩
  have hrem : bbW2.remaining ≠ 0 := by rw [hU2.wrem]; exact Nat.sub_ne_zero_of_lt hkw
  obtain ⟨vs, szs, hrr, hvs, out, bbF, fl, hwr, hfl, hout⟩ := h bbR2 bbW2 hU2 ctx
  refine ⟨vs, szs, hrr, hvs, out, bbF, fl, ?_, hfl, hout⟩
  simp only [putStep, hput, hrem, if_false, Except.bind, List.length_nil, Nat.add_zero, List.nil_append, hwr]

theorem run_bit_new {cfg : Cfg} {al name an ty b rest offs d start o p ft fsz n bbR m} (hok : ty.bitOk = true)
    (hbase : ty.bitBase = some ft) (hint : Scalar.isInt ft = true) (hsz : ft.size = some fsz)
    (hlen : start + (o + p) + fsz ≤ d.length) (hc : bbR.remaining = 0 ∨ bbR.ty ≠ some ft)
    (h : ∀ bbR1 bbW1, Units cfg d (start + (o + p)) ft fsz 0 0 bbR1 bbW1 →
      BitRun cfg al rest offs d start (o + p) fsz (b + 1) n bbR1 bbW1 m) :
    Run cfg al (.cons name an ty (some (b + 1)) rest) (some (o + p) :: offs) d start o o (p + n) bbR BitBuf.empty
      (zeros p ++ m) := by
  intro ctx
  obtain ⟨bbR1, hload, hU⟩ := loadUnit_units cfg ft hint fsz hsz d _ hlen bbR hc
  obtain ⟨v, bbR2, htake, h0, h1, hrest⟩ := h _ _ hU
  obtain ⟨vs, szs, hrr, hvs, out, bbF, fl, hwr, hfl, hout⟩ := hrest (ctx.set name (bitVal ty v))
  have e2 : start + o + p = start + (o + p) := Nat.add_assoc ..
  refine ⟨.cons (bitVal ty v) vs, szs, ?_, hasTysB_bitVal hok v h0 h1 hvs, zeros p ++ out, bbF, fl, ?_, hfl, ?_⟩
  · rw [readFields_cons_bits]
    simp only [hbase, List.head?, Option.join, Option.bind, id, List.drop_one, List.tail_cons, fieldPos_some]
    rw [hload]
    simp only [Except.bind, htake]
    rw [Nat.add_assoc start, hrr, Nat.add_assoc o]
  · rw [writeFields_bit_new cfg al name an ty b rest (some (o + p)) offs _ vs start (start + o) ft fsz v hbase hsz
      (bitVal_eq ty v ▸ bitVal_cases ty v), padW_some, e2, hwr]
    rfl
  · rw [← e2] at hout hlen
    exact window_pad (Nat.le_trans (Nat.le_add_right _ fsz) hlen) hout

theorem run_bit_cont {cfg : Cfg} {al name an ty b rest offs d start uo ft fsz k M n bbR bbW m} (hok : ty.bitOk = true)
    (hbase : ty.bitBase = some ft) (hsz : ft.size = some fsz) (hU : Units cfg d (start + uo) ft fsz k M bbR bbW)
    (hk : k < 8 * fsz) (hpr : al = true → padNat (start + (uo + fsz)) (ty.alignment cfg) = 0)
    (hpw : al = true → padNat (start + uo) (ty.alignment cfg) = 0)
    (h : BitRun cfg al rest offs d start uo fsz (b + 1) n bbR bbW m) :
    Run cfg al (.cons name an ty (some (b + 1)) rest) (none :: offs) d start (uo + fsz) uo n bbR bbW m := by
  intro ctx
  obtain ⟨v, bbR2, htake, h0, h1, hrest⟩ := h
  obtain ⟨vs, szs, hrr, hvs, out, bbF, fl, hwr, hfl, hout⟩ := hrest (ctx.set name (bitVal ty v))
  obtain ⟨hnl, hwrem⟩ := hU.busy hk
  refine ⟨.cons (bitVal ty v) vs, szs, ?_, hasTysB_bitVal hok v h0 h1 hvs, out, bbF, fl, ?_, hfl, hout⟩
  · rw [readFields_cons_bits]
    simp only [hbase, List.head?, Option.join, Option.bind, id, List.drop_one, List.tail_cons, hnl]
    rw [fieldPos_none cfg al ty start _ hpr]
    simp only [Except.bind, htake, hrr]
  · rw [writeFields_bit_cont cfg al name an ty b rest offs _ vs start (start + uo) ft fsz v bbW hbase hsz
      (bitVal_eq ty v ▸ bitVal_cases ty v) hU.wty hwrem hpw, hwr]

theorem layout_member_size {cfg : Cfg} {al : Bool} {name an ty rest} {st : LState} {total sa offs}
    (h : Fields.layout cfg al (.cons name an ty none rest) st = .ok (some total, sa, offs)) : ∃ k, ty.size cfg = some k := by
  cases hk : ty.size cfg with
  | some k => exact ⟨k, rfl⟩
  | none => cases (C04.c04_dynamic_tail cfg al name an ty rest st hk _ _ _ h).1

/-- `TyOk` / `FieldsOk` of `CoreDynLoop.lean` with fragment SB for fragment D. That the definition is accepted
    (`defErr = none`) is not assumed: the statements speak of types with a static size, and a type whose layout is
    rejected has none. -/
structure TyHyps (cfg : Cfg) (al : Bool) (ty : Ty) : Prop where
  frag : ty.fragSB cfg = true
  unif : ty.uniformAlign al = true
  p2 : al = true → ty.pow2Aligned cfg
  nat : al = true → ty.bitsNatural cfg = true

structure FieldsHyps (cfg : Cfg) (al : Bool) (fs : Fields) : Prop where
  frag : Fields.fragSB cfg fs = true
  unif : Fields.uniformAlign al fs = true
  p2 : al = true → fs.pow2Aligned cfg
  nat : al = true → Fields.bitsNatural cfg fs = true

namespace FieldsHyps

theorem tail {cfg al name an ty bits rest} (h : FieldsHyps cfg al (.cons name an ty bits rest)) : FieldsHyps cfg al rest := by
  obtain ⟨h1, h2, h4, h5⟩ := h
  simp only [Fields.fragSB, Bool.and_eq_true] at h1
  simp only [Fields.uniformAlign, Bool.and_eq_true] at h2
  refine ⟨h1.2, h2.2, fun ha => (h4 ha).2, fun ha => ?_⟩
  have := h5 ha
  simp only [Fields.bitsNatural, Bool.and_eq_true] at this
  exact this.2

theorem head {cfg al name an ty rest} (h : FieldsHyps cfg al (.cons name an ty none rest)) : TyHyps cfg al ty := by
  obtain ⟨h1, h2, h4, h5⟩ := h
  simp only [Fields.fragSB, Bool.and_eq_true] at h1
  simp only [Fields.uniformAlign, Bool.and_eq_true] at h2
  refine ⟨h1.1, h2.1, fun ha => (h4 ha).1, fun ha => ?_⟩
  have := h5 ha
  simp only [Fields.bitsNatural, Bool.and_eq_true] at this
  exact this.1

theorem bit {cfg al name an ty b rest} (h : FieldsHyps cfg al (.cons name an ty (some (b + 1)) rest)) :
    ty.bitOk = true ∧ ∃ ft fsz, ty.bitBase = some ft ∧ Scalar.isInt ft = true ∧ ft.size = some fsz ∧
      (al = true → IsP2 (ty.alignment cfg) ∧ fsz = ty.alignment cfg) := by
  have h1 := h.frag
  simp only [Fields.fragSB, Bool.and_eq_true] at h1
  obtain ⟨ft, fsz, hbase, hint, hsz⟩ := bitOk_base ty h1.1
  exact ⟨h1.1, ft, fsz, hbase, hint, hsz, fun ha => ⟨alignment_p2 cfg ty (h.p2 ha).1, bitsNatural_head (h.nat ha) hbase hsz⟩⟩

end FieldsHyps

/-- `n`: the static size; the mask is `maskB` -/
def TyFaithful (cfg : Cfg) (al : Bool) (ty : Ty) : Prop :=
  ∀ n, ty.size cfg = some n → (maskB cfg ty).length = n ∧
    ∀ (d : Bytes) (pos : Nat), pos + n ≤ d.length → (al = true → sAlign cfg ty ∣ pos) → TyRun cfg ty d pos n (maskB cfg ty)

/-- between units, at the layout offset `o`; the last member ends at `o + n` (the tail padding is not part of the loop) -/
def IdleFaithful (cfg : Cfg) (al : Bool) (fs : Fields) : Prop :=
  ∀ st total sa offs, Fields.layout cfg al fs st = .ok (some total, sa, offs) → LIdle st fs → ∀ o, st.offset = some o →
    ∃ n, total = alignTo al (o + n) sa ∧ (fieldsMaskB cfg fs offs o none).length = n ∧
      ∀ (d : Bytes) (start : Nat) (bbR : BitBuf), start + (o + n) ≤ d.length → (al = true → allAlignDvd cfg start fs) →
        RIdle bbR fs → Run cfg al fs offs d start o o n bbR BitBuf.empty (fieldsMaskB cfg fs offs o none)

/-- the layout side of a pending unit at the static offset `uo` -/
structure PendLA (al : Bool) (st : LState) (ft : Scalar) (fsz k uo : Nat) : Prop where
  isInt : Scalar.isInt ft = true
  size : ft.size = some fsz
  lty : st.bitsType = some ft
  lrem : st.bitsRemaining = ((8 * fsz - k : Nat) : Int)
  lt : k < 8 * fsz
  loff : st.offset = some (uo + fsz)
  lbfo : st.bitsFieldOffset = some uo
  ual : al = true → fsz ∣ uo

/-- inside the unit at the offset `uo` (`fsz` bytes, `k` bits handed out, their mask `M`); `fsz ∣ start` with
    `PendLA.ual : fsz ∣ uo` says that in aligned mode the unit's position suits the alignment of the members sharing it -/
def PendFaithful (cfg : Cfg) (al : Bool) (fs : Fields) : Prop :=
  ∀ st total sa offs, Fields.layout cfg al fs st = .ok (some total, sa, offs) →
  ∀ ft fsz k uo, PendLA al st ft fsz k uo → ∀ M : Nat,
    ∃ n, fsz ≤ n ∧ total = alignTo al (uo + n) sa ∧
      (fieldsMaskB cfg fs offs (uo + fsz) (some ⟨fsz, k, M⟩)).length = n ∧
      ∀ (d : Bytes) (start : Nat) (bbR bbW : BitBuf), start + (uo + n) ≤ d.length →
        (al = true → allAlignDvd cfg start fs) → (al = true → fsz ∣ start) →
        Units cfg d (start + uo) ft fsz k M bbR bbW →
        Run cfg al fs offs d start (uo + fsz) uo n bbR bbW (fieldsMaskB cfg fs offs (uo + fsz) (some ⟨fsz, k, M⟩))

theorem alignedOff_some {cfg : Cfg} {al : Bool} {ty : Ty} {st : LState} {o : Nat} (ho : st.offset = some o) :
    alignedOff cfg al ty st = some (alignTo al o (ty.alignment cfg)) := by
  rw [alignedOff, ho]; rfl

theorem len_le {start a b n L : Nat} (hb : b ≤ n) (h : start + (a + n) ≤ L) : start + a + b ≤ L :=
  Nat.le_trans (by rw [Nat.add_assoc start]; exact Nat.add_le_add_left (Nat.add_le_add_left hb a) start) h

theorem lidle_new {st : LState} {name an ty b rest ft} (h : LIdle st (.cons name an ty (some (b + 1)) rest))
    (hbase : ty.bitBase = some ft) : st.bitsRemaining = 0 ∨ some ft ≠ st.bitsType :=
  h.imp id fun h => hbase ▸ h

theorem ridle_new {bbR : BitBuf} {name an ty b rest ft} (h : RIdle bbR (.cons name an ty (some (b + 1)) rest))
    (hbase : ty.bitBase = some ft) : bbR.remaining = 0 ∨ bbR.ty ≠ some ft :=
  h.imp id fun h => hbase ▸ h

theorem idle_nil (cfg : Cfg) (al : Bool) : IdleFaithful cfg al .nil := by
  intro st total sa offs hlay _ o ho
  rw [layout_nil, ho] at hlay
  cases hlay
  refine ⟨0, rfl, by rw [fieldsMaskB_nil, flushMask_none]; rfl, fun d start bbR _ _ _ => ?_⟩
  rw [fieldsMaskB_nil, flushMask_none]
  exact run_nil cfg al _ d start o bbR

theorem pend_nil (cfg : Cfg) (al : Bool) : PendFaithful cfg al .nil := by
  intro st total sa offs hlay ft fsz k uo hP M
  rw [layout_nil, hP.loff] at hlay
  cases hlay
  refine ⟨fsz, Nat.le_refl _, rfl, by rw [fieldsMaskB_nil, flushMask_some]; exact unitBytes_length _ _ _,
    fun d start bbR bbW hlen _ _ hU => ?_⟩
  rw [fieldsMaskB_nil, flushMask_some]
  exact run_nil_pend al _ hU hP.size ((Nat.add_assoc ..).symm ▸ hlen)

theorem sAlign_dvd_member {cfg : Cfg} {al : Bool} {ty : Ty} {start o p : Nat} (hp2 : al = true → ty.pow2Aligned cfg)
    (hs : al = true → ty.alignment cfg ∣ start) (hp : alignTo al o (ty.alignment cfg) = o + p) (ha : al = true) :
    sAlign cfg ty ∣ start + (o + p) := by
  subst ha
  rw [← hp]
  exact Nat.dvd_trans (sAlign_dvd_alignment cfg ty) (Nat.dvd_add (hs rfl) (alignTo_dvd (alignment_p2 cfg ty (hp2 rfl)) o))

theorem idle_cons_nb {cfg : Cfg} {al : Bool} {name an ty rest} (hH : FieldsHyps cfg al (.cons name an ty none rest))
    (IHt : TyFaithful cfg al ty) (IHi : IdleFaithful cfg al rest) : IdleFaithful cfg al (.cons name an ty none rest) := by
  intro st total sa offs hlay _ o ho
  have hT := hH.head
  obtain ⟨k, hk⟩ := layout_member_size hlay
  obtain ⟨hml, hty⟩ := IHt k hk
  rw [layout_cons_nobits cfg al name an ty none rest st rfl, alignedOff_some ho] at hlay
  obtain ⟨⟨sz', sa', offs'⟩, hlay', heq⟩ := bind_ok hlay
  cases heq
  obtain ⟨p, hp⟩ := Nat.exists_eq_add_of_le (le_alignTo al o (ty.alignment cfg))
  rw [hp]
  obtain ⟨n, htot, hmlen, hrun⟩ := IHi (stNext cfg al ty st) total sa offs' hlay' (lidle_of_rem _ rfl rest) (o + p + k)
    (by simp only [stNext, alignedOff_some ho, hk, hp, Option.bind, Option.map])
  have hmask : fieldsMaskB cfg (.cons name an ty none rest) (some (o + p) :: offs') o none =
      zeros p ++ (maskB cfg ty ++ fieldsMaskB cfg rest offs' (o + p + k) none) := by
    rw [fieldsMaskB_nb, flushMask_none, List.headD_cons, List.drop_one, List.tail_cons, Option.getD_some,
      Nat.add_sub_cancel_left, hml, List.nil_append, List.append_assoc]
  rw [hmask]
  refine ⟨p + (k + n), by rw [htot, Nat.add_assoc, Nat.add_assoc],
    by rw [List.length_append, List.length_append, length_zeros, hml, hmlen], fun d start bbR hlen hdv _ => ?_⟩
  rw [← Nat.add_assoc o] at hlen
  have hl : start + (o + p) + k ≤ d.length := len_le (Nat.le_add_right k n) hlen
  rw [← Nat.add_assoc (o + p)] at hlen
  exact run_cons_nb (hty d _ hl (sAlign_dvd_member hT.p2 (fun ha => (hdv ha).1) hp)) hml hl
    (hrun d start _ hlen (fun ha => (hdv ha).2) (ridle_of_rem _ rfl rest))

/-- A pending mask unit in front of a member list that starts between units is emitted first. The layout hypotheses only
    serve to exclude a first member that would continue the unit (its recorded offset is `some _`). -/
theorem mask_flush {cfg : Cfg} {al : Bool} {fs : Fields} (hH : FieldsHyps cfg al fs) {st : LState} {total sa offs}
    (hlay : Fields.layout cfg al fs st = .ok (some total, sa, offs)) (hli : LIdle st fs) {o : Nat} (ho : st.offset = some o)
    (cur : Nat) (p : PendMask) :
    fieldsMaskB cfg fs offs cur (some p) = flushMask cfg.endian (some p) ++ fieldsMaskB cfg fs offs cur none := by
  rcases fs with _ | ⟨name, an, ty, _ | _ | b, rest⟩
  · rw [fieldsMaskB_nil, fieldsMaskB_nil, flushMask_none, List.append_nil]
  · obtain ⟨k, hk⟩ := layout_member_size hlay
    rw [layout_cons_nobits cfg al name an ty none rest st rfl, alignedOff_some ho] at hlay
    obtain ⟨⟨sz', sa', offs'⟩, _, heq⟩ := bind_ok hlay
    cases heq
    simp only [fieldsMaskB_nb, flushMask_none, List.nil_append, List.append_assoc]
  · have hS := hH.frag
    simp [Fields.fragSB] at hS
  · obtain ⟨_, ft, fsz, hbase, _, hsz, _⟩ := hH.bit
    rw [layout_bit_new cfg al name an ty b rest st ft fsz hbase hsz (lidle_new hli hbase), alignedOff_some ho] at hlay
    split at hlay
    · cases hlay
    obtain ⟨⟨sz', sa', offs'⟩, _, heq⟩ := bind_ok hlay
    cases heq
    simp only [fieldsMaskB_bit_new cfg name an ty b rest _ offs' cur _ ft fsz hbase hsz, flushMask_none, List.nil_append,
      List.append_assoc]

/-- the bits left in a unit after a field that fits, as the layout computes them -/
theorem bits_left {W k w : Nat} {r : Int} (hr : r = ((W - k : Nat) : Int) - ((w : Nat) : Int)) (h0 : ¬ r < 0) (hk : k ≤ W) :
    k + w ≤ W ∧ r = ((W - (k + w) : Nat) : Int) := by
  omega

/-- one bit-field of `w` bits in the unit at `uo`: the remaining members start between units if it fills the unit, inside
    it if not. `M'`, `K` are arguments so that callers pass mask and bit count in the shape of their own goal
    (`PendMask.first`). -/
theorem bit_step {cfg : Cfg} {al : Bool} {rest : Fields} (hH : FieldsHyps cfg al rest) (IHi : IdleFaithful cfg al rest)
    (IHp : PendFaithful cfg al rest) {st1 : LState} {total sa offs'}
    (hlay : Fields.layout cfg al rest st1 = .ok (some total, sa, offs')) {ft : Scalar} {fsz k w uo : Nat}
    (hi : Scalar.isInt ft = true) (hsz : ft.size = some fsz) (hbt : st1.bitsType = some ft)
    (hbr : st1.bitsRemaining = ((8 * fsz - k : Nat) : Int) - ((w : Nat) : Int)) (hfit : ¬ st1.bitsRemaining < 0)
    (hk : k ≤ 8 * fsz) (ho : st1.offset = some (uo + fsz)) (hbfo : st1.bitsFieldOffset = some uo) (hual : al = true → fsz ∣ uo)
    (M M' : Nat) (hM : M' = M ||| slotMask (slotLo cfg.endian (8 * fsz) k w) w) (K : Nat) (hK : K = k + w) :
    ∃ n, fsz ≤ n ∧ total = alignTo al (uo + n) sa ∧
      (fieldsMaskB cfg rest offs' (uo + fsz) (some ⟨fsz, K, M'⟩)).length = n ∧
      ∀ (d : Bytes) (start : Nat) (bbR bbW : BitBuf), start + (uo + n) ≤ d.length →
        (al = true → allAlignDvd cfg start rest) → (al = true → fsz ∣ start) →
        Units cfg d (start + uo) ft fsz k M bbR bbW →
        BitRun cfg al rest offs' d start uo fsz w n bbR bbW (fieldsMaskB cfg rest offs' (uo + fsz) (some ⟨fsz, K, M'⟩)) := by
  subst hM hK
  obtain ⟨hkw, hbr⟩ := bits_left hbr hfit hk
  by_cases hex : k + w = 8 * fsz
  · have hli : LIdle st1 rest := lidle_of_rem st1 (by rw [hbr, hex, Nat.sub_self]; rfl) rest
    obtain ⟨n, htot, hmlen, hrun⟩ := IHi st1 total sa offs' hlay hli (uo + fsz) ho
    rw [mask_flush hH hlay hli ho, flushMask_some]
    refine ⟨fsz + n, Nat.le_add_right _ _, by rw [htot, Nat.add_assoc],
      by rw [List.length_append, hmlen, unitBytes_length], fun d start bbR bbW hlen hdv _ hU => ?_⟩
    exact bitRun_full hU hsz (len_le (Nat.le_add_right fsz n) hlen) hex fun bbR2 hri =>
      hrun d start bbR2 (Nat.add_assoc uo fsz n ▸ hlen) hdv hri
  · obtain ⟨n, hle, htot, hmlen, hrun⟩ := IHp st1 total sa offs' hlay ft fsz (k + w) uo
      { isInt := hi, size := hsz, lty := hbt, lrem := hbr, lt := Nat.lt_of_le_of_ne hkw hex, loff := ho, lbfo := hbfo,
        ual := hual } (M ||| slotMask (slotLo cfg.endian (8 * fsz) k w) w)
    exact ⟨n, hle, htot, hmlen, fun d start bbR bbW hlen hdv hds hU =>
      bitRun_part hU (Nat.lt_of_le_of_ne hkw hex) fun bbR2 bbW2 hU2 => hrun d start bbR2 bbW2 hlen hdv hds hU2⟩

theorem idle_cons_bit {cfg : Cfg} {al : Bool} {name an ty b rest}
    (hH : FieldsHyps cfg al (.cons name an ty (some (b + 1)) rest)) (IHi : IdleFaithful cfg al rest) (IHp : PendFaithful cfg al rest) :
    IdleFaithful cfg al (.cons name an ty (some (b + 1)) rest) := by
  intro st total sa offs hlay hli o ho
  obtain ⟨hok, ft, fsz, hbase, hint, hsz, hnat⟩ := hH.bit
  rw [layout_bit_new cfg al name an ty b rest st ft fsz hbase hsz (lidle_new hli hbase), alignedOff_some ho] at hlay
  split at hlay
  · cases hlay
  rename_i hfit
  obtain ⟨⟨sz', sa', offs'⟩, hlay', heq⟩ := bind_ok hlay
  cases heq
  obtain ⟨p, hp⟩ := Nat.exists_eq_add_of_le (le_alignTo al o (ty.alignment cfg))
  rw [hp]
  have hual : al = true → fsz ∣ o + p := fun ha => by
    rw [(hnat ha).2, ← hp]; subst ha; exact alignTo_dvd (hnat rfl).1 o
  obtain ⟨n, hle, htot, hmlen, hstep⟩ := bit_step hH.tail IHi IHp hlay' (k := 0) (w := b + 1) (uo := o + p) hint hsz rfl
    (by simp only [stNew, Nat.mul_comm fsz 8, Nat.sub_zero]) hfit (Nat.zero_le _)
    (by simp only [stNew, alignedOff_some ho, hp, Option.map]) (by simp only [stNew, alignedOff_some ho, hp]) hual 0 _
    (Nat.zero_or _).symm _ (Nat.zero_add _).symm
  have hmask : fieldsMaskB cfg (.cons name an ty (some (b + 1)) rest) (some (o + p) :: offs') o none =
      zeros p ++ fieldsMaskB cfg rest offs' (o + p + fsz)
        (some ⟨fsz, b + 1, slotMask (slotLo cfg.endian (8 * fsz) 0 (b + 1)) (b + 1)⟩) := by
    rw [fieldsMaskB_bit_new cfg name an ty b rest (o + p) offs' o none ft fsz hbase hsz, flushMask_none,
      Nat.add_sub_cancel_left, List.nil_append]
    rfl
  rw [hmask]
  refine ⟨p + n, by rw [htot, Nat.add_assoc], by rw [List.length_append, length_zeros, hmlen],
    fun d start bbR hlen hdv hri => ?_⟩
  rw [← Nat.add_assoc o] at hlen
  exact run_bit_new hok hbase hint hsz (len_le hle hlen) (ridle_new hri hbase)
    fun bbR1 bbW1 hU => hstep d start bbR1 bbW1 hlen (fun ha => (hdv ha).2)
      (fun ha => by rw [(hnat ha).2]; exact (hdv ha).1) hU

theorem alignTo_fixed {a : Nat} (al : Bool) (x : Nat) (h : al = true → IsP2 a ∧ a ∣ x) : alignTo al x a = x := by
  cases al with
  | false => rfl
  | true => exact alignTo_of_dvd (h rfl).1 true x fun _ => (h rfl).2

theorem pend_cons {cfg : Cfg} {al : Bool} {name an ty bits rest} (hH : FieldsHyps cfg al (.cons name an ty bits rest))
    (Hidle : IdleFaithful cfg al (.cons name an ty bits rest)) (IHi : IdleFaithful cfg al rest) (IHp : PendFaithful cfg al rest) :
    PendFaithful cfg al (.cons name an ty bits rest) := by
  intro st total sa offs hlay ft fsz k uo hPd M
  by_cases hsame : isBitW bits = true ∧ ty.bitBase = some ft
  · -- a bit-field of the pending unit's storage type: the unit continues
    obtain ⟨hb, hbase⟩ := hsame
    rcases bits with _ | _ | b
    · cases hb
    · cases hb
    obtain ⟨hok, ft', fsz', hb', _, hs', hfsz⟩ := hH.bit
    rw [hbase] at hb'; cases hb'
    rw [hPd.size] at hs'; cases hs'
    have hrem : st.bitsRemaining ≠ 0 := by
      rw [hPd.lrem]; exact fun h => Nat.sub_ne_zero_of_lt hPd.lt (Int.ofNat_eq_zero.mp h)
    rw [layout_bit_cont cfg al name an ty b rest st ft fsz hbase hPd.size hrem hPd.lty (by rw [hPd.loff, hPd.lbfo]; rfl)
      fun o ho => alignTo_fixed al o fun ha => ⟨(hfsz ha).1, by
        cases hPd.loff.symm.trans ho
        rw [← (hfsz ha).2]; exact Nat.dvd_add (hPd.ual ha) (Nat.dvd_refl _)⟩] at hlay
    split at hlay
    · cases hlay
    rename_i hfit
    obtain ⟨⟨sz', sa', offs'⟩, hlay', heq⟩ := bind_ok hlay
    cases heq
    obtain ⟨n, hle, htot, hmlen, hstep⟩ := bit_step hH.tail IHi IHp hlay' (k := k) (w := b + 1) hPd.isInt hPd.size hPd.lty
      (by simp only [stCont, hPd.lrem]) hfit (Nat.le_of_lt hPd.lt) hPd.loff hPd.lbfo hPd.ual M _ rfl _ rfl
    rw [fieldsMaskB_bit_cont cfg name an ty b rest offs' (uo + fsz) _ ft fsz hbase hPd.size]
    refine ⟨n, hle, htot, hmlen, fun d start bbR bbW hlen hdv hds hU => ?_⟩
    have hd : al = true → ty.alignment cfg ∣ start + uo := fun ha => by
      rw [← (hfsz ha).2]; exact Nat.dvd_add (hds ha) (hPd.ual ha)
    exact run_bit_cont hok hbase hPd.size hU hPd.lt
      (fun ha => padNat_of_dvd (hfsz ha).1 _ (by
        rw [← Nat.add_assoc]; exact Nat.dvd_add (hd ha) (by rw [← (hfsz ha).2]; exact Nat.dvd_refl _)))
      (fun ha => padNat_of_dvd (hfsz ha).1 _ (hd ha))
      (hstep d start bbR bbW hlen (fun ha => (hdv ha).2) hds hU)
  · -- anything else: the unit is flushed first
    have hne : isBitW bits = false ∨ ty.bitBase ≠ some ft := by
      by_cases h1 : isBitW bits = true
      · exact Or.inr fun h2 => hsame ⟨h1, h2⟩
      · exact Or.inl (by simpa using h1)
    have hli : LIdle st (.cons name an ty bits rest) := lidle_of_ne hPd.lty hne
    obtain ⟨n, htot, hmlen, hrun⟩ := Hidle st total sa offs hlay hli (uo + fsz) hPd.loff
    rw [mask_flush hH hlay hli hPd.loff, flushMask_some]
    refine ⟨fsz + n, Nat.le_add_right _ _, by rw [htot, Nat.add_assoc],
      by rw [List.length_append, hmlen, unitBytes_length], fun d start bbR bbW hlen hdv _ hU => ?_⟩
    exact run_flush hU hPd.size (len_le (Nat.le_add_right fsz n) hlen) hne
      (hrun d start bbR (Nat.add_assoc uo fsz n ▸ hlen) hdv (ridle_of_ne hU.rty hne))

end Cstruct.C02B.Lemmas
