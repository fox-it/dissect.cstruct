/-
  The `BitBuffer` object: writing a sequence of bit-fields and flushing is inverted by reading
  the same requests back — the induction over the sequence, carried by two statements: one for a writer that stands in a
  unit (`LConcl`), one for a writer that holds no unit (`MConcl`).
-/
import Proofs.Lemmas.C06BBWrite
namespace Cstruct.C06.BB
open Cstruct Cstruct.BBuf Cstruct.C06 Cstruct.C06.Lemmas
open Cstruct.C05.Lemmas (encBytes encBytes_length)
open Cstruct.Core.Lemmas (URel urel_step winv_value)

def writeFlush (bb : BB) (ws : List (BTy × Nat × Int)) : Except (Err × BB) BB :=
  match writeAll bb ws with
  | .error e => .error e
  | .ok b => match b.flush with
    | .error e => .error e
    | .ok (b', _) => .ok b'

def ValsFit (ws : List (BTy × Nat × Int)) : Prop := ∀ p ∈ ws, 0 ≤ p.2.2 ∧ p.2.2 < 2 ^ p.2.1

/-- the writer stands in a unit of type `t` (`n` bytes) with `k` bits used that spell the number `a` -/
structure InUnit (wb : BB) (t : BTy) (n k a : Nat) : Prop where
  ty : wb.ty = some t
  size : t.size = some n
  klt : k < 8 * n
  rem : wb.remaining = ((8 * n - k : Nat) : Int)
  alt : a < 2 ^ k
  inv : WriteInv wb.endian (8 * n) k a { ty := none, buffer := wb.buffer, remaining := 8 * n - k }
  inb : wb.stream.pos ≤ wb.stream.data.length

/-- the reader stands in a unit of type `t` that it loaded as `U`, `k` bits handed out, on content `D` at position `p` -/
structure RInUnit (rb : BB) (e : Endian) (t : BTy) (n k : Nat) (U : Int) (D : Bytes) (p : Nat) : Prop where
  ty : rb.ty = some t
  rem : rb.remaining = ((8 * n - k : Nat) : Int)
  endian : rb.endian = e
  stream : rb.stream = { data := D, pos := p }
  inv : ReadInv e (8 * n) U k { ty := none, buffer := rb.buffer, remaining := 8 * n - k }

/-- what a run of writes ending in a flush leaves behind -/
structure Post (wb wbF : BB) : Prop where
  idle : Idle wbF
  endian : wbF.endian = wb.endian
  inb : wbF.stream.pos ≤ wbF.stream.data.length
  mono : wb.stream.pos ≤ wbF.stream.pos
  pre : wbF.stream.data.take wb.stream.pos = wb.stream.data.take wb.stream.pos
  suf : wbF.stream.data.drop wbF.stream.pos = wb.stream.data.drop wbF.stream.pos

/-- the reader gets the values back and ends where the writer ended -/
def ReadsBack (rb : BB) (ws : List (BTy × Nat × Int)) (wbF : BB) : Prop :=
  ∃ rbF, readAll rb (requests ws) = .ok (rbF, values ws) ∧ rbF.stream = wbF.stream

/-- the reader's next read loads a unit -/
def Reloads (rb : BB) : List (BTy × Nat × Int) → Prop
  | [] => True
  | (t, _, _) :: _ => rb.remaining = 0 ∨ rb.ty ≠ some t

/-- the claim for a run started on a writer that holds no unit -/
def MConcl (wb : BB) (ws : List (BTy × Nat × Int)) : Prop :=
  ∃ wbF, writeFlush wb ws = .ok wbF ∧ Post wb wbF ∧
    ∀ rb, rb.endian = wb.endian → rb.stream = { data := wbF.stream.data, pos := wb.stream.pos } → Reloads rb ws →
      ReadsBack rb ws wbF

/-- the claim for a writer that stands in a unit. The number `F` the unit will be flushed as is only known once the unit
    is complete: it is quantified, tied to the bits accumulated so far by `URel`, and the reader's unit to it modulo `2^(8n)`. -/
def LConcl (wb : BB) (t : BTy) (n k a : Nat) (ws : List (BTy × Nat × Int)) : Prop :=
  ∃ wbF, writeFlush wb ws = .ok wbF ∧ Post wb wbF ∧
    ∃ F, F < 2 ^ (8 * n) ∧ sread wbF.stream.data wb.stream.pos n = encBytes wb.endian n F ∧ URel wb.endian (8 * n) k a F ∧
      ∀ rb U, U % ((2 ^ (8 * n) : Nat) : Int) = (F : Int) →
        RInUnit rb wb.endian t n k U wbF.stream.data (wb.stream.pos + n) → ReadsBack rb ws wbF

/-- the induction hypothesis: both statements for a sequence -/
def PAll (ws : List (BTy × Nat × Int)) : Prop :=
  (∀ wb t n k a, InUnit wb t n k a → Fits (some t) (8 * n - k) (requests ws) → ValsFit ws → LConcl wb t n k a ws) ∧
  (∀ wb, Idle wb → wb.stream.pos ≤ wb.stream.data.length → Fits none 0 (requests ws) → ValsFit ws → MConcl wb ws)

theorem post_refl (wb : BB) (h : Idle wb) (hin : wb.stream.pos ≤ wb.stream.data.length) : Post wb wb :=
  ⟨h, rfl, hin, Nat.le_refl _, rfl, rfl⟩

theorem post_congr {wb wb1 wbF : BB} (he : wb1.endian = wb.endian) (hs : wb1.stream = wb.stream) (h : Post wb1 wbF) :
    Post wb wbF :=
  ⟨h.idle, h.endian.trans he, h.inb, hs ▸ h.mono, hs ▸ h.pre, hs ▸ h.suf⟩

/-- `wb1` is `wb` after its unit of `n` bytes was flushed as the number `F` -/
structure Flushed (wb wb1 : BB) (n F : Nat) : Prop where
  idle : Idle wb1
  endian : wb1.endian = wb.endian
  stream : wb1.stream = wb.stream.write (encBytes wb.endian n F)

theorem Flushed.pos {wb wb1 : BB} {n F : Nat} (h : Flushed wb wb1 n F) (hin : wb.stream.pos ≤ wb.stream.data.length) :
    wb1.stream.pos = wb.stream.pos + n := by
  rw [h.stream, write_pos _ _ hin, encBytes_length]

theorem Flushed.inb {wb wb1 : BB} {n F : Nat} (h : Flushed wb wb1 n F) (hin : wb.stream.pos ≤ wb.stream.data.length) :
    wb1.stream.pos ≤ wb1.stream.data.length := by
  rw [h.stream]; exact write_inb _ _ hin

theorem post_flush {wb wb1 wbF : BB} {n F : Nat} (hf : Flushed wb wb1 n F) (hin : wb.stream.pos ≤ wb.stream.data.length)
    (hp : Post wb1 wbF) :
    Post wb wbF ∧ sread wbF.stream.data wb.stream.pos n = encBytes wb.endian n F := by
  have hpos := hf.pos hin
  have hmono := hp.mono
  have hpre1 := hp.pre
  rw [hpos] at hpre1 hmono
  refine ⟨⟨hp.idle, hp.endian.trans hf.endian, hp.inb, Nat.le_trans (Nat.le_add_right _ _) hmono, ?_, ?_⟩, ?_⟩
  · rw [take_of_take_eq _ _ wb.stream.pos (wb.stream.pos + n) (Nat.le_add_right _ _) hpre1, hf.stream,
      write_take _ _ hin]
  · have h2 := write_drop wb.stream (encBytes wb.endian n F) hin
    rw [← hf.stream, hpos, encBytes_length] at h2
    rw [hp.suf]
    exact drop_of_drop_eq _ _ (wb.stream.pos + n) wbF.stream.pos hmono h2
  · have := sread_write wb.stream (encBytes wb.endian n F) hin
    rw [encBytes_length] at this
    rw [sread_of_take_eq _ _ _ _ hpre1, hf.stream, this]

theorem fits_zero (ty : Option BTy) (rs : List (BTy × Nat)) (h : Fits ty 0 rs) : Fits none 0 rs := by
  cases rs with
  | nil => trivial
  | cons x r =>
    simp only [Fits, true_or, if_true] at h ⊢
    exact h

theorem fits_new (ty : Option BTy) (rem : Nat) (t : BTy) (w : Nat) (r : List (BTy × Nat)) (h : rem = 0 ∨ ty ≠ some t) :
    Fits ty rem ((t, w) :: r) → Fits none 0 ((t, w) :: r) := by
  intro hf
  simp only [Fits, if_pos h] at hf
  simp only [Fits, true_or, if_true]
  exact hf

theorem valsFit_tail {x : BTy × Nat × Int} {r : List (BTy × Nat × Int)} (h : ValsFit (x :: r)) : ValsFit r :=
  fun p hp => h p (List.mem_cons_of_mem _ hp)

theorem writeFlush_cons {wb wb1 : BB} {t : BTy} {w : Nat} {v : Int} (r : List (BTy × Nat × Int))
    (h : wb.write t v w = .ok (wb1, ())) : writeFlush wb ((t, w, v) :: r) = writeFlush wb1 r := by
  simp only [writeFlush, writeAll, h]

theorem writeFlush_congr {wb wb1 : BB} {t : BTy} {w : Nat} {v : Int} (r : List (BTy × Nat × Int))
    (h : wb.write t v w = wb1.write t v w) : writeFlush wb ((t, w, v) :: r) = writeFlush wb1 ((t, w, v) :: r) := by
  simp only [writeFlush, writeAll, h]

theorem readsBack_cons {rb rb1 wbF : BB} {t : BTy} {w : Nat} {v : Int} {r : List (BTy × Nat × Int)}
    (h : rb.read t w = .ok (rb1, v)) (hr : ReadsBack rb1 r wbF) : ReadsBack rb ((t, w, v) :: r) wbF := by
  obtain ⟨rbF, h1, h2⟩ := hr
  refine ⟨rbF, ?_, h2⟩
  simp only [requests, values, List.map_cons, readAll, h]
  simp only [requests, values] at h1
  simp only [h1]

theorem readsBack_congr {rb rb1 wbF : BB} {t : BTy} {w : Nat} {v : Int} {r : List (BTy × Nat × Int)}
    (h : rb.read t w = rb1.read t w) (hr : ReadsBack rb1 ((t, w, v) :: r) wbF) : ReadsBack rb ((t, w, v) :: r) wbF := by
  obtain ⟨rbF, h1, h2⟩ := hr
  refine ⟨rbF, ?_, h2⟩
  simp only [requests, values, List.map_cons, readAll] at h1 ⊢
  rw [h]; exact h1


theorem flush_unit (wb : BB) (t : BTy) (n k a : Nat) (hu : InUnit wb t n k a) :
    ∃ F wb1, wb.flush = .ok (wb1, ()) ∧ Flushed wb wb1 n F ∧ F < 2 ^ (8 * n) ∧ URel wb.endian (8 * n) k a F := by
  obtain ⟨F, hbuf, hF, hrel⟩ := winv_value wb.endian n k a _ hu.inv hu.alt (Nat.le_of_lt hu.klt)
  exact ⟨F, _, flush_ok wb t n F hu.ty hu.size hbuf hF, ⟨⟨rfl, rfl, rfl⟩, rfl, rfl⟩, hF, hrel⟩

theorem inUnit_put (wb : BB) (t : BTy) (n k a w m : Nat) (hu : InUnit wb t n k a) (hw : k + w ≤ 8 * n) (hm : m < 2 ^ w) :
    ∃ buf, WriteInv wb.endian (8 * n) (k + w) (acc wb.endian k a m w)
        { ty := none, buffer := buf, remaining := 8 * n - (k + w) } ∧
      wb.write t (m : Int) w =
        if 8 * n - (k + w) = 0 then
          ({ wb with buffer := buf, remaining := ((8 * n - (k + w) : Nat) : Int) } : BB).flush
        else .ok ({ wb with buffer := buf, remaining := ((8 * n - (k + w) : Nat) : Int) }, ()) := by
  have hklt := hu.klt
  obtain ⟨b, hput, hinv1⟩ := put_step wb.endian n k a w m _ hu.inv hu.alt hm hw
  have hbrem : b.remaining = 8 * n - (k + w) := hinv1.1
  have hwr := write_eq_put wb t n (8 * n - k) w (m : Int) b hu.ty hu.size hu.rem (by omega) (by omega) hput
  rw [hbrem] at hwr
  exact ⟨b.buffer, by rw [← hbrem]; exact hinv1, hwr⟩

theorem inUnit_write_last (wb : BB) (t : BTy) (n k a w m : Nat) (hu : InUnit wb t n k a) (hw : k + w = 8 * n)
    (hm : m < 2 ^ w) :
    ∃ F wb1, wb.write t (m : Int) w = .ok (wb1, ()) ∧ Flushed wb wb1 n F ∧ F < 2 ^ (8 * n) ∧
      URel wb.endian (8 * n) (k + w) (acc wb.endian k a m w) F := by
  obtain ⟨buf, hinv, hwr⟩ := inUnit_put wb t n k a w m hu (Nat.le_of_eq hw) hm
  obtain ⟨F, hbuf, hF, hrelF⟩ :=
    winv_value wb.endian n (k + w) _ _ hinv (acc_lt wb.endian k a m w hu.alt hm) (Nat.le_of_eq hw)
  rw [if_pos (by omega), flush_ok ({ wb with buffer := buf, remaining := ((8 * n - (k + w) : Nat) : Int) } : BB) t n F
    hu.ty hu.size hbuf hF] at hwr
  exact ⟨F, _, hwr, ⟨⟨rfl, rfl, rfl⟩, rfl, rfl⟩, hF, hrelF⟩

theorem inUnit_write_more (wb : BB) (t : BTy) (n k a w m : Nat) (hu : InUnit wb t n k a) (hw : k + w < 8 * n)
    (hm : m < 2 ^ w) :
    ∃ wb1, wb.write t (m : Int) w = .ok (wb1, ()) ∧ InUnit wb1 t n (k + w) (acc wb.endian k a m w) ∧
      wb1.endian = wb.endian ∧ wb1.stream = wb.stream := by
  obtain ⟨buf, hinv, hwr⟩ := inUnit_put wb t n k a w m hu (Nat.le_of_lt hw) hm
  rw [if_neg (by omega)] at hwr
  exact ⟨_, hwr, ⟨hu.ty, hu.size, hw, rfl, acc_lt wb.endian k a m w hu.alt hm, hinv, hu.inb⟩, rfl, rfl⟩

theorem rinUnit_read {rb : BB} {e : Endian} {t : BTy} {n k : Nat} {U : Int} {D : Bytes} {p : Nat}
    (hr : RInUnit rb e t n k U D p) (a m w F : Nat) (ha : a < 2 ^ k) (hm : m < 2 ^ w) (hw0 : 0 < w) (hw : k + w ≤ 8 * n)
    (hU : U % ((2 ^ (8 * n) : Nat) : Int) = (F : Int)) (hrel : URel e (8 * n) (k + w) (acc e k a m w) F) :
    ∃ rb1, rb.read t w = .ok (rb1, (m : Int)) ∧ RInUnit rb1 e t n (k + w) U D p := by
  obtain ⟨_, hslot⟩ := urel_step e (8 * n) k a m w F ha hm hw hrel
  have hinvr := hr.inv
  rw [← hr.endian] at hinvr
  obtain ⟨buf, hex, hinv'⟩ := extract_ok rb (8 * n) k w U hw hinvr
  have hval : slotVal U (slotLo rb.endian (8 * n) k w) w = (m : Int) := by
    rw [hr.endian, slot_of_emod U F (8 * n) _ w hU (slotLo_le e (8 * n) k w hw), hslot]
  rw [hval] at hex
  refine ⟨_, (read_cont rb t w (8 * n - k) hr.ty hr.rem (by omega)).trans hex, hr.ty, rfl, hr.endian, hr.stream, ?_⟩
  rw [← hr.endian]; exact hinv'


theorem step_cont (t : BTy) (w : Nat) (v : Int) (r : List (BTy × Nat × Int)) (ih : PAll r)
    (wb : BB) (n k a : Nat) (hu : InUnit wb t n k a) (hw0 : 0 < w) (hw : w ≤ 8 * n - k)
    (hfits : Fits (some t) (8 * n - k - w) (requests r)) (hvals : ValsFit ((t, w, v) :: r)) :
    LConcl wb t n k a ((t, w, v) :: r) := by
  obtain ⟨hv0, hvlt⟩ := hvals (t, w, v) List.mem_cons_self
  simp only at hv0 hvlt
  obtain ⟨m, rfl⟩ := Int.eq_ofNat_of_zero_le hv0
  have hm : m < 2 ^ w := by exact_mod_cast hvlt
  have hklt := hu.klt
  have hkw : k + w ≤ 8 * n := by omega
  rw [Nat.sub_sub] at hfits
  by_cases hfull : k + w = 8 * n
  · -- the unit is exhausted: the write flushes it
    obtain ⟨F, wb1, hwr, hfl, hF, hrelF⟩ := inUnit_write_last wb t n k a w m hu hfull hm
    rw [hfull, Nat.sub_self] at hfits
    obtain ⟨wbF, hwf, hpost, hback⟩ :=
      ih.2 wb1 hfl.idle (hfl.inb hu.inb) (fits_zero _ _ hfits) (valsFit_tail hvals)
    obtain ⟨hpost', hsr⟩ := post_flush hfl hu.inb hpost
    refine ⟨wbF, (writeFlush_cons r hwr).trans hwf, hpost', F, hF, hsr,
      (urel_step wb.endian (8 * n) k a m w F hu.alt hm hkw hrelF).1, ?_⟩
    intro rb U hU hr
    obtain ⟨rb1, hread, hr1⟩ := rinUnit_read hr a m w F hu.alt hm hw0 hkw hU hrelF
    refine readsBack_cons hread (hback rb1 (hr1.endian.trans hfl.endian.symm) (by rw [hr1.stream, hfl.pos hu.inb]) ?_)
    cases r with
    | nil => trivial
    | cons x rr => exact Or.inl (by rw [hr1.rem, hfull, Nat.sub_self]; rfl)
  · -- the unit goes on
    obtain ⟨wb1, hwr, hu1, he1, hs1⟩ := inUnit_write_more wb t n k a w m hu (by omega) hm
    obtain ⟨wbF, hwf, hpost, F, hF, hsr, hrelF, hback⟩ := ih.1 wb1 t n (k + w) _ hu1 hfits (valsFit_tail hvals)
    rw [he1] at hsr hrelF hback
    rw [hs1] at hsr hback
    refine ⟨wbF, (writeFlush_cons r hwr).trans hwf, post_congr he1 hs1 hpost, F, hF, hsr,
      (urel_step wb.endian (8 * n) k a m w F hu.alt hm hkw hrelF).1, ?_⟩
    intro rb U hU hr
    obtain ⟨rb1, hread, hr1⟩ := rinUnit_read hr a m w F hu.alt hm hw0 hkw hU hrelF
    exact readsBack_cons hread (hback rb1 U hU hr1)


/-- the reader's first read loads the flushed bytes; their value agrees with `F` modulo `2^(8n)` also when the storage
    type decodes them as a signed number (`unitVal_emod`) -/
theorem step_idle (t : BTy) (w : Nat) (v : Int) (r : List (BTy × Nat × Int)) (ih : PAll r)
    (wb : BB) (hidle : Idle wb) (hin : wb.stream.pos ≤ wb.stream.data.length)
    (hfits : Fits none 0 (requests ((t, w, v) :: r))) (hvals : ValsFit ((t, w, v) :: r)) :
    MConcl wb ((t, w, v) :: r) := by
  simp only [requests, List.map_cons, Fits, true_or, if_true] at hfits
  obtain ⟨n, hsz, hw0, hw, hfits'⟩ := hfits
  have hn : n ≠ 0 := by omega
  have hsel : InUnit (selected wb t n) t n 0 0 := by
    refine ⟨rfl, hsz, by omega, by simp only [selected]; omega, Nat.one_pos, ?_, hin⟩
    rw [show (selected wb t n).buffer = 0 from hidle.2.1]
    exact writeInv_init _ _ none
  obtain ⟨wbF, hwf, hpost, F, hF, hsr, hrel, hback⟩ :=
    step_cont t w v r ih (selected wb t n) n 0 0 hsel hw0 hw hfits' hvals
  have hwrite : wb.write t v w = (selected wb t n).write t v w :=
    (write_idle wb t n w v hidle hsz).trans
      (write_cont _ t n w v rfl hsz (by simp only [selected]; omega)).symm
  have hE : (selected wb t n).endian = wb.endian := rfl
  have hS : (selected wb t n).stream = wb.stream := rfl
  rw [hE] at hsr hback
  rw [hS] at hsr hback
  refine ⟨wbF, (writeFlush_congr r hwrite).trans hwf, post_congr hE hS hpost, ?_⟩
  intro rb hre hrs hrl
  have hlen : rb.stream.pos + n ≤ rb.stream.data.length := by
    rw [hrs]
    exact le_of_sread_length _ _ _ hn (by rw [hsr, encBytes_length])
  have hlrem : (loaded rb t n).remaining = ((n * 8 : Nat) : Int) := by simp only [loaded]; omega
  have hcont := read_cont (loaded rb t n) t w (n * 8) rfl hlrem (by omega)
  apply readsBack_congr ((read_load rb t n w hrl hsz hlen).trans hcont.symm)
  have hbuf : (loaded rb t n).buffer = unitVal wb.endian t (encBytes wb.endian n F) := by
    simp only [loaded, hrs, hre, hsr]
  apply hback (loaded rb t n) _ (unitVal_emod wb.endian t n F hF)
  refine ⟨rfl, by simp only [loaded]; omega, hre, by simp only [loaded, hrs], ?_⟩
  rw [hbuf]
  exact readInv_init _ _ _ none


theorem step_switch (t' : BTy) (w : Nat) (v : Int) (r : List (BTy × Nat × Int))
    (hM : ∀ wb, Idle wb → wb.stream.pos ≤ wb.stream.data.length → Fits none 0 (requests ((t', w, v) :: r)) →
      ValsFit ((t', w, v) :: r) → MConcl wb ((t', w, v) :: r))
    (wb : BB) (t : BTy) (n k a : Nat) (hu : InUnit wb t n k a) (hne : t' ≠ t)
    (hfits : Fits (some t) (8 * n - k) (requests ((t', w, v) :: r))) (hvals : ValsFit ((t', w, v) :: r)) :
    LConcl wb t n k a ((t', w, v) :: r) := by
  have hty : some t ≠ some t' := fun h => hne (Option.some.inj h).symm
  have hfits' : Fits none 0 (requests ((t', w, v) :: r)) := fits_new _ _ _ _ _ (Or.inr hty) hfits
  obtain ⟨n', hsz', _⟩ := id hfits'
  obtain ⟨F, wb1, hfl, hf, hF, hrel⟩ := flush_unit wb t n k a hu
  obtain ⟨n0, rfl⟩ : ∃ n0, n = n0 + 1 := ⟨n - 1, by have := hu.klt; omega⟩
  have hwrite : wb.write t' v w = wb1.write t' v w :=
    (write_switch wb wb1 t t' n0 n' w v hu.ty hu.size (Or.inr (hu.ty ▸ hty)) hfl hsz').trans
      (write_idle wb1 t' n' w v hf.idle hsz').symm
  obtain ⟨wbF, hwf, hpost, hback⟩ := hM wb1 hf.idle (hf.inb hu.inb) hfits' hvals
  obtain ⟨hpost', hsr⟩ := post_flush hf hu.inb hpost
  refine ⟨wbF, (writeFlush_congr r hwrite).trans hwf, hpost', F, hF, hsr, hrel, ?_⟩
  intro rb U _ hr
  exact hback rb (hr.endian.trans hf.endian.symm) (by rw [hr.stream, hf.pos hu.inb]) (Or.inr (hr.ty ▸ hty))


theorem pall : ∀ ws : List (BTy × Nat × Int), PAll ws
  | [] => by
    constructor
    · intro wb t n k a hu _ _
      obtain ⟨F, wb1, hfl, hf, hF, hrel⟩ := flush_unit wb t n k a hu
      obtain ⟨hpost', hsr⟩ := post_flush hf hu.inb (post_refl wb1 hf.idle (hf.inb hu.inb))
      refine ⟨wb1, by simp only [writeFlush, writeAll, hfl], hpost', F, hF, hsr, hrel, ?_⟩
      intro rb U _ hr
      exact ⟨rb, rfl, by rw [hr.stream, ← hf.pos hu.inb]⟩
    · intro wb hidle hin _ _
      refine ⟨wb, by simp only [writeFlush, writeAll, flush_idle wb hidle], post_refl wb hidle hin, ?_⟩
      intro rb _ hrs _
      exact ⟨rb, rfl, hrs⟩
  | (t', w, v) :: r => by
    have ih := pall r
    have hM : ∀ wb, Idle wb → wb.stream.pos ≤ wb.stream.data.length → Fits none 0 (requests ((t', w, v) :: r)) →
        ValsFit ((t', w, v) :: r) → MConcl wb ((t', w, v) :: r) :=
      fun wb hidle hin hf hv => step_idle t' w v r ih wb hidle hin hf hv
    refine ⟨?_, hM⟩
    intro wb t n k a hu hfits hvals
    by_cases hne : t' = t
    · subst hne
      have hklt := hu.klt
      have hc : ¬ (8 * n - k = 0 ∨ some t' ≠ some t') := fun h => h.elim (by omega) (fun h => h rfl)
      simp only [requests, List.map_cons, Fits, if_neg hc] at hfits
      obtain ⟨n', hsz', hw0, hw, hfits'⟩ := hfits
      exact step_cont t' w v r ih wb n k a hu hw0 hw hfits' hvals
    · exact step_switch t' w v r hM wb t n k a hu hne hfits hvals

end Cstruct.C06.BB
