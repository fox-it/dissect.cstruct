/-
  Non-vacuity material for `Proofs/CoreBits.lean`, aligned mode: a concrete aligned big-endian structure whose second
  bit-field unit sits behind a byte of padding, evaluated member by member as in `CoreBitsEx.lean`.
-/
import Proofs.Lemmas.CoreSB
import Proofs.Lemmas.CoreBitsEx
namespace Cstruct.Core.Ex
open Cstruct Cstruct.Core.Lemmas

/-! aligned, big endian: `struct { uint8 a:3; uint16 b:4; uint16 c:12; uint8 e; }` — the second unit is placed at the
    aligned offset 2 after one byte of padding, the structure is padded to 6 bytes -/
def cfgBE : Cfg := { endian := .big, ptr := .pint 4 false, ptrAlign := 4, consts := [] }
def gsE : Fields := .cons "e" false u8 none .nil
def gsC : Fields := .cons "c" false u16 (some 12) gsE
def gsB : Fields := .cons "b" false u16 (some 4) gsC
def gsA : Fields := .cons "a" false u8 (some 3) gsB
def tyG : Ty := .struct true gsA
def wsE : Vals := .cons (.int 7) .nil
def wsC : Vals := .cons (.int 0xABC) wsE
def wsB : Vals := .cons (.int 9) wsC
def wsA : Vals := .cons (.int 5) wsB

theorem gxE : writeFields cfgBE true gsE [some 4] wsE 0 BitBuf.empty 4 = .ok ([7], BitBuf.empty) := by
  rw [gsE, wsE, writeFields_cons_S, u8]
  simp only [Nat.lt_irrefl, if_false, Nat.add_zero, write_sc]
  have : writeScalar cfgBE (.pint 1 false) (.int 7) = .ok [7] := by decide +kernel
  rw [this]
  simp only [Except.bind, writeFields_nil]
  rfl

theorem gxC : writeFields cfgBE true gsC [none, some 4] wsC 0
    { ty := some (.pint 2 false), buffer := 0x9000, remaining := 12 } 2 = .ok ([0x9A, 0xBC, 7], BitBuf.empty) := by
  rw [gsC, wsC, writeFields_bit_cont cfgBE true _ _ _ _ _ _ _ _ 0 2 (.pint 2 false) 2 0xABC _ rfl rfl (Or.inl rfl)
    rfl (by decide) (fun _ => by decide +kernel), putStep]
  have p : BitBuf.put cfgBE.endian { ty := some (.pint 2 false), buffer := 0x9000, remaining := 12 } 2 0xABC (11 + 1) =
      some { ty := some (.pint 2 false), buffer := 0x9ABC, remaining := 0 } := by decide +kernel
  have f : flushBits cfgBE { ty := some (.pint 2 false), buffer := 0x9ABC, remaining := 0 } = .ok [0x9A, 0xBC] := by
    decide +kernel
  rw [p]
  simp only [if_true, f, Except.bind, List.length_cons, List.length_nil, Nat.zero_add, Nat.reduceAdd, gxE]
  rfl

theorem gxB : writeFields cfgBE true gsB [some 2, none, some 4] wsB 0 BitBuf.empty 1 =
    .ok ([0, 0x9A, 0xBC, 7], BitBuf.empty) := by
  rw [gsB, wsB, writeFields_bit_new cfgBE true _ _ _ _ _ _ _ _ _ 0 1 (.pint 2 false) 2 9 rfl rfl (Or.inl rfl), padW, putStep]
  have p : BitBuf.put cfgBE.endian { ty := some (.pint 2 false), buffer := 0, remaining := 2 * 8 } 2 9 (3 + 1) =
      some { ty := some (.pint 2 false), buffer := 0x9000, remaining := 12 } := by decide +kernel
  rw [p]
  simp only [Nat.succ_ne_zero, if_false, Except.bind, List.length_nil, Nat.zero_add, Nat.reduceLT, if_true,
    Nat.reduceSub, zeros, List.replicate, Nat.reduceAdd, gxC]
  rfl

theorem gxA : writeFields cfgBE true gsA [some 0, some 2, none, some 4] wsA 0 BitBuf.empty 0 =
    .ok ([0xA0, 0, 0x9A, 0xBC, 7], BitBuf.empty) := by
  rw [gsA, wsA, writeFields_bit_new cfgBE true _ _ _ _ _ _ _ _ _ 0 0 (.pint 1 false) 1 5 rfl rfl (Or.inl rfl), padW, putStep]
  have p : BitBuf.put cfgBE.endian { ty := some (.pint 1 false), buffer := 0, remaining := 1 * 8 } 1 5 (2 + 1) =
      some { ty := some (.pint 1 false), buffer := 0xA0, remaining := 5 } := by decide +kernel
  rw [p]
  simp only [Nat.succ_ne_zero, if_false, Except.bind, List.length_nil, Nat.add_zero, Nat.lt_irrefl, zeros,
    List.replicate_zero, List.nil_append]
  -- the unit of `a` is still pending; `b` has another storage type: flush, then go on from the idle state
  rw [gsB, wsB, writeFields_flush cfgBE true _ _ _ _ _ _ _ _ 0 _ 0 (.pint 1 false) rfl (Or.inr (by decide))]
  have f : flushBits cfgBE { ty := some (.pint 1 false), buffer := 0xA0, remaining := 5 } = .ok [0xA0] := by decide +kernel
  have h := gxB
  rw [gsB, wsB] at h
  simp only [f, Except.bind, List.length_cons, List.length_nil, Nat.zero_add, h]
  rfl

theorem ex_write_al : write cfgBE tyG (.record wsA) 0 = .ok [0xA0, 0, 0x9A, 0xBC, 7, 0] := by
  have hl : structLayout cfgBE true gsA = .ok (some 6, 2, [some 0, some 2, none, some 4]) := by decide +kernel
  rw [tyG, write_struct, hl]
  simp only [Except.bind, gxA]
  decide +kernel

end Cstruct.Core.Ex
