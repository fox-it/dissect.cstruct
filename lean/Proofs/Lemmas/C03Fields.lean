/-
  The interpreted field loop on one field, in the shape of the equations of `exec`; where the interpreted
  reader is against the compiled stream (`LaMatch`); and the simulation of the slots of one block (`slots_sim`).
-/
import Proofs.Lemmas.C03Slot
namespace Cstruct.Compiler
open Cstruct Cstruct.Core.Lemmas

theorem hdOff_eq (offs : List (Option Nat)) : offs.head?.join = hdOff offs := by
  rcases offs with _ | ⟨_ | o, t⟩ <;> rfl

theorem fieldPos_some (cfg : Cfg) (al : Bool) (ty : Ty) (o start pos : Nat) :
    fieldPos cfg al ty (some o) start pos = start + o := by
  simp [fieldPos]

theorem fieldPos_none (cfg : Cfg) (al : Bool) (ty : Ty) (start pos : Nat) :
    fieldPos cfg al ty none start pos = if al = true then pos + padNat pos (ty.alignment cfg) else pos := by
  simp [fieldPos]

section
variable (cfg : Cfg) (al : Bool) (name : String) (an : Bool) (ty : Ty) (rest : Fields) (offs : List (Option Nat))
  (start : Nat) (bb : BitBuf) (ctx : Ctx) (data : Bytes) (pos : Nat)

theorem readFields_nobits :
    readFields cfg al (.cons name an ty none rest) offs start bb ctx data pos =
      (read cfg ty ctx data (fieldPos cfg al ty (hdOff offs) start pos)).bind fun vp =>
        wrapR (Vals.cons vp.1) [(name, vp.2 - fieldPos cfg al ty (hdOff offs) start pos)]
          (readFields cfg al rest (offs.drop 1) start BitBuf.empty (ctx.set name vp.1) data vp.2) := by
  rw [readFields_cons_nobits _ _ _ _ _ _ _ _ _ _ _ _ _ (by rfl), hdOff_eq]
  cases read cfg ty ctx data (fieldPos cfg al ty (hdOff offs) start pos) with
  | error e => rfl
  | ok vp =>
    simp only [Except.bind]
    cases readFields cfg al rest (offs.drop 1) start BitBuf.empty (ctx.set name vp.1) data vp.2 <;> rfl

theorem readFields_bits (b : Nat) {ft : Scalar} (hbb : ty.bitBase = some ft) :
    readFields cfg al (.cons name an ty (some (b + 1)) rest) offs start bb ctx data pos =
      (loadUnit cfg ft bb data (fieldPos cfg al ty (hdOff offs) start pos)).bind fun r =>
        match r.1.take cfg.endian (b + 1) with
        | none => .error .value
        | some (v, bb2) =>
          wrapR (Vals.cons (bitVal ty v)) []
            (readFields cfg al rest (offs.drop 1) start bb2 (ctx.set name (bitVal ty v)) data r.2) := by
  rw [readFields_cons_bits, hbb, hdOff_eq]
  dsimp only
  cases loadUnit cfg ft bb data (fieldPos cfg al ty (hdOff offs) start pos) with
  | error e => rfl
  | ok r =>
    simp only [Except.bind]
    cases r.1.take cfg.endian (b + 1) with
    | none => rfl
    | some x =>
      obtain ⟨v, bb2⟩ := x
      dsimp only
      cases readFields cfg al rest (offs.drop 1) start bb2 (ctx.set name (bitVal ty v)) data r.2 <;> rfl

theorem readFields_void (hv : isVoid ty = true) :
    readFields cfg al (.cons name an ty none rest) offs start bb ctx data pos =
      wrapR (Vals.cons .void) [(name, 0)]
        (readFields cfg al rest (offs.drop 1) start BitBuf.empty (ctx.set name .void) data
          (fieldPos cfg al ty (hdOff offs) start pos)) := by
  obtain ⟨a, rfl⟩ := isVoid_eq hv
  rw [readFields_nobits, read_sc]
  simp only [readScalar, Except.bind, Nat.sub_self]

end

/-- the compiled stream position against the interpreted reader's, with a pending alignment -/
def LaMatch (la : Option Nat) (cpos ipos : Nat) : Prop :=
  match la with
  | none => ipos = cpos
  | some a => cpos = ipos + padNat ipos a

theorem nextStatic_hd {fs offs} (h : nextStatic fs offs = true) : ∃ o, hdOff offs = some o := by
  unfold nextStatic at h
  split at h
  · exact ⟨_, rfl⟩
  · cases h

/-- where the interpreted reader is after a void field that the validator lets pass, the stream being statically at
    `at_` (if known) -/
theorem void_pos (cfg : Cfg) (al : Bool) (ty : Ty) (fo : Option Nat) (start cpos ipos : Nat) (la at_ : Option Nat)
    (hat : ∀ k, at_ = some k → cpos = start + k)
    (hD : fo ≠ none ∨ LaMatch la cpos ipos) (hok : voidOK cfg al ty fo at_ = true)
    (hla : at_ ≠ none → ∀ a', la = some a' → IsP2 a' ∧ a' ∣ cpos) :
    LaMatch la cpos (fieldPos cfg al ty fo start ipos) := by
  cases fo with
  | some o =>
    have hat' : at_ = some o := by simpa [voidOK] using hok
    rw [fieldPos_some, ← hat o hat']
    cases la with
    | none => rfl
    | some a' =>
      obtain ⟨h1, h2⟩ := hla (by rw [hat']; simp) a' rfl
      simp only [LaMatch, padNat_of_dvd h1 h2, Nat.add_zero]
  | none =>
    have hD' : LaMatch la cpos ipos := hD.resolve_left (fun h => h rfl)
    rw [fieldPos_none]
    cases al with
    | false => exact hD'
    | true =>
      have h1 : ty.alignment cfg = 1 := by simpa [voidOK] using hok
      rw [if_pos rfl, h1, padNat_one]
      exact hD'

/-- the interpreted reader's state inside a block: before the first slot the relation of the plan walk holds, after a
    slot the interpreted reader is at the end of that slot -/
def SPre (bpos : Nat) (la : Option Nat) (first : Bool) (cur : Nat) (fs : Fields) (offs : List (Option Nat))
    (ipos : Nat) (ibb : BitBuf) : Prop :=
  if first = true then cur = 0 ∧ (nextStatic fs offs = true ∨ LaMatch la bpos ipos)
  else ipos = bpos + cur ∧ ibb = BitBuf.empty

theorem void_spre (cfg : Cfg) (al : Bool) (start bpos : Nat) (bstart la : Option Nat) (first : Bool) (cur : Nat)
    (name an ty bits rest) (offs : List (Option Nat)) (ipos : Nat) (ibb : BitBuf)
    (hbs : ∀ k, bstart = some k → bpos = start + k)
    (hla : bstart ≠ none → ∀ a', la = some a' → IsP2 a' ∧ a' ∣ bpos)
    (hpre : SPre bpos la first cur (.cons name an ty bits rest) offs ipos ibb)
    (hok : voidOK cfg al ty (hdOff offs) (bstart.map (· + cur)) = true) :
    SPre bpos la first cur rest (offs.drop 1) (fieldPos cfg al ty (hdOff offs) start ipos) BitBuf.empty := by
  have hat : ∀ k, bstart.map (· + cur) = some k → bpos + cur = start + k := by
    intro k hk
    cases bstart with
    | none => cases hk
    | some k0 => cases hk; rw [hbs k0 rfl, Nat.add_assoc]
  unfold SPre at hpre ⊢
  cases first with
  | true =>
    obtain ⟨rfl, hD⟩ := hpre
    refine ⟨rfl, Or.inr (void_pos cfg al ty _ start bpos ipos la _ hat ?_ hok ?_)⟩
    · rcases hD with h | h
      · obtain ⟨o, ho⟩ := nextStatic_hd h
        exact Or.inl (by rw [ho]; simp)
      · exact Or.inr h
    · intro h
      exact hla (fun hb => h (by rw [hb]; rfl))
  | false =>
    obtain ⟨rfl, _⟩ := hpre
    exact ⟨void_pos cfg al ty _ start (bpos + cur) (bpos + cur) none _ hat (Or.inr rfl) hok (fun _ _ h => by cases h), rfl⟩

theorem slot_pos (cfg : Cfg) (al : Bool) (start bpos : Nat) (bstart la : Option Nat) (first : Bool) (cur a : Nat)
    (name an ty bits rest) (offs : List (Option Nat)) (ipos : Nat) (ibb : BitBuf)
    (hbs : ∀ k, bstart = some k → bpos = start + k)
    (hpre : SPre bpos la first cur (.cons name an ty bits rest) offs ipos ibb)
    (hok : slotAtOK al bstart la (hdOff offs) a cur first (ty.alignment cfg) = true) :
    fieldPos cfg al ty (hdOff offs) start ipos = bpos + a := by
  unfold slotAtOK at hok
  cases ho : hdOff offs with
  | some o =>
    rw [ho] at hok
    cases bstart with
    | none => cases hok
    | some k =>
      rw [fieldPos_some, hbs k rfl, ← of_decide_eq_true hok, Nat.add_assoc]
  | none =>
    rw [ho] at hok
    cases bstart with
    | some k => cases hok
    | none =>
      simp only [Bool.and_eq_true, beq_iff_eq] at hok
      obtain ⟨rfl, hc⟩ := hok
      rw [fieldPos_none]
      unfold SPre at hpre
      cases first with
      | true =>
        obtain ⟨rfl, hD⟩ := hpre
        have hD' : LaMatch la bpos ipos := by
          rcases hD with h | h
          · obtain ⟨o, h⟩ := nextStatic_hd h
            rw [ho] at h; cases h
          · exact h
        cases al with
        | false =>
          obtain rfl : la = none := by simpa using hc
          exact hD'
        | true =>
          simp only [if_true, Bool.or_eq_true, beq_iff_eq, Bool.and_eq_true, Option.isNone_iff_eq_none] at hc ⊢
          rcases hc with rfl | ⟨rfl, h1⟩
          · exact hD'.symm
          · rw [h1, padNat_one]; exact hD'
      | false =>
        obtain ⟨rfl, _⟩ := hpre
        cases al with
        | false => rfl
        | true =>
          simp only [if_true, Bool.false_eq_true, if_false, beq_iff_eq] at hc ⊢
          rw [hc, padNat_one]
          rfl

theorem slots_sim (cfg : Cfg) (al : Bool) (salign : Nat) (data buf : Bytes) (start bpos size pe : Nat) (its : List Item)
    (bstart la : Option Nat) (K : Fields → Ctx → Res)
    (hbuf : readExact data bpos size = .ok (buf, pe))
    (hbs : ∀ k, bstart = some k → bpos = start + k)
    (hla : bstart ≠ none → ∀ a', la = some a' → IsP2 a' ∧ a' ∣ bpos) :
    ∀ slots fs offs first cur fs' offs' cur' ctx ipos ibb, (first = true → slots ≠ []) →
      slotsOK cfg al its size bstart la slots fs offs first cur = some (fs', offs', cur') →
      SPre bpos la first cur fs offs ipos ibb →
      (∀ ctx', Sim (K fs' ctx')
        (finR al salign (readFields cfg al fs' offs' start BitBuf.empty ctx' data (bpos + cur')))) →
      Sim (slotsThen (execSlots cfg buf its slots fs ctx) K)
        (finR al salign (readFields cfg al fs offs start ibb ctx data ipos)) := by
  intro slots fs offs first cur
  fun_induction slotsOK cfg al its size bstart la slots fs offs first cur
  all_goals intro fs' offs' cur' ctx ipos ibb hne h hpre hK
  case case1 fs offs first cur =>
    cases h
    obtain rfl : first = false := by
      cases first with
      | false => rfl
      | true => exact absurd rfl (hne rfl)
    obtain ⟨rfl, rfl⟩ := hpre
    rw [slotsThen_nil]
    exact hK ctx
  case case3 sl rest offs first cur name an ty bits rest' fo hv ok hok ih =>
    obtain rfl : bits = none := Option.isNone_iff_eq_none.mp hv.2.1
    have hok' : voidOK cfg al ty (hdOff offs) (bstart.map (· + cur)) = true := by
      rw [← hok]
      simp only [ok, fo]
      cases hdOff offs <;> cases bstart <;> rfl
    rw [slotsThen_void _ _ _ _ _ _ _ _ _ _ _ _ hv, readFields_void _ _ _ _ _ _ _ _ _ _ _ _ hv.1, finR_wrapR]
    exact sim_wrap _ _ _ (nz_cons_zero _ _).symm
      (ih fs' offs' cur' _ _ _ hne h (void_spre cfg al start bpos bstart la first cur name an ty none rest' offs ipos ibb hbs
        hla hpre hok') hK)
  case case7 sl rest offs first cur name an ty bits rest' fo hv hnb a0 b0 fsize hsz hrange a b hab hchk fa okPos hok ih =>
    obtain rfl : bits = none := by
      cases bits with
      | none => rfl
      | some _ => exact absurd (Or.inr rfl) hnb
    simp only [ne_eq, gt_iff_lt, not_or, Decidable.not_not, Nat.not_lt] at hchk
    obtain ⟨hc1, hc2, hc3, hc4⟩ := hchk
    have hq := slot_pos cfg al start bpos bstart la first cur a name an ty none rest' offs ipos ibb hbs hpre hok
    -- the window of the input the slot covers; a field of zero bytes has none
    have hwin : Win data buf (fieldPos cfg al ty (hdOff offs) start ipos) a0 fsize ∧ b = a + fsize := by
      by_cases hz : fsize = 0
      · subst hz
        refine ⟨win_zero _ _ _ _, ?_⟩
        simp only [dite_true, fo] at hab
        split at hab <;> cases hab <;> rfl
      · rw [dif_neg hz] at hab
        cases hab
        rw [hq]
        exact ⟨win_of_block hbuf a0 fsize (by omega), by omega⟩
    rw [slotsThen_slot _ _ _ _ _ _ _ _ _ _ _ _ hv hnb, readFields_nobits,
      slot_read cfg ty its sl cur a0 b0 fsize buf data _ ctx hrange hsz hwin.1]
    cases slotVal cfg ty buf its sl with
    | error e => exact sim_err _ _
    | ok v =>
      simp only [slotRes, Except.bind, Nat.add_sub_cancel_left]
      rw [finR_wrapR, hc1]
      refine sim_wrap _ _ _ rfl (ih fs' offs' cur' _ _ BitBuf.empty (fun h => by cases h) h ?_ hK)
      unfold SPre
      rw [if_neg (by simp)]
      exact ⟨by rw [hq, hwin.2, Nat.add_assoc], rfl⟩
  all_goals cases h

end Cstruct.Compiler
