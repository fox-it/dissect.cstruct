/-
  The fragments are nested, S ⊆ SB ⊆ D, and so are their typing relations: a value of a type of fragment S is one of
  fragment SB, and a value of a type of fragment SB is a value of that type in fragment D in every context (a static type
  has no length expression to evaluate).
-/
import Proofs.Spec.CoreDyn
namespace Cstruct.Core.Lemmas
open Cstruct Cstruct.Core

mutual
theorem fragSB_of_fragS (cfg : Cfg) : ∀ ty : Ty, ty.fragS cfg = true → ty.fragSB cfg = true
  | .sc _ _, h => h
  | .enum _ _ _, h => h
  | .ptr _, h => h
  | .arr e len, h => by
    simp only [Ty.fragS, Bool.and_eq_true] at h
    simp only [Ty.fragSB, Bool.and_eq_true]
    exact ⟨h.1, fragSB_of_fragS cfg e h.2⟩
  | .struct _ fs, h => by
    simp only [Ty.fragS] at h
    simp only [Ty.fragSB]
    exact fragSB_of_fragS_fields cfg fs h
  | .union _ _, h => nomatch h
theorem fragSB_of_fragS_fields (cfg : Cfg) : ∀ fs : Fields, Fields.fragS cfg fs = true → Fields.fragSB cfg fs = true
  | .nil, _ => rfl
  | .cons _ _ t bits r, h => by
    simp only [Fields.fragS, Bool.and_eq_true, Option.isNone_iff_eq_none] at h
    obtain ⟨⟨rfl, ht⟩, hr⟩ := h
    simp only [Fields.fragSB, Bool.and_eq_true]
    exact ⟨fragSB_of_fragS cfg t ht, fragSB_of_fragS_fields cfg r hr⟩
end

mutual
theorem noBits_of_fragS (cfg : Cfg) : ∀ ty : Ty, ty.fragS cfg = true → ty.noBits = true
  | .sc _ _, _ => rfl
  | .enum _ _ _, _ => rfl
  | .ptr _, _ => rfl
  | .arr e _, h => by
    simp only [Ty.fragS, Bool.and_eq_true] at h
    simp only [Ty.noBits]
    exact noBits_of_fragS cfg e h.2
  | .struct _ fs, h => by
    simp only [Ty.fragS] at h
    simp only [Ty.noBits]
    exact noBits_of_fragS_fields cfg fs h
  | .union _ _, h => nomatch h
theorem noBits_of_fragS_fields (cfg : Cfg) : ∀ fs : Fields, Fields.fragS cfg fs = true → Fields.noBits fs = true
  | .nil, _ => rfl
  | .cons _ _ t bits r, h => by
    simp only [Fields.fragS, Bool.and_eq_true, Option.isNone_iff_eq_none] at h
    obtain ⟨⟨rfl, ht⟩, hr⟩ := h
    simp only [Fields.noBits, Bool.and_eq_true]
    exact ⟨⟨trivial, noBits_of_fragS cfg t ht⟩, noBits_of_fragS_fields cfg r hr⟩
end

mutual
theorem fragD_of_fragSB (cfg : Cfg) : ∀ ty : Ty, ty.fragSB cfg = true → ty.fragD cfg = true
  | .sc _ _, _ => rfl
  | .enum _ _ _, h => h
  | .ptr _, h => h
  | .arr e len, h => by
    simp only [Ty.fragSB, Bool.and_eq_true] at h
    simp only [Ty.fragD, Bool.and_eq_true]
    refine ⟨?_, fragD_of_fragSB cfg e h.2⟩
    cases len <;> first | rfl | exact nomatch h.1
  | .struct _ fs, h => by
    simp only [Ty.fragSB] at h
    simp only [Ty.fragD]
    exact fragD_of_fragSB_fields cfg fs h
  | .union _ _, h => nomatch h
theorem fragD_of_fragSB_fields (cfg : Cfg) : ∀ fs : Fields, Fields.fragSB cfg fs = true → Fields.fragD cfg fs = true
  | .nil, _ => rfl
  | .cons _ _ t bits r, h => by
    simp only [Fields.fragSB, Bool.and_eq_true] at h
    simp only [Fields.fragD, Bool.and_eq_true]
    refine ⟨?_, fragD_of_fragSB_fields cfg r h.2⟩
    rcases bits with _ | _ | b
    · exact fragD_of_fragSB cfg t h.1
    · exact h.1
    · exact h.1
end

theorem hasTyNB_of_hasTyN {cfg : Cfg} {e : Ty} (hE : ∀ v, HasTy cfg v e → HasTyB cfg v e) :
    ∀ (n : Nat) (vs : Vals), HasTyN cfg vs e n → HasTyNB cfg vs e n := by
  intro n
  induction n with
  | zero => intro vs h; cases h; exact .nil
  | succ n ih => intro vs h; cases h with | cons h1 h2 => exact .cons (hE _ h1) (ih _ h2)

mutual
theorem hasTyB_of_hasTy (cfg : Cfg) : ∀ (ty : Ty) (v : Val), HasTy cfg v ty → HasTyB cfg v ty
  | .sc _ _ => fun _ h => by
    cases h with
    | int h1 h2 => exact .int h1 h2
    | flt h1 => exact .flt h1
    | char => exact .char
    | void => exact .void
  | .enum _ _ _ => fun _ h => by cases h with | enum h1 => exact .enum h1
  | .ptr _ => fun _ h => by cases h with | ptr h1 => exact .ptr h1
  | .arr e _ => fun _ h => by
    cases h with
    | chars hl => exact .chars hl
    | arr hc hN => exact .arr hc (hasTyNB_of_hasTyN (hasTyB_of_hasTy cfg e) _ _ hN)
  | .struct _ fs => fun _ h => by cases h with | struct hvs => exact .struct (hasTysB_of_hasTys cfg fs _ hvs)
  | .union _ _ => fun _ h => nomatch h
theorem hasTysB_of_hasTys (cfg : Cfg) : ∀ (fs : Fields) (vs : Vals), HasTys cfg vs fs → HasTysB cfg vs fs
  | .nil => fun _ h => by cases h; exact .nil
  | .cons _ _ t _ r => fun _ h => by
    cases h with
    | cons h1 h2 => exact .cons (hasTyB_of_hasTy cfg t _ h1) (hasTysB_of_hasTys cfg r _ h2)
end

theorem hasTyND_of_hasTyNB {cfg : Cfg} {ctx : Ctx} {e : Ty} (hE : ∀ v, HasTyB cfg v e → HasTyD cfg ctx v e) :
    ∀ (n : Nat) (vs : Vals), HasTyNB cfg vs e n → HasTyND cfg ctx vs e n := by
  intro n
  induction n with
  | zero => intro vs h; cases h; exact .nil
  | succ n ih => intro vs h; cases h with | cons h1 h2 => exact .cons (hE _ h1) (ih _ h2)

mutual
theorem hasTyD_of_hasTyB (cfg : Cfg) : ∀ (ty : Ty), ty.fragSB cfg = true → ∀ (ctx : Ctx) (v : Val), HasTyB cfg v ty →
    HasTyD cfg ctx v ty
  | .sc _ _ => fun _ _ _ h => by
    cases h with
    | int h1 h2 => exact .int h1 h2
    | flt h1 => exact .flt h1
    | char => exact .char
    | void => exact .void
  | .enum _ _ _ => fun _ _ _ h => by cases h with | enum h1 => exact .enum h1
  | .ptr _ => fun _ _ _ h => by cases h with | ptr h1 => exact .ptr h1
  | .arr e _ => fun hS ctx _ h => by
    simp only [Ty.fragSB, Bool.and_eq_true] at hS
    cases h with
    | chars hl => exact .chars rfl hl
    | arr hc hN =>
      refine .arr hc (fun a he => ?_) rfl (hasTyND_of_hasTyNB (hasTyD_of_hasTyB cfg e hS.2 ctx) _ _ hN)
      subst he
      exact nomatch hS.2
  | .struct _ fs => fun hS _ _ h => by
    cases h with
    | struct hvs => exact .struct (hasTysD_of_hasTysB cfg fs (by simpa only [Ty.fragSB] using hS) [] _ hvs)
  | .union _ _ => fun hS => nomatch hS
theorem hasTysD_of_hasTysB (cfg : Cfg) : ∀ (fs : Fields), Fields.fragSB cfg fs = true → ∀ (ctx : Ctx) (vs : Vals),
    HasTysB cfg vs fs → HasTysD cfg ctx vs fs
  | .nil => fun _ _ _ h => by cases h; exact .nil
  | .cons _ _ t _ r => fun hS ctx _ h => by
    simp only [Fields.fragSB, Bool.and_eq_true] at hS
    cases h with
    | cons h1 h2 => exact .cons (hasTyD_of_hasTyB cfg t hS.1 ctx _ h1) (hasTysD_of_hasTysB cfg r hS.2 _ _ h2)
    | bitsInt h0 h1 h2 => exact .bitsInt h0 h1 (hasTysD_of_hasTysB cfg r hS.2 _ _ h2)
    | bitsEnum h0 h1 h2 => exact .bitsEnum h0 h1 (hasTysD_of_hasTysB cfg r hS.2 _ _ h2)
end

end Cstruct.Core.Lemmas
