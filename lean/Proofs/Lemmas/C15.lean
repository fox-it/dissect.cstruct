/-
  Helper lemmas for `Proofs/C15.lean`: an invariant of the shared token list and of every thread that any schedule
  preserves, and a measure that falls with every step of a thread running alone.
-/
import CstructModel.Sched

namespace Cstruct.C15.Lemmas
open Cstruct Cstruct.Sched Cstruct.Expr

/-- what the rewriting loop writes over token `t` when the previous (rewritten) token is `prev` -/
def mark (prev : Option String) (t : String) : String :=
  if t = "-" then
    match prev with
    | none => Gen.minusMarker
    | some p => if ctxTok p then Gen.minusMarker else t
  else t

theorem rewriteFrom_cons (prev : Option String) (t : String) (r : List String) :
    rewriteFrom prev (t :: r) = mark prev t :: rewriteFrom (some (mark prev t)) r := rfl

theorem marker_ne : Gen.minusMarker ≠ "-" := by decide

theorem rewriteFrom_length (l : List String) : ∀ prev, (rewriteFrom prev l).length = l.length := by
  induction l with
  | nil => intro _; rfl
  | cons t r ih => intro prev; rw [rewriteFrom_cons, List.length_cons, List.length_cons, ih]

theorem rewriteFrom_get (l : List String) : ∀ prev i, i < l.length →
    (rewriteFrom prev l)[i]? =
      some (mark (if i = 0 then prev else (rewriteFrom prev l)[i - 1]?) (l.getD i "")) := by
  induction l with
  | nil => intro _ i h; exact absurd h (Nat.not_lt_zero _)
  | cons t r ih =>
    intro prev i h
    rw [rewriteFrom_cons]
    cases i with
    | zero => rfl
    | succ i =>
      have hi : i < r.length := Nat.lt_of_succ_lt_succ h
      have := ih (some (mark prev t)) i hi
      simp only [List.getElem?_cons_succ, this, List.getD_cons_succ, Nat.add_sub_cancel, Nat.add_one_ne_zero,
        if_false]
      cases i with
      | zero => rfl
      | succ j => rfl

/-- `F` is the sequential rewriting of `O`, stated cell by cell -/
structure Good (O F : List String) : Prop where
  len : F.length = O.length
  ne : ∀ i : Nat, O[i]? ≠ some "-" → F[i]? = O[i]?
  zero : O[0]? = some "-" → F[0]? = some Gen.minusMarker
  ctxT : ∀ (i : Nat) (p : String), 0 < i → O[i]? = some "-" → F[i - 1]? = some p → ctxTok p = true → F[i]? = some Gen.minusMarker
  ctxF : ∀ (i : Nat) (p : String), 0 < i → O[i]? = some "-" → F[i - 1]? = some p → ctxTok p = false → F[i]? = some "-"
  alt : ∀ i : Nat, F[i]? = O[i]? ∨ F[i]? = some Gen.minusMarker

theorem good_rewriteMinus (O : List String) : Good O (rewriteMinus O) := by
  have hlen : (rewriteMinus O).length = O.length := rewriteFrom_length O none
  have hget : ∀ i, i < O.length → (rewriteMinus O)[i]? =
      some (mark (if i = 0 then none else (rewriteMinus O)[i - 1]?) (O.getD i "")) :=
    fun i h => rewriteFrom_get O none i h
  have hO : ∀ i, i < O.length → O[i]? = some (O.getD i "") := by
    intro i h; simp [List.getD_eq_getElem?_getD, List.getElem?_eq_getElem h]
  have hout : ∀ i, ¬ i < O.length → (rewriteMinus O)[i]? = O[i]? := by
    intro i h
    rw [List.getElem?_eq_none (by omega), List.getElem?_eq_none (by omega)]
  refine ⟨hlen, ?_, ?_, ?_, ?_, ?_⟩
  · intro i hne
    by_cases h : i < O.length
    · rw [hget i h, hO i h]
      rw [hO i h] at hne
      have : O.getD i "" ≠ "-" := fun e => hne (by rw [e])
      simp only [mark, if_neg this]
    · exact hout i h
  · intro h0
    have h : 0 < O.length := by
      cases O with
      | nil => simp at h0
      | cons => simp
    rw [hO 0 h] at h0
    rw [hget 0 h, Option.some.inj h0]
    simp [mark]
  · intro i p hi hO' hp hc
    have h : i < O.length := by
      apply Nat.lt_of_not_le; intro hle
      rw [List.getElem?_eq_none hle] at hO'; cases hO'
    rw [hO i h] at hO'
    rw [hget i h, Option.some.inj hO', if_neg (by omega), hp]
    simp [mark, hc]
  · intro i p hi hO' hp hc
    have h : i < O.length := by
      apply Nat.lt_of_not_le; intro hle
      rw [List.getElem?_eq_none hle] at hO'; cases hO'
    rw [hO i h] at hO'
    rw [hget i h, Option.some.inj hO', if_neg (by omega), hp]
    simp [mark, hc]
  · intro i
    by_cases h : i < O.length
    · rw [hget i h, hO i h]
      unfold mark
      split
      · split
        · right; rfl
        · split
          · right; rfl
          · left; rfl
      · left; rfl
    · left; exact hout i h

def Cells (O F toks : List String) : Prop :=
  toks.length = O.length ∧ ∀ j : Nat, toks[j]? = O[j]? ∨ toks[j]? = F[j]?

/-- what a thread in each phase knows: while scanning (`readCur`, `readPrev`, `write`) every cell below its index is final;
    `readPrev` and `write` stand on an original `-`, and `write` has already decided that its final content is the
    marker; in `main` the whole list is final and `seen` is what was read of it -/
def ThInv (O F toks : List String) (t : Th) : Prop :=
  match t.ph with
  | .readCur => t.i ≤ O.length ∧ (∀ j, j < t.i → toks[j]? = F[j]?) ∧ t.seen = []
  | .readPrev => 0 < t.i ∧ t.i < O.length ∧ (∀ j, j < t.i → toks[j]? = F[j]?) ∧ O[t.i]? = some "-" ∧ t.seen = []
  | .write => t.i < O.length ∧ (∀ j, j < t.i → toks[j]? = F[j]?) ∧ O[t.i]? = some "-" ∧
      F[t.i]? = some Gen.minusMarker ∧ t.seen = []
  | .main => t.i ≤ O.length ∧ toks = F ∧ t.seen = F.take t.i

/-- final cells stay final -/
def Mono (F toks toks' : List String) : Prop :=
  toks'.length = toks.length ∧ ∀ j : Nat, toks[j]? = F[j]? → toks'[j]? = F[j]?

theorem mono_refl (F toks : List String) : Mono F toks toks := ⟨rfl, fun _ h => h⟩

theorem thInv_mono {O F toks toks' : List String} {t : Th}
    (hm : Mono F toks toks') (h : ThInv O F toks t) : ThInv O F toks' t := by
  unfold ThInv at *
  cases hph : t.ph <;> simp only [hph] at h ⊢
  · exact ⟨h.1, fun j hj => hm.2 j (h.2.1 j hj), h.2.2⟩
  · exact ⟨h.1, h.2.1, fun j hj => hm.2 j (h.2.2.1 j hj), h.2.2.2⟩
  · exact ⟨h.1, fun j hj => hm.2 j (h.2.1 j hj), h.2.2⟩
  · refine ⟨h.1, ?_, h.2.2⟩
    apply List.ext_getElem?
    intro j
    apply hm.2
    rw [h.2.1]

theorem get_of_lt (l : List String) (i : Nat) (h : i < l.length) : l[i]? = some (l.getD i "") := by
  simp [List.getD_eq_getElem?_getD, List.getElem?_eq_getElem h]

theorem step_inv {O F toks : List String} {t : Th} (hg : Good O F) (hc : Cells O F toks)
    (ht : ThInv O F toks t) :
    Cells O F (step t toks).2 ∧ ThInv O F (step t toks).2 (step t toks).1 ∧ Mono F toks (step t toks).2 := by
  obtain ⟨i, ph, seen⟩ := t
  have hlen := hc.1
  cases ph
  · simp only [ThInv] at ht
    obtain ⟨hle, hfin, hseen⟩ := ht
    simp only [step]
    by_cases h1 : i ≥ toks.length
    · rw [if_pos h1]
      refine ⟨hc, ?_, mono_refl _ _⟩
      simp only [ThInv]
      refine ⟨Nat.zero_le _, ?_, by simp [hseen]⟩
      apply List.ext_getElem?
      intro j
      by_cases hj : j < i
      · exact hfin j hj
      · rw [List.getElem?_eq_none (by omega), List.getElem?_eq_none (by have := hg.len; omega)]
    · rw [if_neg h1]
      have hi : i < toks.length := Nat.lt_of_not_le h1
      have hti := get_of_lt toks i hi
      by_cases h2 : toks.getD i "" = "-"
      · rw [if_pos h2]
        rw [h2] at hti
        -- a cell that reads `-` is still original: the final content of a rewritten cell is the marker
        have hO : O[i]? = some "-" := by
          rcases hc.2 i with h | h
          · rw [← h]; exact hti
          · rcases hg.alt i with h' | h'
            · rw [← h', ← h]; exact hti
            · rw [h, h'] at hti
              exact absurd (Option.some.inj hti) marker_ne
        by_cases h3 : i = 0
        · rw [if_pos h3]
          refine ⟨hc, ?_, mono_refl _ _⟩
          simp only [ThInv]
          subst h3
          exact ⟨by omega, hfin, hO, hg.zero hO, hseen⟩
        · rw [if_neg h3]
          refine ⟨hc, ?_, mono_refl _ _⟩
          simp only [ThInv]
          exact ⟨by omega, by omega, hfin, hO, hseen⟩
      · rw [if_neg h2]
        refine ⟨hc, ?_, mono_refl _ _⟩
        simp only [ThInv]
        refine ⟨by omega, ?_, hseen⟩
        intro j hj
        by_cases hji : j < i
        · exact hfin j hji
        · have : j = i := by omega
          subst this
          rcases hc.2 j with h | h
          · rw [h]
            symm
            apply hg.ne
            rw [← h, hti]
            intro e
            exact h2 (Option.some.inj e)
          · exact h
  · simp only [ThInv] at ht
    obtain ⟨hpos, hlt, hfin, hO, hseen⟩ := ht
    simp only [step]
    have hp : F[i - 1]? = some (toks.getD (i - 1) "") := by
      rw [← hfin (i - 1) (by omega)]
      exact get_of_lt toks (i - 1) (by omega)
    by_cases h1 : ctxTok (toks.getD (i - 1) "") = true
    · rw [if_pos h1]
      refine ⟨hc, ?_, mono_refl _ _⟩
      simp only [ThInv]
      exact ⟨hlt, hfin, hO, hg.ctxT i _ hpos hO hp h1, hseen⟩
    · rw [if_neg h1]
      refine ⟨hc, ?_, mono_refl _ _⟩
      simp only [ThInv]
      refine ⟨by omega, ?_, hseen⟩
      have hFi : F[i]? = some "-" := hg.ctxF i _ hpos hO hp (by simpa using h1)
      intro j hj
      by_cases hji : j < i
      · exact hfin j hji
      · have : j = i := by omega
        subst this
        rcases hc.2 j with h | h
        · rw [h, hO, hFi]
        · exact h
  · simp only [ThInv] at ht
    obtain ⟨hlt, hfin, hO, hFi, hseen⟩ := ht
    simp only [step]
    have hset : ∀ j, (toks.set i Gen.minusMarker)[j]? = if j = i then F[j]? else toks[j]? := by
      intro j
      rw [List.getElem?_set]
      by_cases hji : i = j
      · subst hji
        rw [if_pos rfl, if_pos rfl, if_pos (by omega), hFi]
      · rw [if_neg hji, if_neg (fun e => hji e.symm)]
    refine ⟨⟨by rw [List.length_set]; exact hlen, ?_⟩, ?_, ⟨List.length_set .., ?_⟩⟩
    · intro j
      rw [hset j]
      by_cases hji : j = i
      · rw [if_pos hji]; right; rfl
      · rw [if_neg hji]; exact hc.2 j
    · simp only [ThInv]
      refine ⟨by omega, ?_, hseen⟩
      intro j hj
      rw [hset j]
      by_cases hji : j = i
      · rw [if_pos hji]
      · rw [if_neg hji]; exact hfin j (by omega)
    · intro j h
      rw [hset j]
      by_cases hji : j = i
      · rw [if_pos hji]
      · rw [if_neg hji]; exact h
  · simp only [ThInv] at ht
    obtain ⟨hle, htoks, hseen⟩ := ht
    simp only [step]
    by_cases h1 : i ≥ toks.length
    · rw [if_pos h1]
      refine ⟨hc, ?_, mono_refl _ _⟩
      simp only [ThInv]
      exact ⟨hle, htoks, hseen⟩
    · rw [if_neg h1]
      refine ⟨hc, ?_, mono_refl _ _⟩
      simp only [ThInv]
      refine ⟨by omega, htoks, ?_⟩
      have hi : i < F.length := by rw [← htoks]; omega
      rw [hseen, htoks, List.take_add_one, List.getD_eq_getElem?_getD, List.getElem?_eq_getElem hi]
      rfl

def Inv (O F : List String) (ths : List Th) (toks : List String) : Prop :=
  Cells O F toks ∧ ∀ t ∈ ths, ThInv O F toks t

theorem inv_init (O : List String) (k : Nat) : Inv O (rewriteMinus O) (List.replicate k Th.init) O := by
  refine ⟨⟨rfl, fun j => Or.inl rfl⟩, ?_⟩
  intro t ht
  rw [List.eq_of_mem_replicate ht]
  simp only [ThInv, Th.init]
  exact ⟨Nat.zero_le _, fun j hj => absurd hj (Nat.not_lt_zero _), trivial⟩

theorem inv_step {O F : List String} (hg : Good O F) {ths : List Th} {toks : List String} {tid : Nat} {t : Th}
    (hinv : Inv O F ths toks) (ht : ths[tid]? = some t) :
    Inv O F (ths.set tid (step t toks).1) (step t toks).2 := by
  have hmem : t ∈ ths := List.mem_of_getElem? ht
  obtain ⟨hc', ht', hm⟩ := step_inv hg hinv.1 (hinv.2 t hmem)
  refine ⟨hc', ?_⟩
  intro u hu
  rcases List.mem_or_eq_of_mem_set hu with h | h
  · exact thInv_mono hm (hinv.2 u h)
  · rw [h]; exact ht'

theorem inv_run {O F : List String} (hg : Good O F) (sched : List Nat) : ∀ (ths : List Th) (toks : List String),
    Inv O F ths toks → Inv O F (run ths toks sched).1 (run ths toks sched).2 := by
  induction sched with
  | nil => intro ths toks h; exact h
  | cons tid rest ih =>
    intro ths toks h
    unfold Sched.run
    cases hget : ths[tid]? with
    | none => exact ih ths toks h
    | some t => exact ih _ _ (inv_step hg h hget)

theorem finished_iff (t : Th) (n : Nat) : t.finished n = true ↔ t.ph = .main ∧ t.i ≥ n := by
  simp [Th.finished]

theorem seen_of_finished {O F toks : List String} {t : Th} (hg : Good O F) (ht : ThInv O F toks t)
    (hf : t.finished O.length = true) : t.seen = F := by
  obtain ⟨hph, hi⟩ := (finished_iff _ _).mp hf
  simp only [ThInv, hph] at ht
  rw [ht.2.2]
  apply List.take_of_length_le
  have := hg.len
  omega

/-- an upper bound on the steps a thread still takes: three per token left to scan (read, read the previous, write),
    then one per token of the main loop -/
def mu (n : Nat) (t : Th) : Nat :=
  match t.ph with
  | .readCur => (n + 1) + 3 * (n - t.i) + 2
  | .readPrev => (n + 1) + 3 * (n - t.i) + 1
  | .write => (n + 1) + 3 * (n - t.i)
  | .main => n - t.i

theorem step_finished {t : Th} {toks : List String} (hf : t.finished toks.length = true) :
    step t toks = (t, toks) := by
  obtain ⟨hph, hi⟩ := (finished_iff _ _).mp hf
  obtain ⟨i, ph, seen⟩ := t
  simp only at hph hi
  subst hph
  simp only [step, if_pos hi]

theorem run_finished (m : Nat) (t : Th) (toks : List String) (hf : t.finished toks.length = true) :
    run [t] toks (List.replicate m 0) = ([t], toks) := by
  induction m with
  | zero => rfl
  | succ m ih =>
    rw [List.replicate_succ]
    unfold Sched.run
    simp only [List.getElem?_cons_zero, step_finished hf, List.set_cons_zero]
    exact ih

theorem mu_scan {n i : Nat} (a b : Nat) (h : i < n) (hab : a < b + 3) :
    (n + 1) + 3 * (n - (i + 1)) + a < (n + 1) + 3 * (n - i) + b := by
  omega

theorem step_progress {O F toks : List String} {t : Th} (hc : Cells O F toks) (ht : ThInv O F toks t)
    (hnf : t.finished O.length = false) : mu O.length (step t toks).1 < mu O.length t := by
  obtain ⟨i, ph, seen⟩ := t
  have hlen := hc.1
  clear hc
  cases ph
  · clear ht
    simp only [step]
    split
    · exact Nat.lt_add_right _ (Nat.lt_add_right _ (Nat.lt_succ_self _))
    · rename_i h
      rw [hlen, Nat.not_le] at h
      split
      · split
        · exact Nat.lt_add_of_pos_right (by decide)
        · exact Nat.add_lt_add_left (by decide : 1 < 2) _
      · exact mu_scan 2 2 h (by decide)
  · have hlt : i < O.length := ht.2.1
    clear ht
    simp only [step]
    split
    · exact Nat.lt_succ_self _
    · exact mu_scan 2 1 hlt (by decide)
  · have hlt : i < O.length := ht.1
    exact mu_scan 2 0 hlt (by decide)
  · clear ht
    have hi : i < O.length := by
      apply Nat.lt_of_not_le
      intro h
      rw [(finished_iff ⟨i, .main, seen⟩ _).mpr ⟨rfl, h⟩] at hnf
      cases hnf
    simp only [step, hlen, if_neg (Nat.not_le.mpr hi), mu]
    omega

theorem alone_progress {O F : List String} (hg : Good O F) (m : Nat) : ∀ (t : Th) (toks : List String),
    Inv O F [t] toks →
    ∃ t', (run [t] toks (List.replicate m 0)).1 = [t'] ∧
      (t'.finished O.length = true ∨ mu O.length t' + m ≤ mu O.length t) := by
  induction m with
  | zero => intro t toks _; exact ⟨t, rfl, Or.inr (Nat.le_refl _)⟩
  | succ m ih =>
    intro t toks hinv
    cases hf : t.finished O.length with
    | true =>
      have hf' : t.finished toks.length = true := by rw [hinv.1.1]; exact hf
      exact ⟨t, by rw [run_finished _ _ _ hf'], Or.inl hf⟩
    | false =>
      have hstep := inv_step (tid := 0) hg hinv (t := t) rfl
      have hprog := step_progress hinv.1 (hinv.2 t (List.mem_singleton.mpr rfl)) hf
      rw [List.set_cons_zero] at hstep
      obtain ⟨t', hrun, hfin⟩ := ih _ _ hstep
      refine ⟨t', ?_, ?_⟩
      · rw [List.replicate_succ]
        unfold Sched.run
        simp only [List.getElem?_cons_zero, List.set_cons_zero]
        exact hrun
      · rcases hfin with h | h
        · exact Or.inl h
        · right; omega

end Cstruct.C15.Lemmas
