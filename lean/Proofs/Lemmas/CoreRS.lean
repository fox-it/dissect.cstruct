/-
  Parsing consumes exactly the declared size and yields a value of the type (fragment S): `rs_ty`, `rs_fields`.
-/
import Proofs.Lemmas.CoreS
namespace Cstruct.Core.Lemmas
open Cstruct Cstruct.Core

/-- a successful, well-typed read of exactly `n` bytes -/
def RS (cfg : Cfg) (ty : Ty) (ctx : Ctx) (data : Bytes) (pos n : Nat) : Prop :=
  ∃ v, read cfg ty ctx data pos = .ok (v, pos + n) ∧ HasTy cfg v ty

theorem int_rs (cfg : Cfg) (s : Scalar) (hi : Scalar.isInt s = true) (data : Bytes) (pos n : Nat)
    (hn : s.size = some n) (hlen : pos + n ≤ data.length) :
    ∃ v, readScalar cfg s data pos = .ok (.int v, pos + n) ∧ intFits s v = true := by
  cases s with
  | pint k sg | aint k sg =>
    cases hn
    refine ⟨decodeInt cfg.endian sg (sread data pos n), ?_, ?_⟩
    · simp only [readScalar, bind, pure, readExact_of_le data pos n hlen, Except.bind, Except.pure]
    · have := (C05.c05_int_roundtrip_bytes cfg.endian sg (sread data pos n)).1
      rw [sread_length_of_le data pos n hlen] at this
      exact this
  | pflt n | char | wchar | leb sg | void => simp [Scalar.isInt] at hi

theorem rs_sc (cfg : Cfg) (s : Scalar) (a : Nat) (hS : (Ty.sc s a).fragS cfg = true) (ctx : Ctx) (data : Bytes)
    (pos n : Nat) (hn : (Ty.sc s a).size cfg = some n) (hlen : pos + n ≤ data.length) :
    RS cfg (.sc s a) ctx data pos n := by
  unfold RS
  simp only [Ty.size] at hn
  rw [read_sc]
  cases s with
  | pint k sg | aint k sg =>
    obtain ⟨v, h1, h2⟩ := int_rs cfg _ rfl data pos n hn hlen
    exact ⟨_, h1, .int rfl h2⟩
  | pflt k =>
    cases hn
    refine ⟨.flt (decodeNat cfg.endian (sread data pos n)), ?_, ?_⟩
    · simp only [readScalar, bind, pure, readExact_of_le data pos n hlen, Except.bind, Except.pure]
    · have := C05.Lemmas.decodeNat_lt cfg.endian (sread data pos n)
      rw [sread_length_of_le data pos n hlen] at this
      exact .flt this
  | char =>
    cases hn
    have hl := sread_length_of_le data pos 1 hlen
    obtain ⟨b, hb⟩ : ∃ b, sread data pos 1 = [b] := by
      cases h : sread data pos 1 with
      | nil => rw [h] at hl; cases hl
      | cons b t =>
        rw [h] at hl
        cases t with
        | nil => exact ⟨b, rfl⟩
        | cons _ _ => simp at hl
    refine ⟨.bytes [b], ?_, .char⟩
    simp only [readScalar, bind, pure, readExact_of_le data pos 1 hlen, Except.bind, Except.pure, hb]
  | void =>
    cases hn
    exact ⟨.void, rfl, .void⟩
  | wchar | leb sg => simp [Ty.fragS] at hS

theorem rs_enum (cfg : Cfg) (b : Scalar) (a : Nat) (f : Bool) (hS : (Ty.enum b a f).fragS cfg = true) (ctx : Ctx)
    (data : Bytes) (pos n : Nat) (hn : (Ty.enum b a f).size cfg = some n) (hlen : pos + n ≤ data.length) :
    RS cfg (.enum b a f) ctx data pos n := by
  unfold RS
  simp only [Ty.size] at hn
  simp only [Ty.fragS] at hS
  obtain ⟨v, h1, h2⟩ := int_rs cfg b hS data pos n hn hlen
  exact ⟨.enum v, by rw [read_enum, h1]; rfl, .enum h2⟩

theorem rs_ptr (cfg : Cfg) (t : Ty) (hS : (Ty.ptr t).fragS cfg = true) (ctx : Ctx)
    (data : Bytes) (pos n : Nat) (hn : (Ty.ptr t).size cfg = some n) (hlen : pos + n ≤ data.length) :
    RS cfg (.ptr t) ctx data pos n := by
  unfold RS
  simp only [Ty.size] at hn
  simp only [Ty.fragS] at hS
  obtain ⟨v, h1, h2⟩ := int_rs cfg cfg.ptr hS data pos n hn hlen
  exact ⟨.ptr v, by rw [read_ptr, h1]; rfl, .ptr h2⟩

theorem rs_N (cfg : Cfg) (al : Bool) (e : Ty) (k : Nat) (data : Bytes)
    (hdvd : al = true → sAlign cfg e ∣ k)
    (hE : ∀ ctx pos, pos + k ≤ data.length → (al = true → sAlign cfg e ∣ pos) → RS cfg e ctx data pos k) :
    ∀ (n : Nat) (ctx : Ctx) (pos : Nat), pos + n * k ≤ data.length → (al = true → sAlign cfg e ∣ pos) →
      ∃ vs, readN cfg e n ctx data pos = .ok (vs, pos + n * k) ∧ HasTyN cfg vs e n := by
  intro n
  induction n with
  | zero =>
    intro ctx pos _ _
    exact ⟨.nil, by rw [readN_zero]; simp, .nil⟩
  | succ n ih =>
    intro ctx pos hlen hpos
    rw [Nat.succ_mul] at hlen
    obtain ⟨v, h1, h2⟩ := hE ctx pos (by omega) hpos
    obtain ⟨vs, h3, h4⟩ := ih ctx (pos + k) (by omega) (fun ha => Nat.dvd_add (hpos ha) (hdvd ha))
    refine ⟨.cons v vs, ?_, .cons h2 h4⟩
    rw [readN_succ, h1]
    simp only [Except.bind]
    rw [h3]
    have e3 : pos + (n + 1) * k = pos + k + n * k := by rw [Nat.succ_mul]; omega
    rw [e3]

mutual
theorem rs_ty (cfg : Cfg) (al : Bool) : ∀ (ty : Ty), ty.fragS cfg = true → ty.uniformAlign al = true →
    ty.pow2Aligned cfg → ∀ (ctx : Ctx) (data : Bytes) (pos n : Nat), ty.size cfg = some n → pos + n ≤ data.length →
    (al = true → sAlign cfg ty ∣ pos) → RS cfg ty ctx data pos n
  | .sc s a, hS, _, _, ctx, data, pos, n, hn, hlen, _ => rs_sc cfg s a hS ctx data pos n hn hlen
  | .enum b a f, hS, _, _, ctx, data, pos, n, hn, hlen, _ => rs_enum cfg b a f hS ctx data pos n hn hlen
  | .ptr t, hS, _, _, ctx, data, pos, n, hn, hlen, _ => rs_ptr cfg t hS ctx data pos n hn hlen
  | .union _ _, hS, _, _, _, _, _, _, _, _, _ => by simp [Ty.fragS] at hS
  | .arr e len, hS, hU, hP, ctx, data, pos, n, hn, hlen, hpos => by
    simp only [Ty.fragS, Bool.and_eq_true] at hS
    simp only [Ty.uniformAlign] at hU
    simp only [Ty.pow2Aligned] at hP
    simp only [sAlign] at hpos
    obtain ⟨k, hk⟩ := fragS_size cfg e hS.2
    cases len with
    | expr _ | nullTerm | eof => simp at hS
    | fixed m =>
      simp only [Ty.size, hk] at hn
      cases hn
      unfold RS
      rw [read_arr_fixed]
      by_cases hc : ∃ a, e = .sc .char a
      · obtain ⟨a, rfl⟩ := hc
        cases hk
        rw [readArray_char, Nat.mul_one] at *
        split
        · rename_i h0; subst h0
          exact ⟨.bytes [], rfl, .chars rfl⟩
        · rw [readExact_of_le data pos m hlen]
          exact ⟨.bytes (sread data pos m), rfl, .chars (sread_length_of_le data pos m hlen)⟩
      · have hne : ∀ a, e ≠ .sc .char a := fun a h => hc ⟨a, h⟩
        have hdvd : al = true → sAlign cfg e ∣ k := by
          intro ha; subst ha; exact size_sAlign_dvd cfg e hS.2 hU hP k hk
        obtain ⟨vs, h1, h2⟩ := rs_N cfg al e k data hdvd
          (fun ctx pos hl hp => rs_ty cfg al e hS.2 hU hP ctx data pos k hk hl hp) m ctx pos hlen hpos
        exact ⟨.list vs, readArray_of_readN cfg e hS.2 hne ctx data m pos vs _ h1, .arr hne h2⟩
  | .struct al' fs, hS, hU, hP, ctx, data, pos, n, hn, hlen, hpos => by
    simp only [Ty.fragS] at hS
    simp only [Ty.uniformAlign, Bool.and_eq_true, beq_iff_eq] at hU
    simp only [Ty.pow2Aligned] at hP
    obtain ⟨rfl, hU⟩ := hU
    rw [struct_size cfg al' fs hS] at hn
    cases hn
    have hle := le_alignTo al' (endOff cfg al' fs 0) (Fields.maxAlign cfg fs 0)
    have hdv : al' = true → allAlignDvd cfg pos fs :=
      fun ha => allAlignDvd_of_sAlign cfg al' fs hP pos (hpos ha)
    obtain ⟨vs, szs, h1, h2⟩ := rs_fields cfg al' fs hS hU hP [] data pos 0 BitBuf.empty (by omega) hdv
    simp only [Nat.add_zero] at h1
    refine ⟨.record vs, ?_, .struct h2⟩
    rw [read_struct, structLayout_S cfg al' fs hS]
    simp only [Except.bind, h1]
    cases al' with
    | false => simp [alignTo]
    | true =>
      have hpad := padNat_struct cfg true fs hP pos (endOff cfg true fs 0) (hpos rfl)
      simp only [if_true, alignTo, hpad]
      congr 2; omega
theorem rs_fields (cfg : Cfg) (al : Bool) : ∀ (fs : Fields), Fields.fragS cfg fs = true →
    Fields.uniformAlign al fs = true → fs.pow2Aligned cfg → ∀ (ctx : Ctx) (data : Bytes) (start o : Nat) (bb : BitBuf),
    start + endOff cfg al fs o ≤ data.length → (al = true → allAlignDvd cfg start fs) →
    ∃ vs szs, readFields cfg al fs (offsS cfg al fs o) start bb ctx data (start + o) =
      .ok (vs, szs, start + endOff cfg al fs o) ∧ HasTys cfg vs fs
  | .nil, _, _, _, ctx, data, start, o, bb, _, _ => ⟨.nil, [], by rw [readFields_nil]; rfl, .nil⟩
  | .cons name an ty bits rest, hS, hU, hP, ctx, data, start, o, bb, hlen, hdv => by
    simp only [Fields.fragS, Bool.and_eq_true, Option.isNone_iff_eq_none] at hS
    obtain ⟨⟨rfl, hS1⟩, hS2⟩ := hS
    simp only [Fields.uniformAlign, Bool.and_eq_true] at hU
    simp only [Fields.pow2Aligned] at hP
    obtain ⟨k, hk⟩ := fragS_size cfg ty hS1
    have hfa := alignment_p2 cfg ty hP.1
    have hpos : al = true → sAlign cfg ty ∣ start + alignTo al o (ty.alignment cfg) := by
      intro ha; subst ha
      have h1 := (hdv rfl).1
      exact Nat.dvd_trans (sAlign_dvd_alignment cfg ty) (Nat.dvd_add h1 (alignTo_dvd hfa o))
    simp only [endOff, hk, Option.getD_some] at hlen ⊢
    simp only [offsS, hk, Option.getD_some]
    generalize alignTo al o (ty.alignment cfg) = fo at *
    have hle := le_endOff cfg al rest (fo + k)
    obtain ⟨v, h1, h2⟩ := rs_ty cfg al ty hS1 hU.1 hP.1 ctx data (start + fo) k hk (by omega) hpos
    obtain ⟨vs, szs, h3, h4⟩ := rs_fields cfg al rest hS2 hU.2 hP.2 (Ctx.set ctx name v) data start (fo + k)
      BitBuf.empty hlen (fun ha => (hdv ha).2)
    refine ⟨.cons v vs, (name, start + fo + k - (start + fo)) :: szs, ?_, .cons h2 h4⟩
    rw [readFields_cons_S, h1]
    simp only [Except.bind]
    have e3 : start + fo + k = start + (fo + k) := by omega
    rw [e3, h3]
end

end Cstruct.Core.Lemmas
