/-
  The notions the simulation of the generator by the validator is phrased in: the validator's cursor in front of a pending
  block (`Pending`), the layout offsets along the block (`Chain`), what is known of a block member (`Member`).
-/
import Proofs.Spec.C03Compile
import Proofs.Lemmas.C03Base
import Proofs.Lemmas.C03CompileFmt
import Proofs.Lemmas.C03CompileVoids

namespace Cstruct.Compiler
open Cstruct Cstruct.Core.Lemmas

/-- the validator's cursor `(fsV, offsV)` = the members of the pending block followed by the compiler's cursor -/
inductive Pending : List CField → Fields → List (Option Nat) → Fields → List (Option Nat) → Prop
  | nil (fs : Fields) (offs : List (Option Nat)) : Pending [] fs offs fs offs
  | cons (name : String) (an : Bool) (ty : Ty) (o : Option Nat) {B : List CField} {fsV : Fields}
      {offsV : List (Option Nat)} {fs : Fields} {offs : List (Option Nat)} :
      Pending B fsV offsV fs offs → Pending (⟨name, ty, o⟩ :: B) (.cons name an ty none fsV) (o :: offsV) fs offs

theorem Pending.snoc {B : List CField} {fsV : Fields} {offsV : List (Option Nat)} {name : String} {an : Bool} {ty : Ty}
    {fs : Fields} {o : Option Nat} {offs : List (Option Nat)}
    (h : Pending B fsV offsV (.cons name an ty none fs) (o :: offs)) :
    Pending (B ++ [⟨name, ty, o⟩]) fsV offsV fs offs := by
  generalize hf : Fields.cons name an ty none fs = f at h
  generalize ho : o :: offs = os at h
  induction h with
  | nil fs' offs' => subst hf; subst ho; exact Pending.cons name an ty o (Pending.nil fs offs)
  | cons n a t o' _ ih => exact Pending.cons n a t o' (ih hf ho)

/-- `offset` of `_calculate_size_and_offsets`: the running offset aligned to the member's alignment -/
def alignOpt (al : Bool) (s : Option Nat) (a : Nat) : Option Nat :=
  s.map fun o => if al then o + padNat o a else o

theorem alignOpt_some {al : Bool} {s : Option Nat} {a oo : Nat} (h : alignOpt al s a = some oo) :
    ∃ l, s = some l ∧ l ≤ oo ∧ (al = false → oo = l) ∧ (al = true → oo = l + padNat l a) := by
  cases s with
  | none => cases h
  | some l =>
    simp only [alignOpt, Option.map_some, Option.some.injEq] at h
    refine ⟨l, rfl, ?_, ?_, ?_⟩
    · cases al <;> simp at h <;> omega
    · intro hal; rw [hal] at h; simpa using h.symm
    · intro hal; rw [hal] at h; simpa using h.symm

def addOpt (o z : Option Nat) : Option Nat :=
  match o, z with
  | some o, some z => some (o + z)
  | _, _ => none

/-- the layout offsets of the members of a block follow the layout rule for members without a bit width,
    from the running offset `s` to the running offset `e` -/
def Chain (cfg : Cfg) (al : Bool) : List CField → Option Nat → Option Nat → Prop
  | [], s, e => s = e
  | f :: B, s, e => f.off = alignOpt al s (f.ty.alignment cfg) ∧ Chain cfg al B (addOpt f.off (f.ty.size cfg)) e

theorem Chain.snoc (cfg : Cfg) (al : Bool) : ∀ (B : List CField) (s e : Option Nat) (f : CField),
    Chain cfg al B s e → f.off = alignOpt al e (f.ty.alignment cfg) →
    Chain cfg al (B ++ [f]) s (addOpt f.off (f.ty.size cfg))
  | [], s, e, f, h, hf => by
    simp only [Chain] at h
    subst h
    exact ⟨hf, rfl⟩
  | g :: B, s, e, f, h, hf => ⟨h.1, Chain.snoc cfg al B _ e f h.2 hf⟩

theorem compileWF_cons {cfg : Cfg} {al : Bool} {n : String} {an : Bool} {ty : Ty} {bits : Option Nat} {rest : Fields}
    (h : compileWF cfg al (.cons n an ty bits rest) = true) :
    memberWF cfg al ty bits = true ∧ (isVoid ty = true → bits = none → n ∉ Fields.names rest) ∧
      compileWF cfg al rest = true := by
  simp only [compileWF, Bool.and_eq_true, Bool.or_eq_true, Bool.not_eq_true', Bool.and_eq_false_iff] at h
  obtain ⟨⟨h1, h2⟩, h3⟩ := h
  refine ⟨h1, fun hv hb => ?_, h3⟩
  subst hb
  rcases h2 with (h2 | h2) | h2
  · rw [hv] at h2; cases h2
  · simp at h2
  · intro hmem
    have : (Fields.names rest).contains n = true := List.contains_iff_mem.mpr hmem
    rw [this] at h2
    cases h2

theorem Pending.mem_names {B : List CField} {fsV : Fields} {offsV : List (Option Nat)} {fs : Fields}
    {offs : List (Option Nat)} (h : Pending B fsV offsV fs offs) : ∀ g ∈ B, g.name ∈ Fields.names fsV := by
  induction h with
  | nil fs offs => exact fun g hg => by cases hg
  | cons name an ty o _ ih =>
    intro g hg
    rcases List.mem_cons.mp hg with rfl | hg
    · exact List.mem_cons_self
    · exact List.mem_cons_of_mem _ (ih g hg)

/-- what is known of a member that `_generate_fields` appends to `current_block` -/
structure Member (cfg : Cfg) (al : Bool) (f : CField) : Prop where
  apos : 0 < f.ty.alignment cfg
  p2 : al = true → IsP2 (f.ty.alignment cfg)
  voidAlign : isVoid f.ty = true → al = true → f.ty.alignment cfg = 1
  nonvoid : isVoid f.ty = false → ∃ s cnt esz, readType cfg f.ty = some (s, cnt) ∧ ¬ (s = .void ∧ cnt.isNone = true) ∧
    s.size = some esz ∧ f.ty.size cfg = some (cnt.getD 1 * esz) ∧ expectDec cfg f.ty = some (slotDec f.ty s esz) ∧
    (isPacked s = true ∨ (isPacked s = false ∧ isByteBased s = true))

theorem packChar_spec {s : Scalar} {c : Char} (h : packChar s = some c) :
    charScalar c = some s ∧ charSize c = s.size ∧ FmtChar c ∧ c ≠ 'x' := by
  unfold packChar at h
  split at h <;> first | (cases h; refine ⟨rfl, rfl, ?_, by decide⟩; simp [FmtChar]) | cases h

theorem alignment_pos (cfg : Cfg) : ∀ ty : Ty, 0 < ty.alignment cfg
  | .sc _ a => by rw [Ty.alignment]; split <;> omega
  | .enum _ a _ => by rw [Ty.alignment]; split <;> omega
  | .ptr _ => by rw [Ty.alignment]; split <;> omega
  | .arr e _ => by rw [Ty.alignment]; exact alignment_pos cfg e
  | .struct _ fs => by rw [Ty.alignment]; split <;> omega
  | .union _ fs => by rw [Ty.alignment]; split <;> omega

theorem member_of_block (cfg : Cfg) (al : Bool) (name : String) (ty : Ty) (o : Option Nat) (bits : Option Nat)
    (hwf : memberWF cfg al ty bits = true)
    (h1 : unsupported (fieldType ty) = false)
    (h2 : ¬ (isPtrTy (elementType (fieldType ty)) = true ∧ ¬ isPacked cfg.ptr = true))
    (h3 : ¬ (isStructTy (fieldType ty) = true ∨ isSubArray (fieldType ty) ((fieldType ty).size cfg) = true)) :
    Member cfg al ⟨name, ty, o⟩ := by
  simp only [memberWF, Bool.and_eq_true, Bool.or_eq_true, Bool.not_eq_true', bne_iff_ne, ne_eq, beq_iff_eq] at hwf
  obtain ⟨⟨⟨⟨_, hp2⟩, hva⟩, hsh⟩, _⟩ := hwf
  refine ⟨alignment_pos cfg ty, ?_, ?_, ?_⟩
  · intro hal
    rcases hp2 with h | h
    · rw [hal] at h; cases h
    · exact isPow2b_spec h
  · intro hv hal
    rcases hva with (h | h) | h
    · rw [hal] at h; cases h
    · rw [hv] at h; cases h
    · exact h
  · intro hnv
    cases ty with
    | sc s a =>
      cases s with
      | void => simp [isVoid] at hnv
      | leb sg => simp [fieldType, unsupported] at h1
      | pint _ _ | pflt _ => exact ⟨_, none, _, rfl, by simp, rfl, congrArg some (Nat.one_mul _).symm, rfl, Or.inl rfl⟩
      | aint _ _ | char | wchar =>
        exact ⟨_, none, _, rfl, by simp, rfl, congrArg some (Nat.one_mul _).symm, rfl, Or.inr ⟨rfl, rfl⟩⟩
    | enum b a fl =>
      simp only at hsh
      cases b with
      | pint _ _ => exact ⟨_, none, _, rfl, by simp, rfl, congrArg some (Nat.one_mul _).symm, rfl, Or.inl rfl⟩
      | aint _ _ => exact ⟨_, none, _, rfl, by simp, rfl, congrArg some (Nat.one_mul _).symm, rfl, Or.inr ⟨rfl, rfl⟩⟩
      | _ => simp [isIntBase] at hsh
    | ptr t =>
      simp only at hsh
      have hpk : isPacked cfg.ptr = true := by
        cases hc : isPacked cfg.ptr with
        | true => rfl
        | false => exact absurd ⟨by simp [fieldType, elementType, isPtrTy], by simp [hc]⟩ h2
      cases hp : cfg.ptr with
      | pint n sg =>
        refine ⟨.pint n sg, none, n, by simp [readType, hp], by simp, rfl, by simp [Ty.size, hp, Scalar.size], ?_, Or.inl rfl⟩
        simp [expectDec, readType, hp, slotDec, isPlainArray, isCharArray, isPtrTy]
      | pflt n => simp [hp, isFloatSc] at hsh
      | _ => simp [hp, isPacked] at hpk
    | arr e len =>
      have hsub : isSubArray (.arr e len) ((Ty.arr e len).size cfg) = false := by
        cases hs : isSubArray (.arr e len) ((Ty.arr e len).size cfg) with
        | false => rfl
        | true => exact absurd (Or.inr (by simpa [fieldType] using hs)) h3
      simp only [isSubArray, Bool.or_eq_false_iff, Option.isNone_eq_false_iff] at hsub
      obtain ⟨⟨hns, hna⟩, hsz⟩ := hsub
      cases len with
      | fixed n =>
        cases e with
        | sc s a =>
          cases s with
          | void => simp at hsh
          | leb sg => simp [Ty.size, Scalar.size] at hsz
          | pint _ _ | pflt _ => exact ⟨_, some n, _, rfl, by simp, rfl, rfl, rfl, Or.inl rfl⟩
          | aint _ _ | char | wchar => exact ⟨_, some n, _, rfl, by simp, rfl, rfl, rfl, Or.inr ⟨rfl, rfl⟩⟩
        | enum b a fl =>
          simp only at hsh
          cases b with
          | pint _ _ => exact ⟨_, some n, _, rfl, by simp, rfl, rfl, rfl, Or.inl rfl⟩
          | aint _ _ => exact ⟨_, some n, _, rfl, by simp, rfl, rfl, rfl, Or.inr ⟨rfl, rfl⟩⟩
          | _ => simp [isIntBase] at hsh
        | ptr t =>
          simp only at hsh
          have hpk : isPacked cfg.ptr = true := by
            cases hc : isPacked cfg.ptr with
            | true => rfl
            | false => exact absurd ⟨by simp [fieldType, elementType, isPtrTy], by simp [hc]⟩ h2
          cases hp : cfg.ptr with
          | pint k sg =>
            refine ⟨.pint k sg, some n, k, by simp [readType, hp], by simp, rfl, by simp [Ty.size, hp, Scalar.size], ?_, Or.inl rfl⟩
            simp [expectDec, readType, hp, slotDec, isPlainArray, arrElemIsPtr]
          | pflt k => simp [hp, isFloatSc] at hsh
          | _ => simp [hp, isPacked] at hpk
        | arr _ _ => simp [isArrTy] at hna
        | struct _ _ => simp [isStructTy] at hns
        | union _ _ => simp [isStructTy] at hns
      | expr _ => simp [Ty.size] at hsz
      | nullTerm => simp [Ty.size] at hsz
      | eof => simp [Ty.size] at hsz
    | struct _ _ => exact absurd (Or.inl (by simp [fieldType, isStructTy])) h3
    | union _ _ => exact absurd (Or.inl (by simp [fieldType, isStructTy])) h3

end Cstruct.Compiler
