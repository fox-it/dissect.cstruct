/-
  The member loop `readFields` on a cut input, followed together with the layout from an arbitrary layout state and an
  arbitrary incoming bit buffer that agree: `BInv` (reader and layout in step; in aligned mode the alignment of a bit-field
  is the size of its storage scalar) or `BInvW` (the alignment is any function of the storage scalar, which allows
  int24/int48: the layout opens a unit for every bit-field while the reader keeps its unit and only seeks, `Desync`).
-/
import Proofs.Lemmas.CoreWinElem
import Proofs.Lemmas.CoreWinLayout
import Proofs.Spec.CoreWinBits
namespace Cstruct.Core.Lemmas.WinBits
open Cstruct Cstruct.Core

theorem alignTo_le_of_dvd {a : Nat} (ha : IsP2 a) (x m : Nat) (hm : a ∣ m) (hx : x ≤ m) : alignTo true x a ≤ m := by
  have hpos := ha.pos
  simp only [alignTo, if_true]
  rw [padNat_p2_eq ha]
  by_cases h0 : x % a = 0
  · rw [h0, Nat.sub_zero, Nat.mod_self]; omega
  · obtain ⟨c, rfl⟩ := hm
    have hr : x % a < a := Nat.mod_lt _ hpos
    rw [Nat.mod_eq_of_lt (by omega)]
    have hlt : x < a * c := by
      rcases Nat.lt_or_ge x (a * c) with h | h
      · exact h
      · have : x = a * c := by omega
        rw [this, Nat.mul_mod_right] at h0
        exact absurd rfl h0
    have hq : x / a < c := Nat.div_lt_of_lt_mul hlt
    have h1 : a * (x / a + 1) ≤ a * c := Nat.mul_le_mul_left a hq
    have h2 := Nat.div_add_mod x a
    rw [Nat.mul_add, Nat.mul_one] at h1
    omega

theorem alignTo_mono {a : Nat} (ha : a = 0 ∨ IsP2 a) (al : Bool) (x y : Nat) (h : x ≤ y) : alignTo al x a ≤ alignTo al y a := by
  cases al with
  | false => exact h
  | true =>
    rcases ha with rfl | ha
    · simp only [alignTo, if_true, padNat_zero]; omega
    · exact alignTo_le_of_dvd ha x _ (alignTo_dvd ha y) (Nat.le_trans h (le_alignTo true y a))

theorem alignTo_gt_of_not_dvd {a : Nat} (ha : IsP2 a) (x : Nat) (h : ¬ (a ∣ x)) : alignTo true x a > x := by
  have h1 := le_alignTo true x a
  have h2 := alignTo_dvd ha x
  rcases Nat.lt_or_ge x (alignTo true x a) with h3 | h3
  · exact h3
  · have : alignTo true x a = x := by omega
    rw [this] at h2; exact absurd h2 h

theorem fieldPos_none_eq (cfg : Cfg) (al : Bool) (ty : Ty) (start pos : Nat) :
    fieldPos cfg al ty none start pos = alignTo al pos (ty.alignment cfg) := by
  cases al <;> simp [fieldPos, alignTo]

theorem fieldPos_facts {cfg : Cfg} {al : Bool} {ty : Ty} {so : Option Nat} {start pos : Nat}
    (hinv : ∀ o, so = some o → pos ≤ start + o) (hfa : IsP2 (ty.alignment cfg))
    (hdv : al = true → ty.alignment cfg ∣ start) :
    pos ≤ fieldPos cfg al ty (offOf cfg al ty so) start pos ∧
    (al = true → ty.alignment cfg ∣ fieldPos cfg al ty (offOf cfg al ty so) start pos) ∧
    (∀ o, so = some o → fieldPos cfg al ty (offOf cfg al ty so) start pos = start + alignTo al o (ty.alignment cfg)) := by
  cases so with
  | none =>
    rw [show offOf cfg al ty none = none from rfl, fieldPos_none_eq]
    exact ⟨le_alignTo _ _ _, fun ha => ha ▸ alignTo_dvd hfa pos, fun o ho => by cases ho⟩
  | some o =>
    have e : fieldPos cfg al ty (offOf cfg al ty (some o)) start pos = start + alignTo al o (ty.alignment cfg) := by
      simp [fieldPos, offOf]
    rw [e]
    have := hinv o rfl
    have := le_alignTo al o (ty.alignment cfg)
    exact ⟨by omega, fun ha => ha ▸ Nat.dvd_add (hdv ha) (alignTo_dvd hfa o), fun o' ho => by cases ho; rfl⟩

theorem readFields_cons_nb (cfg : Cfg) (al name an ty bits rest) (o : Option Nat) (offs start bb ctx data pos)
    (hb : isBitW bits = false) :
    readFields cfg al (.cons name an ty bits rest) (o :: offs) start bb ctx data pos =
      (read cfg ty ctx data (fieldPos cfg al ty o start pos)).bind fun (v, p1) =>
        (readFields cfg al rest offs start BitBuf.empty (ctx.set name v) data p1).bind fun (vs, szs, p') =>
          .ok (.cons v vs, (name, p1 - fieldPos cfg al ty o start pos) :: szs, p') := by
  rw [readFields_cons_nobits _ _ _ _ _ _ _ _ _ _ _ _ _ hb]; rfl

theorem readFields_cons_bitfield (cfg : Cfg) (al name an ty b rest) (o : Option Nat) (offs start bb ctx data pos) :
    readFields cfg al (.cons name an ty (some (b + 1)) rest) (o :: offs) start bb ctx data pos =
      match ty.bitBase with
      | none => .error .typeErr
      | some ft =>
        (loadUnit cfg ft bb data (fieldPos cfg al ty o start pos)).bind fun (bb1, p1) =>
          match bb1.take cfg.endian (b + 1) with
          | none => .error .value
          | some (v, bb2) =>
            (readFields cfg al rest offs start bb2 (ctx.set name (bitVal ty v)) data p1).bind
              fun (vs, szs, p') => .ok (.cons (bitVal ty v) vs, szs, p') := by
  rw [readFields_cons_bits]; rfl

theorem readFields_nb_ok {cfg : Cfg} {al name an ty bits rest} {o : Option Nat} {offs start bb ctx d pos vs szs p}
    (hb : isBitW bits = false)
    (h : readFields cfg al (.cons name an ty bits rest) (o :: offs) start bb ctx d pos = .ok (vs, szs, p)) :
    ∃ v p1 vs' szs', read cfg ty ctx d (fieldPos cfg al ty o start pos) = .ok (v, p1) ∧
      readFields cfg al rest offs start BitBuf.empty (ctx.set name v) d p1 = .ok (vs', szs', p) ∧
      ∀ d', read cfg ty ctx d' (fieldPos cfg al ty o start pos) = .ok (v, p1) →
        readFields cfg al rest offs start BitBuf.empty (ctx.set name v) d' p1 = .ok (vs', szs', p) →
        readFields cfg al (.cons name an ty bits rest) (o :: offs) start bb ctx d' pos = .ok (vs, szs, p) := by
  rw [readFields_cons_nb _ _ _ _ _ _ _ _ _ _ _ _ _ _ hb] at h
  obtain ⟨⟨v, p1⟩, h1, h2⟩ := bind_ok h
  obtain ⟨⟨vs', szs', p'⟩, h3, h4⟩ := bind_ok h2
  have hp : p' = p := by cases h4; rfl
  subst hp
  refine ⟨v, p1, vs', szs', h1, h3, fun d' e1 e3 => ?_⟩
  rw [readFields_cons_nb _ _ _ _ _ _ _ _ _ _ _ _ _ _ hb, e1]
  simp only [Except.bind]
  rw [e3]
  exact h4

theorem readFields_bit_ok {cfg : Cfg} {al name an ty b rest} {o : Option Nat} {offs start bb ctx d pos vs szs p}
    (h : readFields cfg al (.cons name an ty (some (b + 1)) rest) (o :: offs) start bb ctx d pos = .ok (vs, szs, p)) :
    ∃ ft bb1 p1 v bb2 vs', ty.bitBase = some ft ∧
      loadUnit cfg ft bb d (fieldPos cfg al ty o start pos) = .ok (bb1, p1) ∧ bb1.take cfg.endian (b + 1) = some (v, bb2) ∧
      readFields cfg al rest offs start bb2 (ctx.set name (bitVal ty v)) d p1 = .ok (vs', szs, p) ∧
      ∀ d', loadUnit cfg ft bb d' (fieldPos cfg al ty o start pos) = .ok (bb1, p1) →
        readFields cfg al rest offs start bb2 (ctx.set name (bitVal ty v)) d' p1 = .ok (vs', szs, p) →
        readFields cfg al (.cons name an ty (some (b + 1)) rest) (o :: offs) start bb ctx d' pos = .ok (vs, szs, p) := by
  rw [readFields_cons_bitfield] at h
  cases hbase : ty.bitBase with
  | none => rw [hbase] at h; cases h
  | some ft =>
    rw [hbase] at h; simp only [] at h
    obtain ⟨⟨bb1, p1⟩, hld, h2⟩ := bind_ok h
    cases htk : bb1.take cfg.endian (b + 1) with
    | none => simp only [htk] at h2; cases h2
    | some vb =>
      obtain ⟨v, bb2⟩ := vb
      simp only [htk] at h2
      obtain ⟨⟨vs', szs', p'⟩, h3, h4⟩ := bind_ok h2
      cases h4
      refine ⟨ft, bb1, p1, v, bb2, vs', rfl, hld, htk, h3, fun d' e1 e3 => ?_⟩
      rw [readFields_cons_bitfield, hbase]
      simp only []
      rw [e1]
      simp only [Except.bind, htk]
      rw [e3]

theorem load_new {cfg : Cfg} {ft : Scalar} {bb : BitBuf} {d : Bytes} {fp : Nat} {bb1 : BitBuf} {p1 b : Nat} {v : Int}
    {bb2 : BitBuf} {fsz : Nat} (hc : bb.remaining = 0 ∨ bb.ty ≠ some ft) (hsz : ft.size = some fsz)
    (hld : loadUnit cfg ft bb d fp = .ok (bb1, p1)) (htk : bb1.take cfg.endian (b + 1) = some (v, bb2)) :
    p1 = fp + fsz ∧ bb2.ty = some ft ∧ (bb2.remaining : Int) = ((fsz * 8 : Nat) : Int) - ((b + 1 : Nat) : Int) := by
  obtain ⟨t1, t2, t3⟩ := bitBuf_take_ok htk
  obtain ⟨fsz', l1, l2, l3, l4⟩ := loadUnit_reload hc hld
  rw [hsz] at l1; cases l1
  exact ⟨l2, t1.trans l3, by rw [t3, l4]; rw [l4] at t2; omega⟩

theorem load_keep {cfg : Cfg} {ft : Scalar} {bb : BitBuf} {d : Bytes} {fp : Nat} {bb1 : BitBuf} {p1 b : Nat} {v : Int}
    {bb2 : BitBuf} (hc : ¬ (bb.remaining = 0 ∨ bb.ty ≠ some ft))
    (hld : loadUnit cfg ft bb d fp = .ok (bb1, p1)) (htk : bb1.take cfg.endian (b + 1) = some (v, bb2)) :
    p1 = fp ∧ bb.ty = some ft ∧ bb2.ty = some ft ∧ bb.remaining ≠ 0 ∧
      (bb2.remaining : Int) = (bb.remaining : Int) - ((b + 1 : Nat) : Int) := by
  obtain ⟨t1, t2, t3⟩ := bitBuf_take_ok htk
  obtain ⟨rfl, rfl⟩ := loadUnit_keep hc hld
  have hbt : bb1.ty = some ft := Decidable.byContradiction fun e => hc (Or.inr e)
  exact ⟨rfl, hbt, t1.trans hbt, fun e => hc (Or.inl e), by rw [t3]; omega⟩

theorem third_cases {ft : Scalar} {fsz : Nat} {st : LState} {off : Option Nat} {nu : Bool} (hsz : ft.size = some fsz)
    (h : Layout.third st ft off = .ok nu) :
    ((st.bitsRemaining = 0 ∨ some ft ≠ st.bitsType) ∧ nu = true) ∨
    (st.bitsRemaining ≠ 0 ∧ st.bitsType = some ft ∧
      ((∃ o bfo, off = some o ∧ st.bitsFieldOffset = some bfo ∧ nu = decide (o > bfo + fsz)) ∨
       ((off = none ∨ st.bitsFieldOffset = none) ∧ nu = false))) := by
  unfold Layout.third at h
  by_cases hc : st.bitsRemaining = 0 ∨ some ft ≠ st.bitsType
  · rw [if_pos hc] at h; cases h; exact Or.inl ⟨hc, rfl⟩
  · rw [if_neg hc] at h
    have ht : st.bitsType = some ft := Decidable.byContradiction fun e => hc (Or.inr fun e' => e e'.symm)
    refine Or.inr ⟨fun e => hc (Or.inl e), ht, ?_⟩
    rw [ht] at h
    simp only [hsz] at h
    cases off with
    | none => cases h; exact Or.inr ⟨Or.inl rfl, rfl⟩
    | some o =>
      cases hb : st.bitsFieldOffset with
      | none => rw [hb] at h; cases h; exact Or.inr ⟨Or.inr rfl, rfl⟩
      | some bfo =>
        rw [hb] at h
        simp only [Except.ok.injEq] at h
        exact Or.inl ⟨o, bfo, rfl, rfl, h.symm⟩

theorem stBit_new_off {cfg : Cfg} {al : Bool} {ty : Ty} {ft : Scalar} {fsz w : Nat} {st : LState} {o' : Nat}
    (h : (stBit cfg al ty ft fsz w true st).offset = some o') :
    ∃ o, st.offset = some o ∧ o' = alignTo al o (ty.alignment cfg) + fsz := by
  cases ho : st.offset with
  | none => simp [stBit, Layout.stAfterBit, offOf, ho] at h
  | some o => simp [stBit, Layout.stAfterBit, offOf, ho] at h; exact ⟨o, rfl, h.symm⟩

/-- a static running offset is the current position, the bit buffer holds what the layout thinks is left of the current
    unit, and inside a unit the running offset is at most the end of the unit (a multiple of the unit size in aligned mode) -/
structure BInv (al : Bool) (st : LState) (bb : BitBuf) (start pos : Nat) : Prop where
  off : ∀ o, st.offset = some o → pos = start + o
  ty : bb.ty = st.bitsType
  rem : (bb.remaining : Int) = st.bitsRemaining
  unit : st.bitsRemaining ≠ 0 → ∀ o bfo bt bs, st.offset = some o → st.bitsFieldOffset = some bfo →
    st.bitsType = some bt → bt.size = some bs → o ≤ bfo + bs ∧ (al = true → bs ∣ o)

theorem binv_mkSt {al : Bool} {so : Option Nat} {a start pos : Nat} (h : ∀ o, so = some o → pos = start + o) :
    BInv al (mkSt so a) BitBuf.empty start pos :=
  ⟨h, rfl, rfl, fun h0 => absurd rfl h0⟩

/-- the third disjunct of the layout's new-unit test never fires: the layout opens a unit exactly when the reader loads one -/
theorem third_eq {cfg : Cfg} {al : Bool} {ty : Ty} {ft : Scalar} {fsz : Nat} {st : LState} {bb : BitBuf} {start pos : Nat}
    {nu : Bool} (hI : BInv al st bb start pos) (hsz : ft.size = some fsz) (hfa : IsP2 (ty.alignment cfg))
    (hnat : al = true → fsz = ty.alignment cfg)
    (h : Layout.third st ft (offOf cfg al ty st.offset) = .ok nu) :
    (nu = true ∧ (bb.remaining = 0 ∨ bb.ty ≠ some ft)) ∨ (nu = false ∧ ¬ (bb.remaining = 0 ∨ bb.ty ≠ some ft)) := by
  have hrem := hI.rem
  rcases third_cases hsz h with ⟨hc, rfl⟩ | ⟨hr, ht, hcase⟩
  · refine Or.inl ⟨rfl, ?_⟩
    rcases hc with hc | hc
    · exact Or.inl (by omega)
    · exact Or.inr fun e => hc (e.symm.trans hI.ty)
  · have hnc : ¬ (bb.remaining = 0 ∨ bb.ty ≠ some ft) := by
      rintro (e | e)
      · omega
      · exact e (hI.ty.trans ht)
    refine Or.inr ⟨?_, hnc⟩
    rcases hcase with ⟨o', bfo, ho', hbfo, rfl⟩ | ⟨_, rfl⟩
    · obtain ⟨o, ho, rfl⟩ := offOf_some ho'
      obtain ⟨u1, u2⟩ := hI.unit hr o bfo ft fsz ho hbfo ht hsz
      rw [alignTo_of_dvd hfa al o (fun ha => hnat ha ▸ u2 ha)]
      exact decide_eq_false (by omega)
    · rfl

theorem bit_step {cfg : Cfg} {al : Bool} {ty : Ty} {ft : Scalar} {fsz b : Nat} {st : LState} {bb : BitBuf} {start pos : Nat}
    {d : Bytes} {nu : Bool} {bb1 : BitBuf} {p1 : Nat} {v : Int} {bb2 : BitBuf}
    (hI : BInv al st bb start pos) (hsz : ft.size = some fsz) (hfa : IsP2 (ty.alignment cfg))
    (hnat : al = true → fsz = ty.alignment cfg) (hdv : al = true → ty.alignment cfg ∣ start)
    (hth : Layout.third st ft (offOf cfg al ty st.offset) = .ok nu)
    (hld : loadUnit cfg ft bb d (fieldPos cfg al ty (if nu then offOf cfg al ty st.offset else none) start pos) = .ok (bb1, p1))
    (htk : bb1.take cfg.endian (b + 1) = some (v, bb2)) :
    pos ≤ p1 ∧ BInv al (stBit cfg al ty ft fsz (b + 1) nu st) bb2 start p1 := by
  rcases third_eq hI hsz hfa hnat hth with ⟨rfl, hc⟩ | ⟨rfl, hc⟩
  · -- both open a new unit
    simp only [if_true] at hld
    obtain ⟨f1, f2, f3⟩ := fieldPos_facts (fun o ho => Nat.le_of_eq (hI.off o ho)) hfa hdv
    obtain ⟨l2, l3, l4⟩ := load_new hc hsz hld htk
    refine ⟨by omega, ⟨fun o' ho' => ?_, l3, l4, fun _ o' bfo bt bs ho' hbfo hbt hbs => ?_⟩⟩
    · obtain ⟨o, ho, rfl⟩ := stBit_new_off ho'
      rw [l2, f3 o ho]; omega
    · obtain ⟨o, ho, rfl⟩ := stBit_new_off ho'
      obtain ⟨o2, ho2, rfl⟩ := offOf_some (so := st.offset) hbfo
      rw [ho] at ho2; cases ho2
      cases (hbt : some ft = some bt)
      rw [hsz] at hbs; cases hbs
      exact ⟨Nat.le_refl _, fun ha => ha ▸ Nat.dvd_add (hnat ha ▸ alignTo_dvd hfa o) (Nat.dvd_refl _)⟩
  · -- both continue the unit
    simp only [Bool.false_eq_true, if_false] at hld
    rw [fieldPos_none_eq] at hld
    obtain ⟨rfl, hbt, l3, hbr, l4⟩ := load_keep hc hld htk
    have hsr : st.bitsRemaining ≠ 0 := by have := hI.rem; omega
    have hst : st.bitsType = some ft := hI.ty.symm.trans hbt
    refine ⟨le_alignTo _ _ _, ⟨fun o' ho' => ?_, l3.trans hst.symm, by rw [l4, hI.rem]; rfl,
      fun _ o' bfo bt bs ho' hbfo hbt' hbs => ?_⟩⟩
    · obtain ⟨o, ho, rfl⟩ := offOf_some (so := st.offset) ho'
      rw [hI.off o ho]
      cases al with
      | false => rfl
      | true => exact alignTo_add (Or.inr hfa) true start o (hdv rfl)
    · obtain ⟨o, ho, rfl⟩ := offOf_some (so := st.offset) ho'
      obtain ⟨u1, u2⟩ := hI.unit hsr o bfo bt bs ho hbfo hbt' hbs
      cases hst.symm.trans (hbt' : st.bitsType = some bt)
      rw [hsz] at hbs; cases hbs
      rw [alignTo_of_dvd hfa al o (fun ha => hnat ha ▸ u2 ha)]
      exact ⟨u1, u2⟩

/-- inside a unit with static offsets the running offset is the unit's end and (aligned mode) the unit's start is a
    multiple of the alignment `g` assigns to the storage type -/
structure Sync (al : Bool) (g : Scalar → Nat) (st : LState) (bb : BitBuf) : Prop where
  rem : (bb.remaining : Int) = st.bitsRemaining
  unit : st.bitsRemaining ≠ 0 → ∀ o bfo bt bs, st.offset = some o → st.bitsFieldOffset = some bfo →
    st.bitsType = some bt → bt.size = some bs → o = bfo + bs ∧ (al = true → g bt ∣ bfo)

/-- aligned mode, storage type whose alignment does not divide its size (int24, int48): the layout has opened a unit at
    `a` that the reader did not load (it still had bits left); from now on the layout opens a new unit for every further
    bit-field of this type, so the reader is always told where to seek -/
def Desync (al : Bool) (g : Scalar → Nat) (st : LState) : Prop :=
  al = true ∧ ∃ a ft fsz, st.offset = some (a + fsz) ∧ st.bitsFieldOffset = some a ∧ st.bitsType = some ft ∧
    ft.size = some fsz ∧ g ft ∣ a ∧ ¬ (g ft ∣ fsz)

structure BInvW (al : Bool) (g : Scalar → Nat) (st : LState) (bb : BitBuf) (start pos : Nat) : Prop where
  off : ∀ o, st.offset = some o → pos ≤ start + o
  ty : bb.ty = st.bitsType
  mode : Sync al g st bb ∨ Desync al g st

theorem binvw_mkSt {al : Bool} {g : Scalar → Nat} {so : Option Nat} {a start pos : Nat}
    (h : ∀ o, so = some o → pos ≤ start + o) : BInvW al g (mkSt so a) BitBuf.empty start pos :=
  ⟨h, rfl, Or.inl ⟨rfl, fun h0 => absurd rfl h0⟩⟩

theorem new_both {cfg : Cfg} {al : Bool} {g : Scalar → Nat} {ty : Ty} {ft : Scalar} {fsz b : Nat} {st : LState} {bb : BitBuf}
    {start pos : Nat} {d : Bytes} {bb1 : BitBuf} {p1 : Nat} {v : Int} {bb2 : BitBuf}
    (hoff : ∀ o, st.offset = some o → pos ≤ start + o) (hsz : ft.size = some fsz) (hfa : IsP2 (ty.alignment cfg))
    (hg : al = true → ty.alignment cfg = g ft) (hdv : al = true → ty.alignment cfg ∣ start)
    (hc : bb.remaining = 0 ∨ bb.ty ≠ some ft)
    (hld : loadUnit cfg ft bb d (fieldPos cfg al ty (offOf cfg al ty st.offset) start pos) = .ok (bb1, p1))
    (htk : bb1.take cfg.endian (b + 1) = some (v, bb2)) :
    pos ≤ p1 ∧ BInvW al g (stBit cfg al ty ft fsz (b + 1) true st) bb2 start p1 := by
  obtain ⟨f1, f2, f3⟩ := fieldPos_facts hoff hfa hdv
  obtain ⟨l2, l3, l4⟩ := load_new hc hsz hld htk
  refine ⟨by omega, ⟨fun o' ho' => ?_, l3, Or.inl ⟨l4, fun _ o' bfo bt bs ho' hbfo hbt hbs => ?_⟩⟩⟩
  · obtain ⟨o, ho, rfl⟩ := stBit_new_off ho'
    rw [l2, f3 o ho]; omega
  · obtain ⟨o, ho, rfl⟩ := stBit_new_off ho'
    obtain ⟨o2, ho2, rfl⟩ := offOf_some (so := st.offset) hbfo
    rw [ho] at ho2; cases ho2
    cases (hbt : some ft = some bt)
    rw [hsz] at hbs; cases hbs
    exact ⟨rfl, fun ha => by subst ha; rw [← hg rfl]; exact alignTo_dvd hfa o⟩

/-- the reader keeps its unit and only seeks (aligned mode, int24/int48) -/
theorem new_layout_only {cfg : Cfg} {g : Scalar → Nat} {ty : Ty} {ft : Scalar} {fsz b : Nat} {st : LState} {bb : BitBuf}
    {start pos : Nat} {d : Bytes} {bb1 : BitBuf} {p1 : Nat} {v : Int} {bb2 : BitBuf} {o : Nat}
    (ho : st.offset = some o) (hpos : pos ≤ start + o) (hsz : ft.size = some fsz) (hfa : IsP2 (ty.alignment cfg))
    (hg : ty.alignment cfg = g ft) (hnd : ¬ (g ft ∣ fsz))
    (hc : ¬ (bb.remaining = 0 ∨ bb.ty ≠ some ft))
    (hld : loadUnit cfg ft bb d (fieldPos cfg true ty (offOf cfg true ty st.offset) start pos) = .ok (bb1, p1))
    (htk : bb1.take cfg.endian (b + 1) = some (v, bb2)) :
    pos ≤ p1 ∧ BInvW true g (stBit cfg true ty ft fsz (b + 1) true st) bb2 start p1 := by
  have hfp : fieldPos cfg true ty (offOf cfg true ty st.offset) start pos = start + alignTo true o (ty.alignment cfg) := by
    rw [ho]; simp [fieldPos, offOf]
  rw [hfp] at hld
  obtain ⟨rfl, _, l3, _, _⟩ := load_keep hc hld htk
  have hle := le_alignTo true o (ty.alignment cfg)
  have hoff : (stBit cfg true ty ft fsz (b + 1) true st).offset = some (alignTo true o (ty.alignment cfg) + fsz) := by
    simp only [stBit, Layout.stAfterBit, if_true, ho, offOf, Option.map_some]
  have hbfo : (stBit cfg true ty ft fsz (b + 1) true st).bitsFieldOffset = some (alignTo true o (ty.alignment cfg)) := by
    simp only [stBit, Layout.stAfterBit, if_true, ho, offOf, Option.map_some]
  refine ⟨by omega, ⟨fun o' ho' => ?_, l3, Or.inr ⟨rfl, _, ft, fsz, hoff, hbfo, rfl, hsz, hg ▸ alignTo_dvd hfa o, hnd⟩⟩⟩
  rw [hoff] at ho'; cases ho'; omega

theorem cont_both {cfg : Cfg} {al : Bool} {g : Scalar → Nat} {ty : Ty} {ft : Scalar} {fsz b : Nat} {st : LState} {bb : BitBuf}
    {start pos : Nat} {d : Bytes} {bb1 : BitBuf} {p1 : Nat} {v : Int} {bb2 : BitBuf}
    (hoff : ∀ o, st.offset = some o → pos ≤ start + o) (hty : bb.ty = st.bitsType) (hS : Sync al g st bb)
    (hfa : IsP2 (ty.alignment cfg)) (hdv : al = true → ty.alignment cfg ∣ start)
    (hc : ¬ (bb.remaining = 0 ∨ bb.ty ≠ some ft))
    (hstay : ∀ o bfo, st.offset = some o → st.bitsFieldOffset = some bfo → alignTo al o (ty.alignment cfg) = o)
    (hld : loadUnit cfg ft bb d (fieldPos cfg al ty none start pos) = .ok (bb1, p1))
    (htk : bb1.take cfg.endian (b + 1) = some (v, bb2)) :
    pos ≤ p1 ∧ BInvW al g (stBit cfg al ty ft fsz (b + 1) false st) bb2 start p1 := by
  rw [fieldPos_none_eq] at hld
  obtain ⟨rfl, hbt, l3, hbr, l4⟩ := load_keep hc hld htk
  have hsr : st.bitsRemaining ≠ 0 := by have := hS.rem; omega
  refine ⟨le_alignTo _ _ _, ⟨fun o' ho' => ?_, l3.trans (hbt.symm.trans hty), Or.inl ⟨by rw [l4, hS.rem]; rfl,
    fun _ o' bfo bt bs ho' hbfo hbt' hbs => ?_⟩⟩⟩
  · obtain ⟨o, ho, rfl⟩ := offOf_some (so := st.offset) ho'
    have h1 := alignTo_mono (Or.inr hfa) al pos (start + o) (hoff o ho)
    have h2 : alignTo al (start + o) (ty.alignment cfg) = start + alignTo al o (ty.alignment cfg) := by
      cases al with
      | false => rfl
      | true => exact alignTo_add (Or.inr hfa) true start o (hdv rfl)
    omega
  · obtain ⟨o, ho, rfl⟩ := offOf_some (so := st.offset) ho'
    rw [hstay o bfo ho hbfo]
    exact hS.unit hsr o bfo bt bs ho hbfo hbt' hbs

/-- a desynchronised state makes the layout open a unit for every further bit-field of the type: the re-aligned end of
    the unit lies behind the unit -/
theorem desync_new {cfg : Cfg} {al : Bool} {g : Scalar → Nat} {ty : Ty} {ft : Scalar} {fsz : Nat} {st : LState} {nu : Bool}
    (hD : Desync al g st) (ht : st.bitsType = some ft) (hsz : ft.size = some fsz) (hfa : IsP2 (ty.alignment cfg))
    (hg : al = true → ty.alignment cfg = g ft)
    (hcase : (∃ o bfo, offOf cfg al ty st.offset = some o ∧ st.bitsFieldOffset = some bfo ∧ nu = decide (o > bfo + fsz)) ∨
      ((offOf cfg al ty st.offset = none ∨ st.bitsFieldOffset = none) ∧ nu = false)) : nu = true := by
  obtain ⟨rfl, a, ft0, fsz0, ho, hb, hbt, hs0, hd, hnd⟩ := hD
  rw [hbt] at ht; cases ht
  rw [hsz] at hs0; cases hs0
  rcases hcase with ⟨o', bfo, ho', hbfo, rfl⟩ | ⟨hnone, _⟩
  · obtain ⟨o, ho2, rfl⟩ := offOf_some ho'
    rw [ho] at ho2; cases ho2
    rw [hb] at hbfo; cases hbfo
    refine decide_eq_true (alignTo_gt_of_not_dvd hfa _ ?_)
    rw [hg rfl]
    exact fun h => hnd ((Nat.dvd_add_right hd).1 h)
  · rcases hnone with h | h
    · rw [ho] at h; cases h
    · rw [hb] at h; cases h

theorem bit_step_w {cfg : Cfg} {al : Bool} {g : Scalar → Nat} {ty : Ty} {ft : Scalar} {fsz b : Nat} {st : LState} {bb : BitBuf}
    {start pos : Nat} {d : Bytes} {nu : Bool} {bb1 : BitBuf} {p1 : Nat} {v : Int} {bb2 : BitBuf}
    (hI : BInvW al g st bb start pos) (hsz : ft.size = some fsz) (hfa : IsP2 (ty.alignment cfg))
    (hg : al = true → ty.alignment cfg = g ft) (hdv : al = true → ty.alignment cfg ∣ start)
    (hth : Layout.third st ft (offOf cfg al ty st.offset) = .ok nu)
    (hld : loadUnit cfg ft bb d (fieldPos cfg al ty (if nu then offOf cfg al ty st.offset else none) start pos) = .ok (bb1, p1))
    (htk : bb1.take cfg.endian (b + 1) = some (v, bb2)) :
    pos ≤ p1 ∧ BInvW al g (stBit cfg al ty ft fsz (b + 1) nu st) bb2 start p1 := by
  by_cases hc : bb.remaining = 0 ∨ bb.ty ≠ some ft
  · -- the reader loads a unit: the layout opens one too
    obtain rfl : nu = true := by
      rcases third_cases hsz hth with ⟨_, h⟩ | ⟨hr, ht, hcase⟩
      · exact h
      · rcases hI.mode with hS | hD
        · exfalso
          rcases hc with h | h
          · have := hS.rem; omega
          · exact h (hI.ty.trans ht)
        · exact desync_new hD ht hsz hfa hg hcase
    simp only [if_true] at hld
    exact new_both hI.off hsz hfa hg hdv hc hld htk
  · -- the reader goes on with its unit, which has the storage type of the field
    have ht : st.bitsType = some ft := hI.ty.symm.trans (Decidable.byContradiction fun e => hc (Or.inr e))
    rcases hI.mode with hS | hD
    · have hr : st.bitsRemaining ≠ 0 := fun e => hc (Or.inl (by have := hS.rem; omega))
      rcases third_cases hsz hth with ⟨hcL, _⟩ | ⟨_, _, hcase⟩
      · exact absurd hcL (fun h => h.elim hr (fun h => h ht.symm))
      · rcases hcase with ⟨o', bfo, ho', hbfo, rfl⟩ | ⟨hnone, rfl⟩
        · obtain ⟨o, ho, rfl⟩ := offOf_some ho'
          obtain ⟨u1, u2⟩ := hS.unit hr o bfo ft fsz ho hbfo ht hsz
          by_cases hgt : alignTo al o (ty.alignment cfg) > bfo + fsz
          · -- third disjunct: the re-aligned offset lies behind the unit; only in aligned mode
            rw [decide_eq_true hgt] at hld ⊢
            simp only [if_true] at hld
            cases al with
            | false => simp only [alignTo, Bool.false_eq_true, if_false] at hgt; omega
            | true =>
              refine new_layout_only ho (hI.off _ ho) hsz hfa (hg rfl) (fun hdv' => ?_) hc hld htk
              have : g ft ∣ o := by rw [u1]; exact Nat.dvd_add (u2 rfl) hdv'
              have := alignTo_of_dvd hfa true o (fun _ => by rw [hg rfl]; exact this)
              omega
          · rw [decide_eq_false hgt] at hld ⊢
            simp only [Bool.false_eq_true, if_false] at hld
            refine cont_both hI.off hI.ty hS hfa hdv hc (fun o2 bfo2 ho2 hb2 => ?_) hld htk
            rw [ho] at ho2; cases ho2
            rw [hbfo] at hb2; cases hb2
            have := le_alignTo al o (ty.alignment cfg)
            omega
        · simp only [Bool.false_eq_true, if_false] at hld
          refine cont_both hI.off hI.ty hS hfa hdv hc (fun o2 bfo2 ho2 hb2 => ?_) hld htk
          rcases hnone with h | h
          · rw [ho2] at h; cases h
          · rw [hb2] at h; cases h
    · -- the layout opens a unit at a static offset, the reader only seeks
      obtain rfl : nu = true := by
        rcases third_cases hsz hth with ⟨_, h⟩ | ⟨_, _, hcase⟩
        · exact h
        · exact desync_new hD ht hsz hfa hg hcase
      simp only [if_true] at hld
      obtain ⟨rfl, a, ft0, fsz0, ho, _, hbt, hs0, _, hnd⟩ := hD
      rw [hbt] at ht; cases ht
      rw [hsz] at hs0; cases hs0
      exact new_layout_only ho (hI.off _ ho) hsz hfa (hg rfl) hnd hc hld htk

theorem bitsAlignBy_nb {cfg : Cfg} {g : Scalar → Nat} {name an ty bits rest} (hb : isBitW bits = false)
    (h : Fields.bitsAlignBy cfg g (.cons name an ty bits rest) = true) :
    ty.bitsAlignBy cfg g = true ∧ Fields.bitsAlignBy cfg g rest = true := by
  rcases bits with _ | _ | b
  · simpa only [Fields.bitsAlignBy, Bool.and_eq_true] using h
  · simpa only [Fields.bitsAlignBy, Bool.and_eq_true] using h
  · cases hb

theorem bitsAlignBy_bit {cfg : Cfg} {g : Scalar → Nat} {name an ty b rest}
    (h : Fields.bitsAlignBy cfg g (.cons name an ty (some (b + 1)) rest) = true) :
    Fields.bitsAlignBy cfg g rest = true := by
  simp only [Fields.bitsAlignBy, Bool.and_eq_true] at h
  exact h.2

theorem bitsAlignBy_head {cfg : Cfg} {g : Scalar → Nat} {name an ty b rest ft}
    (h : Fields.bitsAlignBy cfg g (.cons name an ty (some (b + 1)) rest) = true) (hbase : ty.bitBase = some ft) :
    ty.alignment cfg = g ft := by
  simp only [Fields.bitsAlignBy, hbase, Bool.and_eq_true, beq_iff_eq] at h
  exact h.1

/-- the member loop from `pos` to `p`: the position does not go back, the end aligned to `sa` compares by `R` with start +
    static size, and the loop gives the same result on the input cut at or after `p` -/
def FieldsPTr (R : Nat → Nat → Prop) (cfg : Cfg) (al : Bool) (d : Bytes) (fs : Fields) (offs : List (Option Nat)) (start : Nat)
    (bb : BitBuf) (ctx : Ctx) (pos : Nat) (sz : Option Nat) (sa : Nat) (vs : Vals) (szs : List (String × Nat)) (p : Nat) : Prop :=
  pos ≤ p ∧ (∀ k, sz = some k → R (alignTo al p sa) (start + k)) ∧
  ∀ q, p ≤ q → readFields cfg al fs offs start bb ctx (d.take q) pos = .ok (vs, szs, p)

/-- `FieldsPTr (· = ·)` -/
def FieldsPT (cfg : Cfg) (al : Bool) (d : Bytes) (fs : Fields) (offs : List (Option Nat)) (start : Nat) (bb : BitBuf)
    (ctx : Ctx) (pos : Nat) (sz : Option Nat) (sa : Nat) (vs : Vals) (szs : List (String × Nat)) (p : Nat) : Prop :=
  pos ≤ p ∧ (∀ k, sz = some k → alignTo al p sa = start + k) ∧
  ∀ q, p ≤ q → readFields cfg al fs offs start bb ctx (d.take q) pos = .ok (vs, szs, p)

/-- `FieldsPTr (· ≤ ·)` -/
def FieldsPTw (cfg : Cfg) (al : Bool) (d : Bytes) (fs : Fields) (offs : List (Option Nat)) (start : Nat) (bb : BitBuf)
    (ctx : Ctx) (pos : Nat) (sz : Option Nat) (sa : Nat) (vs : Vals) (szs : List (String × Nat)) (p : Nat) : Prop :=
  pos ≤ p ∧ (∀ k, sz = some k → alignTo al p sa ≤ start + k) ∧
  ∀ q, p ≤ q → readFields cfg al fs offs start bb ctx (d.take q) pos = .ok (vs, szs, p)

theorem fields_nb {R : Nat → Nat → Prop} (hC : Cmp R) {cfg : Cfg} {al : Bool} {d : Bytes} {name an ty bits rest}
    {st : LState} {start : Nat} {bb : BitBuf} {ctx : Ctx} {pos : Nat} {sz : Option Nat} {sa : Nat}
    {offs : List (Option Nat)} {vs : Vals} {szs : List (String × Nat)} {p : Nat} (hb : isBitW bits = false)
    (hl : Fields.layout cfg al (.cons name an ty bits rest) st = .ok (sz, sa, offs))
    (hr : readFields cfg al (.cons name an ty bits rest) offs start bb ctx d pos = .ok (vs, szs, p))
    (hoff : ∀ o, st.offset = some o → R pos (start + o)) (hfa : IsP2 (ty.alignment cfg))
    (hdv : al = true → ty.alignment cfg ∣ start) (hE : ElemPFr R cfg al ty d) (hT : ElemT cfg al ty d)
    (hrest : ∀ offs' v p1 vs' szs',
      Fields.layout cfg al rest (mkSt (nextOf cfg al ty st.offset) (max st.alignment (ty.alignment cfg))) = .ok (sz, sa, offs') →
      readFields cfg al rest offs' start BitBuf.empty (ctx.set name v) d p1 = .ok (vs', szs', p) →
      (∀ o, nextOf cfg al ty st.offset = some o → R p1 (start + o)) →
      FieldsPTr R cfg al d rest offs' start BitBuf.empty (ctx.set name v) p1 sz sa vs' szs' p) :
    FieldsPTr R cfg al d (.cons name an ty bits rest) offs start bb ctx pos sz sa vs szs p := by
  obtain ⟨offs', rfl, hl1⟩ := layout_nb_ok hb hl
  obtain ⟨v, p1, vs', szs', h1, h3, hw⟩ := readFields_nb_ok hb hr
  obtain ⟨f1, f2, f3⟩ := fieldPos_facts (fun o ho => hC.le (hoff o ho)) hfa hdv
  generalize fieldPos cfg al ty (offOf cfg al ty st.offset) start pos = fp at *
  have hsa : al = true → sAlign cfg ty ∣ fp := fun ha => Nat.dvd_trans (sAlign_dvd_alignment cfg ty) (f2 ha)
  obtain ⟨a1, _, a3⟩ := hE ctx fp v p1 h1 hsa
  obtain ⟨b1, b2, b3⟩ := hrest offs' v p1 vs' szs' hl1 h3 (fun o' ho' => by
    obtain ⟨o, k, ho, hk, rfl⟩ := nextOf_some ho'
    have := a3 k hk
    rwa [f3 o ho, Nat.add_assoc] at this)
  exact ⟨by omega, b2, fun q hq => hw _ (hT ctx fp v p1 h1 hsa q (by omega)) (b3 q hq)⟩

theorem struct_of_fields {R : Nat → Nat → Prop} {cfg : Cfg} {al : Bool} {fs : Fields} {d : Bytes} (hP : fs.pow2Aligned cfg)
    (F : ∀ pos sz offs vs szs pf, structLayout cfg al fs = .ok (sz, Fields.maxAlign cfg fs 0, offs) →
      readFields cfg al fs offs pos BitBuf.empty [] d pos = .ok (vs, szs, pf) → (al = true → allAlignDvd cfg pos fs) →
      (∀ x, alignTo al (pos + x) (Fields.maxAlign cfg fs 0) = pos + alignTo al x (Fields.maxAlign cfg fs 0)) →
      FieldsPTr R cfg al d fs offs pos BitBuf.empty [] pos sz (Fields.maxAlign cfg fs 0) vs szs pf) :
    ElemPFr R cfg al (.struct al fs) d ∧ ElemT cfg al (.struct al fs) d := by
  have hM := maxAlign_p2 cfg fs hP 0 (Or.inl rfl)
  have key : ∀ ctx pos v p, read cfg (.struct al fs) ctx d pos = .ok (v, p) →
      (al = true → sAlign cfg (.struct al fs) ∣ pos) →
      ∃ sz offs vs szs pf, structLayout cfg al fs = .ok (sz, Fields.maxAlign cfg fs 0, offs) ∧
        v = .record vs ∧ p = alignTo al pf (Fields.maxAlign cfg fs 0) ∧
        FieldsPTr R cfg al d fs offs pos BitBuf.empty [] pos sz (Fields.maxAlign cfg fs 0) vs szs pf := by
    intro ctx pos v p h hpos
    rw [read_struct] at h
    obtain ⟨⟨sz, sa, offs⟩, hl, h2⟩ := bind_ok h
    obtain ⟨⟨vs, szs, pf⟩, h3, h4⟩ := bind_ok h2
    have hsa := structLayout_align cfg al fs sz sa offs hl
    subst hsa
    cases h4
    refine ⟨sz, offs, vs, szs, pf, hl, rfl, rfl, F pos sz offs vs szs pf hl h3
      (fun ha => allAlignDvd_of_sAlign cfg al fs hP pos (hpos ha)) (fun x => ?_)⟩
    cases al with
    | false => rfl
    | true =>
      simp only [alignTo, if_true]
      rw [padNat_struct cfg true fs hP pos x (hpos rfl)]
      omega
  constructor
  · intro ctx pos v p h hpos
    obtain ⟨sz, offs, vs, szs, pf, hl, rfl, rfl, b1, b2, _⟩ := key ctx pos v p h hpos
    refine ⟨Nat.le_trans b1 (le_alignTo _ _ _), fun ha => ?_, fun k hk => ?_⟩
    · subst ha
      simp only [sAlign, Ty.alignment]
      split
      · exact Nat.one_dvd _
      · rename_i h0; exact alignTo_dvd (hM.resolve_left h0) pf
    · rw [struct_size_of_layout hl] at hk
      exact b2 k hk
  · intro ctx pos v p h hpos q hq
    obtain ⟨sz, offs, vs, szs, pf, hl, rfl, rfl, b1, b2, b3⟩ := key ctx pos v p h hpos
    rw [read_struct, hl]
    simp only [Except.bind]
    rw [b3 q (Nat.le_trans (le_alignTo _ _ _) hq)]
    rfl

/-- what the member loop needs of an invariant `I` between layout state and reader state (bit buffer, position) on the
    input `d`: it bounds the position by a static running offset, holds after a member that is not a bit-field, and is
    kept by a bit-field whose alignment is `g` of its storage scalar -/
structure LoopInv (R : Nat → Nat → Prop) (cfg : Cfg) (al : Bool) (g : Scalar → Nat) (d : Bytes)
    (I : LState → BitBuf → Nat → Nat → Prop) : Prop where
  off : ∀ {st bb start pos}, I st bb start pos → ∀ o, st.offset = some o → R pos (start + o)
  init : ∀ {so a start pos}, (∀ o, so = some o → R pos (start + o)) → I (mkSt so a) BitBuf.empty start pos
  bit : ∀ {ty ft fsz b st bb start pos nu bb1 p1 v bb2}, I st bb start pos → ft.size = some fsz →
    IsP2 (ty.alignment cfg) → (al = true → ty.alignment cfg = g ft) → (al = true → ty.alignment cfg ∣ start) →
    Layout.third st ft (offOf cfg al ty st.offset) = .ok nu →
    loadUnit cfg ft bb d (fieldPos cfg al ty (if nu then offOf cfg al ty st.offset else none) start pos) = .ok (bb1, p1) →
    bb1.take cfg.endian (b + 1) = some (v, bb2) → pos ≤ p1 ∧ I (stBit cfg al ty ft fsz (b + 1) nu st) bb2 start p1

theorem loopInv_le (cfg : Cfg) (al : Bool) (g : Scalar → Nat) (d : Bytes) : LoopInv (· ≤ ·) cfg al g d (BInvW al g) :=
  ⟨fun h => h.off, binvw_mkSt, bit_step_w⟩

theorem loopInv_eq (cfg : Cfg) (al : Bool) (d : Bytes) : LoopInv (· = ·) cfg al (fun s => s.size.getD 0) d (BInv al) :=
  ⟨fun h => h.off, binv_mkSt, fun hI hsz hfa hg => bit_step hI hsz hfa (fun ha => by rw [hg ha, hsz]; rfl)⟩

end Cstruct.Core.Lemmas.WinBits
