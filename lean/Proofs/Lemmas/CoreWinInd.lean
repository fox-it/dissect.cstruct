/-
  The mutual induction over types and member lists (`Ty.plainU`: bit-fields, covered unions anywhere), `win_ty` /
  `win_fields`, generic in the comparison and the loop invariant. Its two instances: `≤` with `BInvW` (`bitsAlignBy g`): the
  end position is at most start + static size; `=` with `BInv` (`g s = s.size`, of which `bitsNatural` and `noBits` are
  instances): it is exactly that. In both the input may be cut at or after the end position.
-/
import Proofs.Lemmas.CoreWinFields
import Proofs.Lemmas.C08Rigid

namespace Cstruct.Core.Lemmas
open Cstruct

theorem plainU_of_plain (cfg : Cfg) : ∀ ty : Ty, ty.plain = true → ty.plainU cfg = true := by
  intro ty
  exact (Ty.rec (motive_1 := fun ty => ty.plain = true → ty.plainU cfg = true)
    (motive_2 := fun fs => Fields.plain fs = true → Fields.plainU cfg fs = true)
    (fun _ _ _ => rfl) (fun _ _ _ _ => rfl) (fun _ _ _ => rfl)
    (fun e len ih h => by
      simp only [Ty.plain, Bool.and_eq_true] at h
      simp only [Ty.plainU, Bool.and_eq_true]
      exact ⟨h.1, ih h.2⟩)
    (fun _ fs ih h => by simp only [Ty.plain] at h; simp only [Ty.plainU]; exact ih h)
    (fun _ fs _ h => by simp [Ty.plain] at h)
    (fun _ => rfl)
    (fun n an t bits r iht ihr h => by
      simp only [Fields.plain, Bool.and_eq_true] at h
      simp only [Fields.plainU, Bool.and_eq_true]
      exact ⟨iht h.1, ihr h.2⟩) ty)

end Cstruct.Core.Lemmas

namespace Cstruct.Core
open Cstruct

theorem bitsAlignBy_of_bitsNatural (cfg : Cfg) : ∀ ty : Ty, ty.bitsNatural cfg = true →
    ty.bitsAlignBy cfg (fun s => s.size.getD 0) = true := by
  intro ty
  exact (Ty.rec (motive_1 := fun ty => ty.bitsNatural cfg = true → ty.bitsAlignBy cfg (fun s => s.size.getD 0) = true)
    (motive_2 := fun fs => Fields.bitsNatural cfg fs = true → Fields.bitsAlignBy cfg (fun s => s.size.getD 0) fs = true)
    (fun _ _ _ => rfl) (fun _ _ _ _ => rfl) (fun _ _ _ => rfl)
    (fun e _ ih h => by simp only [Ty.bitsNatural] at h; simp only [Ty.bitsAlignBy]; exact ih h)
    (fun _ fs ih h => by simp only [Ty.bitsNatural] at h; simp only [Ty.bitsAlignBy]; exact ih h)
    (fun _ fs ih h => by simp only [Ty.bitsNatural] at h; simp only [Ty.bitsAlignBy]; exact ih h)
    (fun _ => rfl)
    (fun n an t bits r iht ihr h => by
      simp only [Fields.bitsNatural, Bool.and_eq_true] at h
      rcases bits with _ | _ | b
      · simp only [Fields.bitsAlignBy, Bool.and_eq_true]; exact ⟨iht h.1, ihr h.2⟩
      · simp only [Fields.bitsAlignBy, Bool.and_eq_true]; exact ⟨iht h.1, ihr h.2⟩
      · simp only [Fields.bitsAlignBy, Bool.and_eq_true]
        refine ⟨?_, ihr h.2⟩
        cases hb : t.bitBase with
        | none => rfl
        | some s =>
          have h1 := h.1
          rw [hb] at h1
          simp only [beq_iff_eq] at h1 ⊢
          rw [h1]; rfl) ty)

/-- a type without bit-fields satisfies the side condition for every `g`: `read_prefix` is the special case -/
theorem bitsAlignBy_of_noBits (cfg : Cfg) (g : Scalar → Nat) : ∀ ty : Ty, ty.noBits = true → ty.bitsAlignBy cfg g = true := by
  intro ty
  exact (Ty.rec (motive_1 := fun ty => ty.noBits = true → ty.bitsAlignBy cfg g = true)
    (motive_2 := fun fs => Fields.noBits fs = true → Fields.bitsAlignBy cfg g fs = true)
    (fun _ _ _ => rfl) (fun _ _ _ _ => rfl) (fun _ _ _ => rfl)
    (fun e _ ih h => by simp only [Ty.noBits] at h; simp only [Ty.bitsAlignBy]; exact ih h)
    (fun _ fs ih h => by simp only [Ty.noBits] at h; simp only [Ty.bitsAlignBy]; exact ih h)
    (fun _ fs ih h => by simp only [Ty.noBits] at h; simp only [Ty.bitsAlignBy]; exact ih h)
    (fun _ => rfl)
    (fun n an t bits r iht ihr h => by
      simp only [Fields.noBits, Bool.and_eq_true] at h
      rcases bits with _ | _ | b
      · simp only [Fields.bitsAlignBy, Bool.and_eq_true]; exact ⟨iht h.1.2, ihr h.2⟩
      · simp only [Fields.bitsAlignBy, Bool.and_eq_true]; exact ⟨iht h.1.2, ihr h.2⟩
      · simp at h) ty)

end Cstruct.Core

namespace Cstruct.Core.Lemmas.WinBits
open Cstruct Cstruct.Core Cstruct.C08.Lemmas

theorem t_union (cfg : Cfg) (al : Bool) (a : Bool) (fs : Fields) (d : Bytes) : ElemT cfg al (.union a fs) d := by
  intro ctx pos v p h _ q hq
  obtain ⟨sz, vs, hsz, rfl, _, _⟩ := read_union_ok h
  rw [read_union, hsz] at h ⊢
  simp only [] at h ⊢
  rw [sread_take d pos sz q hq]
  exact h

theorem pf_union (cfg : Cfg) (al : Bool) (a : Bool) (fs : Fields) (d : Bytes) : ElemPF cfg al (.union a fs) d := by
  intro ctx pos v p h _
  obtain ⟨sz, vs, hsz, rfl, _, _⟩ := read_union_ok h
  exact ⟨Nat.le_add_right _ _, fun _ => Nat.one_dvd _, fun k hk => by rw [hsz] at hk; cases hk; rfl⟩

-- Position facts and truncation for every type of `plainU` and its member lists, for a comparison `R` and an invariant `I`
-- of the member loop; in aligned mode the alignment of a bit-field is `g` of its storage scalar.
mutual
theorem win_ty {R : Nat → Nat → Prop} (hC : Cmp R) {cfg : Cfg} {al : Bool} {g : Scalar → Nat} {d : Bytes}
    {I : LState → BitBuf → Nat → Nat → Prop} (K : LoopInv R cfg al g d I) : ∀ (ty : Ty), ty.plainU cfg = true →
    ty.uniformAlign al = true → ty.pow2Aligned cfg → (al = true → ty.bitsAlignBy cfg g = true) →
    ElemPFr R cfg al ty d ∧ ElemT cfg al ty d
  | .sc s a, _, _, _, _ => ⟨elemPFr_of_eq hC (pf_sc cfg al s a d), t_sc cfg al s a d⟩
  | .enum b a f, _, _, _, _ => ⟨elemPFr_of_eq hC (pf_enum cfg al b a f d), t_enum cfg al b a f d⟩
  | .ptr t, _, _, _, _ => ⟨elemPFr_of_eq hC (pf_ptr cfg al t d), t_ptr cfg al t d⟩
  | .union a fs, _, _, _, _ => ⟨elemPFr_of_eq hC (pf_union cfg al a fs d), t_union cfg al a fs d⟩
  | .arr e len, hPl, hU, hP, hBN => by
    have hPle : e.plainU cfg = true := by simp only [Ty.plainU, Bool.and_eq_true] at hPl; exact hPl.2
    simp only [Ty.bitsAlignBy] at hBN
    simp only [Ty.uniformAlign] at hU
    simp only [Ty.pow2Aligned] at hP
    obtain ⟨ihPF, ihT⟩ := win_ty hC K e hPle hU hP hBN
    exact ⟨pfr_arr hC hPl ihPF, t_arr hPl (fun ctx pos v p h hp => let ⟨h1, h2, h3⟩ := ihPF ctx pos v p h hp;
      ⟨h1, h2, fun k hk => hC.le (h3 k hk)⟩) ihT⟩
  | .struct al' fs, hPl, hU, hP, hBN => by
    simp only [Ty.plainU] at hPl
    simp only [Ty.bitsAlignBy] at hBN
    simp only [Ty.uniformAlign, Bool.and_eq_true, beq_iff_eq] at hU
    simp only [Ty.pow2Aligned] at hP
    obtain ⟨rfl, hU⟩ := hU
    exact struct_of_fields hP fun pos sz offs vs szs pf hl hr hdv hH =>
      win_fields hC K fs hPl hU hP hBN LState.init pos BitBuf.empty [] pos sz _ offs vs szs pf hl hr hdv
        (K.init (by intro o ho; cases ho; exact hC.refl _))
        (fun x y h => hC.mono _ (alignTo_mono (maxAlign_p2 cfg fs hP 0 (Or.inl rfl)) al') h) hH
theorem win_fields {R : Nat → Nat → Prop} (hC : Cmp R) {cfg : Cfg} {al : Bool} {g : Scalar → Nat} {d : Bytes}
    {I : LState → BitBuf → Nat → Nat → Prop} (K : LoopInv R cfg al g d I) : ∀ (fs : Fields), Fields.plainU cfg fs = true →
    Fields.uniformAlign al fs = true → fs.pow2Aligned cfg → (al = true → Fields.bitsAlignBy cfg g fs = true) →
    ∀ (st : LState) (start : Nat) (bb : BitBuf) (ctx : Ctx) (pos : Nat) (sz : Option Nat) (sa : Nat)
      (offs : List (Option Nat)) (vs : Vals) (szs : List (String × Nat)) (p : Nat),
    Fields.layout cfg al fs st = .ok (sz, sa, offs) →
    readFields cfg al fs offs start bb ctx d pos = .ok (vs, szs, p) →
    (al = true → allAlignDvd cfg start fs) → I st bb start pos →
    (∀ x y, R x y → R (alignTo al x sa) (alignTo al y sa)) →
    (∀ x, alignTo al (start + x) sa = start + alignTo al x sa) →
    FieldsPTr R cfg al d fs offs start bb ctx pos sz sa vs szs p
  | .nil, _, _, _, _, st, start, bb, ctx, pos, sz, sa, offs, vs, szs, p, hl, hr, _, hI, hmono, hH => by
    rw [layout_nil_any] at hl
    simp only [Except.ok.injEq, Prod.mk.injEq] at hl
    obtain ⟨rfl, rfl, rfl⟩ := hl
    rw [readFields_nil] at hr; cases hr
    refine ⟨Nat.le_refl _, fun k hk => ?_, fun q _ => readFields_nil ..⟩
    cases ho : st.offset with
    | none => rw [ho] at hk; cases hk
    | some o =>
      rw [ho] at hk
      cases hk
      have := hmono _ _ (K.off hI o ho)
      rwa [hH] at this
  | .cons name an ty bits rest, hPl, hU, hP, hBN, st, start, bb, ctx, pos, sz, sa, offs, vs, szs, p, hl, hr, hdv, hI, hmono, hH => by
    simp only [Fields.plainU, Bool.and_eq_true] at hPl
    simp only [Fields.uniformAlign, Bool.and_eq_true] at hU
    simp only [Fields.pow2Aligned] at hP
    have hfa := alignment_p2 cfg ty hP.1
    cases hb : isBitW bits with
    | false =>
      have hBN' := fun ha => bitsAlignBy_nb hb (hBN ha)
      obtain ⟨ihPF, ihT⟩ := win_ty hC K ty hPl.1 hU.1 hP.1 (fun ha => (hBN' ha).1)
      exact fields_nb hC hb hl hr (K.off hI) hfa (fun ha => (hdv ha).1) ihPF ihT
        fun offs' v p1 vs' szs' hl' hr' hinv' =>
          win_fields hC K rest hPl.2 hU.2 hP.2 (fun ha => (hBN' ha).2) _ start BitBuf.empty _ p1 sz sa offs' vs' szs' p
            hl' hr' (fun ha => (hdv ha).2) (K.init hinv') hmono hH
    | true =>
      obtain ⟨b, rfl⟩ := isBitW_true hb
      obtain ⟨ft, fsz, nu, offs', hbase, hsz, hth, rfl, hl3⟩ := layout_bit_ok hl
      obtain ⟨ft', bb1, p1, v, bb2, vs', hbase', hld, htk, hr3, hw⟩ := readFields_bit_ok hr
      rw [hbase] at hbase'; cases hbase'
      obtain ⟨s1, s2⟩ := K.bit hI hsz hfa (fun ha => bitsAlignBy_head (hBN ha) hbase) (fun ha => (hdv ha).1) hth hld htk
      obtain ⟨b1, b2, b3⟩ := win_fields hC K rest hPl.2 hU.2 hP.2 (fun ha => bitsAlignBy_bit (hBN ha)) _ start bb2 _ p1
        sz sa offs' vs' szs p hl3 hr3 (fun ha => (hdv ha).2) s2 hmono hH
      exact ⟨by omega, b2, fun q hq => hw _ (loadUnit_take q hld (Nat.le_trans b1 hq)) (b3 q hq)⟩
end

theorem ptwU_fields (cfg : Cfg) (al : Bool) (g : Scalar → Nat) (d : Bytes) : ∀ (fs : Fields), Fields.plainU cfg fs = true →
    Fields.uniformAlign al fs = true → fs.pow2Aligned cfg → (al = true → Fields.bitsAlignBy cfg g fs = true) →
    ∀ (st : LState) (start : Nat) (bb : BitBuf) (ctx : Ctx) (pos : Nat) (sz : Option Nat) (sa : Nat)
      (offs : List (Option Nat)) (vs : Vals) (szs : List (String × Nat)) (p : Nat),
    Fields.layout cfg al fs st = .ok (sz, sa, offs) →
    readFields cfg al fs offs start bb ctx d pos = .ok (vs, szs, p) →
    (al = true → allAlignDvd cfg start fs) → BInvW al g st bb start pos → (sa = 0 ∨ IsP2 sa) →
    (∀ x, alignTo al (start + x) sa = start + alignTo al x sa) →
    FieldsPTw cfg al d fs offs start bb ctx pos sz sa vs szs p :=
  fun fs hPl hU hP hBN st start bb ctx pos sz sa offs vs szs p hl hr hdv hI hsa hH =>
    win_fields cmp_le (loopInv_le cfg al g d) fs hPl hU hP hBN st start bb ctx pos sz sa offs vs szs p hl hr hdv hI
      (alignTo_mono hsa al) hH

theorem ptw_fields (cfg : Cfg) (al : Bool) (g : Scalar → Nat) (d : Bytes) : ∀ (fs : Fields), Fields.plain fs = true →
    Fields.uniformAlign al fs = true → fs.pow2Aligned cfg → (al = true → Fields.bitsAlignBy cfg g fs = true) →
    ∀ (st : LState) (start : Nat) (bb : BitBuf) (ctx : Ctx) (pos : Nat) (sz : Option Nat) (sa : Nat)
      (offs : List (Option Nat)) (vs : Vals) (szs : List (String × Nat)) (p : Nat),
    Fields.layout cfg al fs st = .ok (sz, sa, offs) →
    readFields cfg al fs offs start bb ctx d pos = .ok (vs, szs, p) →
    (al = true → allAlignDvd cfg start fs) → BInvW al g st bb start pos → (sa = 0 ∨ IsP2 sa) →
    (∀ x, alignTo al (start + x) sa = start + alignTo al x sa) →
    FieldsPTw cfg al d fs offs start bb ctx pos sz sa vs szs p :=
  fun fs hPl => ptwU_fields cfg al g d fs (plainU_of_plain cfg (.struct al fs) hPl)

theorem pt_fields (cfg : Cfg) (al : Bool) (d : Bytes) : ∀ (fs : Fields), Fields.plain fs = true →
    Fields.uniformAlign al fs = true → fs.pow2Aligned cfg → (al = true → Fields.bitsNatural cfg fs = true) →
    ∀ (st : LState) (start : Nat) (bb : BitBuf) (ctx : Ctx) (pos : Nat) (sz : Option Nat) (sa : Nat)
      (offs : List (Option Nat)) (vs : Vals) (szs : List (String × Nat)) (p : Nat),
    Fields.layout cfg al fs st = .ok (sz, sa, offs) →
    readFields cfg al fs offs start bb ctx d pos = .ok (vs, szs, p) →
    (al = true → allAlignDvd cfg start fs) → BInv al st bb start pos →
    (∀ x, alignTo al (start + x) sa = start + alignTo al x sa) →
    FieldsPT cfg al d fs offs start bb ctx pos sz sa vs szs p :=
  fun fs hPl hU hP hBN st start bb ctx pos sz sa offs vs szs p hl hr hdv hI hH =>
    win_fields cmp_eq (loopInv_eq cfg al d) fs (plainU_of_plain cfg (.struct al fs) hPl) hU hP
      (fun ha => bitsAlignBy_of_bitsNatural cfg (.struct al fs) (hBN ha)) st start bb ctx pos sz sa offs vs szs p hl hr hdv hI
      (fun _ _ h => congrArg (alignTo al · sa) h) hH

end Cstruct.Core.Lemmas.WinBits
