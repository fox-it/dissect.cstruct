/-
  C10, text level: what the emitted tokens mean to the evaluator (identifiers are names,
  literal tokens are numbers with their C value, the unary-minus marker is never emitted) and soundness of the
  decidable checkers.
-/
import Proofs.Lemmas.C10
import Proofs.Lemmas.C10TokRender

namespace Cstruct.Expr.C10.TextLemmas
open Cstruct Cstruct.Expr Cstruct.Expr.C10

def startsId (t : String) : Bool :=
  match t.toList with
  | c :: _ => isIdStart c
  | [] => false

theorem nonName_facts : ∀ x ∈ Lemmas.opNames ++ ["(", ")"] ++ Gen.unaryContextTokens, startsId x = false := by
  decide +kernel

theorem ident_isNumber {c : Char} {cs : List Char} (hc : isIdStart c = true) :
    isNumber (String.ofList (c :: cs)) = false := by
  have hd := idStart_not_digit hc
  have h0 : c ≠ '0' := by rintro rfl; cases hd
  simp only [isNumber, String.toList_ofList, isAsciiDigits, List.all_cons, hd, Bool.false_and, Bool.and_false,
    Bool.false_or]
  split
  · rename_i heq; simp only [List.cons.injEq] at heq; exact absurd heq.1 h0
  · rfl

theorem ident_isName {c : Char} {cs : List Char} (hc : isIdStart c = true) :
    IsName (String.ofList (c :: cs)) := by
  have hs : startsId (String.ofList (c :: cs)) = true := by
    simp only [startsId, String.toList_ofList]; exact hc
  have hne : ∀ x ∈ Lemmas.opNames ++ ["(", ")"] ++ Gen.unaryContextTokens, String.ofList (c :: cs) ≠ x := by
    intro x hx e
    have := nonName_facts x hx
    rw [← e, hs] at this; cases this
  refine ⟨ident_isNumber hc, ?_, ?_, ?_, ?_⟩
  · cases ho : isOperator (String.ofList (c :: cs)) with
    | false => rfl
    | true => exact absurd rfl (hne _ (by simp only [List.mem_append]; exact Or.inl (Or.inl (Lemmas.mem_opNames ho))))
  · exact hne _ (by simp)
  · exact hne _ (by simp)
  · intro hm; exact hne _ (by simp only [List.mem_append]; exact Or.inr hm) rfl

theorem octRewrite_head (c : Char) (ds : List Char) : ∃ r, octRewrite (c :: ds) = c :: r := by
  unfold octRewrite
  split
  · rename_i d rest heq
    simp only [List.cons.injEq] at heq
    obtain ⟨rfl, rfl⟩ := heq
    by_cases h : isHexBinSuffix d = true
    · exact ⟨_, by rw [if_pos h]⟩
    · exact ⟨_, by rw [if_neg h]⟩
  · exact ⟨ds, rfl⟩

theorem octRewrite_ne_zero {c : Char} (ds : List Char) (h : c ≠ '0') : octRewrite (c :: ds) = c :: ds := by
  unfold octRewrite
  split
  · rename_i heq; simp only [List.cons.injEq] at heq; exact absurd heq.1 h
  · rfl

theorem octRewrite_single (c : Char) : octRewrite [c] = [c] := by
  unfold octRewrite
  split
  · rename_i heq; simp at heq
  · rfl

theorem octRewrite_zero (d : Char) (rest : List Char) :
    octRewrite ('0' :: d :: rest) = if isHexBinSuffix d then '0' :: d :: rest else '0' :: 'o' :: d :: rest := by
  unfold octRewrite
  split
  · rename_i heq
    simp only [List.cons.injEq, true_and] at heq
    obtain ⟨rfl, rfl⟩ := heq
    rfl
  · rename_i hno; exact absurd rfl (hno d rest)

theorem sub_lt_of_le {c hi : Char} {a base : Nat} (h : c ≤ hi) (hb : hi.toNat - a < base) : c.toNat - a < base :=
  Nat.lt_of_le_of_lt (Nat.sub_le_sub_right (UInt32.le_iff_toNat_le.mp h) a) hb

theorem digitVal_digit {c : Char} (h : c.isDigit = true) : digitVal c < 10 := by
  rw [digitVal, if_pos h]
  exact sub_lt_of_le (hi := '9') (of_decide_eq_true (Bool.and_eq_true_iff.mp h).2) (by decide)

theorem digitVal_oct {c : Char} (h : isOctDigit c = true) : digitVal c < 8 := by
  rw [digitVal, if_pos (octDigit_digit h)]
  exact sub_lt_of_le (hi := '7') (of_decide_eq_true (Bool.and_eq_true_iff.mp h).2) (by decide)

theorem digitVal_bin {c : Char} (h : isBinDigit c = true) : digitVal c < 2 := by
  simp only [isBinDigit, Bool.or_eq_true, decide_eq_true_eq] at h
  rcases h with rfl | rfl <;> decide +kernel

theorem digitVal_hex {c : Char} (h : isHexDigit c = true) : digitVal c < 16 := by
  unfold digitVal
  by_cases hd : c.isDigit = true
  · rw [if_pos hd]
    exact sub_lt_of_le (hi := '9') (of_decide_eq_true (Bool.and_eq_true_iff.mp hd).2) (by decide)
  · rw [if_neg hd]
    by_cases hl : 'a' ≤ c ∧ c ≤ 'f'
    · rw [if_pos hl]
      exact Nat.add_lt_add_right (sub_lt_of_le (base := 6) hl.2 (by decide)) 10
    · rw [if_neg hl]
      simp only [isHexDigit, Bool.or_eq_true, Bool.and_eq_true, decide_eq_true_eq] at h
      have hu : 'A' ≤ c ∧ c ≤ 'F' := h.resolve_left (fun h => h.elim hd hl)
      rw [if_pos hu]
      exact Nat.add_lt_add_right (sub_lt_of_le (base := 6) hu.2 (by decide)) 10
theorem isNumber_prefixed {p : Char} {cs : List Char} (hne : cs ≠ [])
    (hp : (p = 'x' || p = 'X' || p = 'b' || p = 'B' || p = 'o' || p = 'O') = true) :
    isNumber (String.ofList ('0' :: p :: cs)) = true := by
  obtain ⟨c, cs', rfl⟩ := List.exists_cons_of_ne_nil hne
  rw [isNumber, String.toList_ofList]
  exact Bool.or_eq_true_iff.mpr (Or.inr hp)

theorem isNumber_digits {c : Char} {ds : List Char} (hc : c.isDigit = true) (hds : ∀ d ∈ ds, d.isDigit = true) :
    isNumber (String.ofList (c :: ds)) = true := by
  have : isAsciiDigits (c :: ds) = true :=
    Bool.and_eq_true_iff.mpr ⟨rfl, Bool.and_eq_true_iff.mpr ⟨hc, List.all_eq_true.mpr hds⟩⟩
  rw [isNumber, String.toList_ofList]
  exact Bool.or_eq_true_iff.mpr (Or.inl this)

theorem lit_value {body : List Char} (h : WFLit body) :
    isNumber (String.ofList (octRewrite body)) = true ∧
    parseInt (String.ofList (octRewrite body)) = some (Int.ofNat (litValue body)) := by
  cases h with
  | zero => exact ⟨by decide +kernel, by decide +kernel⟩
  | @dec c ds hc h0 hds =>
    rw [octRewrite_ne_zero ds h0]
    refine ⟨isNumber_digits hc hds, ?_⟩
    have hv : litValue (c :: ds) = charsValue 10 (c :: ds) := by
      cases ds with
      | nil => rfl
      | cons p ds =>
        exact (if_neg (fun h => h0 h.1)).trans ((if_neg (fun h => h0 h.1)).trans (if_neg h0))
    rw [Lemmas.parseInt_decimal ds h0, hv, Lemmas.parseBase_eq 10 (c :: ds) (List.cons_ne_nil _ _) (fun d hd => by
      rcases List.mem_cons.mp hd with rfl | hd
      · exact digitVal_digit hc
      · exact digitVal_digit (hds d hd))]
    rfl
  | @hex p ds hp hne hds =>
    rw [octRewrite_zero, if_pos (by rcases hp with rfl | rfl <;> rfl)]
    refine ⟨isNumber_prefixed hne (by rcases hp with rfl | rfl <;> rfl), ?_⟩
    rw [Lemmas.parseInt_prefixed, if_pos hp, Lemmas.parseBase_eq 16 _ hne (fun d hd => digitVal_hex (hds d hd))]
    exact congrArg (fun n => some (Int.ofNat n)) (if_pos (⟨rfl, hp⟩ : '0' = '0' ∧ _)).symm
  | @bin p ds hp hne hds =>
    have hnx : ¬ (p = 'x' ∨ p = 'X') := by rcases hp with rfl | rfl <;> decide +kernel
    rw [octRewrite_zero, if_pos (by rcases hp with rfl | rfl <;> rfl)]
    refine ⟨isNumber_prefixed hne (by rcases hp with rfl | rfl <;> rfl), ?_⟩
    rw [Lemmas.parseInt_prefixed, if_neg hnx, if_pos hp,
      Lemmas.parseBase_eq 2 _ hne (fun d hd => digitVal_bin (hds d hd))]
    exact congrArg (fun n => some (Int.ofNat n))
      ((if_neg (fun h : '0' = '0' ∧ _ => hnx h.2)).trans (if_pos (⟨rfl, hp⟩ : '0' = '0' ∧ _))).symm
  | @oct ds hne hds =>
    obtain ⟨d, ds', rfl⟩ := List.exists_cons_of_ne_nil hne
    have hdd : d.isDigit = true := octDigit_digit (hds d List.mem_cons_self)
    have hnx : ¬ (d = 'x' ∨ d = 'X') := by rintro (rfl | rfl) <;> cases hdd
    have hnb : ¬ (d = 'b' ∨ d = 'B') := by rintro (rfl | rfl) <;> cases hdd
    rw [octRewrite_zero, if_neg (by rw [digit_not_hexbin hdd]; exact Bool.false_ne_true)]
    refine ⟨isNumber_prefixed hne rfl, ?_⟩
    rw [Lemmas.parseInt_prefixed, if_neg (by decide), if_neg (by decide), if_pos (by decide),
      Lemmas.parseBase_eq 8 _ hne (fun d hd => digitVal_oct (hds d hd))]
    exact congrArg (fun n => some (Int.ofNat n))
      ((if_neg (fun h : '0' = '0' ∧ _ => hnx h.2)).trans ((if_neg (fun h : '0' = '0' ∧ _ => hnb h.2)).trans
        (if_pos rfl))).symm

theorem normTok_ne_marker {t : String} (h : WFTok t) : normTok t ≠ Gen.minusMarker := by
  intro e
  have e' : (normTok t).toList = ['-', 'u'] := by rw [e]; decide +kernel
  cases h with
  | @op c hc => rw [normTok_op hc, String.toList_singleton] at e'; simp at e'
  | shl => rw [normTok_shl] at e'; revert e'; decide +kernel
  | shr => rw [normTok_shr] at e'; revert e'; decide +kernel
  | @ident c cs hc _ =>
    rw [normTok_ident hc, String.toList_ofList] at e'
    simp only [List.cons.injEq] at e'
    obtain ⟨rfl, _⟩ := e'
    cases hc
  | @lit body sfx hb hs =>
    rw [normTok_lit hb hs, String.toList_ofList] at e'
    obtain ⟨c, ds, rfl, hc, _⟩ := wflit_shape hb
    obtain ⟨r, hr⟩ := octRewrite_head c ds
    rw [hr] at e'
    simp only [List.cons.injEq] at e'
    obtain ⟨rfl, _⟩ := e'
    cases hc

theorem isSuffixB_sound {sfx : List Char} (h : isSuffixB sfx = true) : IsSuffix sfx := by
  match sfx, h with
  | [], _ => exact .none
  | [a], h =>
    simp only [isSuffixB, isSuffixChar, Bool.or_eq_true, decide_eq_true_eq] at h
    rcases h with ((h | h) | h) | h
    · exact .u (Or.inl h)
    · exact .u (Or.inr h)
    · exact .l (Or.inl h)
    · exact .l (Or.inr h)
  | [a, b], h =>
    simp only [isSuffixB, isSuffixChar, Bool.or_eq_true, Bool.and_eq_true, decide_eq_true_eq] at h
    rcases h with ⟨ha, hb⟩ | ⟨ha, (hb | hb) | hb⟩
    · exact .ul ha hb
    · exact .lu ha hb
    · exact .ll ha (Or.inl hb)
    · exact .ll ha (Or.inr hb)
  | [a, b, c], h =>
    simp only [isSuffixB, Bool.or_eq_true, Bool.and_eq_true, decide_eq_true_eq] at h
    rcases h with ⟨⟨ha, hb⟩, hc⟩ | ⟨⟨ha, hb⟩, hc⟩
    · exact .ull ha hb hc
    · exact .llu ha hb hc
  | _ :: _ :: _ :: _ :: _, h => simp [isSuffixB] at h

theorem wfLitB_sound {body : List Char} (h : wfLitB body = true) : WFLit body := by
  cases body with
  | nil => simp [wfLitB] at h
  | cons c ds =>
    by_cases h0 : c = '0'
    · subst h0
      cases ds with
      | nil => exact .zero
      | cons p ds' =>
        simp only [wfLitB, if_true] at h
        by_cases hx : p = 'x' ∨ p = 'X'
        · rw [if_pos hx] at h
          simp only [Bool.and_eq_true, Bool.not_eq_true', List.isEmpty_eq_false_iff, List.all_eq_true] at h
          exact .hex hx h.1 h.2
        · rw [if_neg hx] at h
          by_cases hb : p = 'b' ∨ p = 'B'
          · rw [if_pos hb] at h
            simp only [Bool.and_eq_true, Bool.not_eq_true', List.isEmpty_eq_false_iff, List.all_eq_true] at h
            exact .bin hb h.1 h.2
          · rw [if_neg hb] at h
            simp only [List.all_eq_true] at h
            exact .oct (by simp) h
    · simp only [wfLitB, h0, if_false, Bool.and_eq_true, List.all_eq_true] at h
      exact .dec h.1 h0 h.2

theorem wfTokB_sound {t : String} (h : wfTokB t = true) : WFTok t := by
  unfold wfTokB at h
  cases hl : t.toList with
  | nil => rw [hl] at h; cases h
  | cons c cs =>
    rw [hl] at h
    simp only at h
    by_cases hop : isOperatorChar c = true
    · rw [if_pos hop] at h
      have hcs : cs = [] := List.isEmpty_iff.mp h
      have : t = String.singleton c := by
        apply String.toList_inj.mp; rw [hl, hcs, String.toList_singleton]
      rw [this]; exact .op hop
    · rw [if_neg hop] at h
      by_cases hd : c.isDigit = true
      · rw [if_pos hd] at h
        simp only [Bool.and_eq_true] at h
        have ht : t = String.ofList ((c :: cs.takeWhile (fun d => !isSuffixChar d)) ++
            cs.dropWhile (fun d => !isSuffixChar d)) := by
          apply String.toList_inj.mp
          rw [hl, String.toList_ofList, List.cons_append, List.takeWhile_append_dropWhile]
        rw [ht]
        exact .lit (wfLitB_sound h.1) (isSuffixB_sound h.2)
      · rw [if_neg hd] at h
        by_cases hi : isIdStart c = true
        · rw [if_pos hi] at h
          have ht : t = String.ofList (c :: cs) := by
            apply String.toList_inj.mp; rw [hl, String.toList_ofList]
          rw [ht]
          exact .ident hi (List.all_eq_true.mp h)
        · rw [if_neg hi] at h
          simp only [Bool.or_eq_true, decide_eq_true_eq] at h
          rcases h with rfl | rfl
          · exact .shl
          · exact .shr

theorem isBlankB_sound {s : String} (h : isBlankB s = true) : IsBlank s := by
  intro c hc
  have := List.all_eq_true.mp h c hc
  simpa only [Bool.or_eq_true, decide_eq_true_eq] using this

theorem sepOkB_sound (ts : List String) : ∀ seps, sepOkB seps ts = true → SepOk seps ts := by
  induction ts with
  | nil => intro seps h; exact isBlankB_sound h
  | cons t ts ih =>
    intro seps h
    simp only [sepOkB, Bool.and_eq_true] at h
    obtain ⟨⟨h1, h2⟩, h3⟩ := h
    refine ⟨isBlankB_sound h1, ?_, ih _ h3⟩
    intro t' ht' hw hw'
    cases ts with
    | nil => cases ht'
    | cons t'' ts' =>
      cases ht'
      simp only [hw, hw', Bool.and_self, Bool.not_true, Bool.false_or, bne_iff_ne, ne_eq] at h2
      exact h2

end Cstruct.Expr.C10.TextLemmas
