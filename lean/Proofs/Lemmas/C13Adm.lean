/-
  C13, definition parser — lexeme lists: `render`, `toks` and the observed tokens `obsOf` over a concatenation; admissibility
  (`adm`) over a concatenation at the end of a top-level declaration (`adm_append`) and of segments (`admN`: `adm` looks one
  lexeme ahead, so a segment needs its successor).
-/
import Proofs.Spec.C13Parse

namespace Cstruct.DefParser.C13
open Cstruct.DefParser

theorem adm_cons (ac : Bool) (x : Lexeme) (s : List Char) (rest : List (Lexeme × List Char)) (h : adm ac ((x, s) :: rest) = true) :
    x.wf = true ∧ blank s = true ∧ (x.isDefs = true → ac = true) ∧ sepOK x s (rest.head?.map (·.1)) = true ∧
    adm (closes x s) rest = true := by
  simp only [adm, Bool.and_eq_true, Bool.or_eq_true, Bool.not_eq_true'] at h
  obtain ⟨⟨⟨⟨h1, h2⟩, h3⟩, h4⟩, h5⟩ := h
  refine ⟨h1, h2, fun hd => ?_, h4, h5⟩
  rcases h3 with h3 | h3
  · rw [hd] at h3; cases h3
  · exact h3

theorem adm_not_defs (y : Lexeme) (s : List Char) (r : List (Lexeme × List Char)) (h : adm false ((y, s) :: r) = true) :
    y.isDefs = false := by
  cases hd : y.isDefs with
  | false => rfl
  | true => exact absurd ((adm_cons false y s r h).2.2.1 hd) Bool.false_ne_true

theorem adm_flag (ac ac' : Bool) (y : Lexeme) (s : List Char) (r : List (Lexeme × List Char)) (hd : y.isDefs = false)
    (h : adm ac ((y, s) :: r) = true) : adm ac' ((y, s) :: r) = true := by
  rw [adm, hd] at h ⊢
  exact h

theorem render_append (l1 l2 : List (Lexeme × List Char)) : render (l1 ++ l2) = render l1 ++ render l2 := by
  induction l1 with
  | nil => rfl
  | cons p l1 ih => obtain ⟨x, s⟩ := p; simp [render, ih]

theorem toks_append (l1 l2 : List (Lexeme × List Char)) : toks (l1 ++ l2) = toks l1 ++ toks l2 := by
  induction l1 with
  | nil => rfl
  | cons p l1 ih => obtain ⟨x, s⟩ := p; simp [toks, ih]

/-- the tokens of a lexeme list as the handlers see them -/
def obsOf (l : List (Lexeme × List Char)) : List OTok := (toks l).map Tok.obs

theorem obsOf_append (l1 l2 : List (Lexeme × List Char)) : obsOf (l1 ++ l2) = obsOf l1 ++ obsOf l2 := by
  rw [obsOf, toks_append, List.map_append]; rfl

theorem obsOf_cons (x : Lexeme) (s : List Char) (l : List (Lexeme × List Char)) : obsOf ((x, s) :: l) = (tokOf x s).obs :: obsOf l := rfl

theorem obsOf_nil : obsOf [] = [] := rfl

theorem adm_head_not_defs (l : List (Lexeme × List Char)) (h : adm false l = true) :
    ∀ y, l.head?.map (·.1) = some y → y.isDefs = false := by
  intro y hy
  cases l with
  | nil => cases hy
  | cons p r => cases hy; exact adm_not_defs p.1 p.2 r h

theorem adm_append : ∀ (l1 l2 : List (Lexeme × List Char)) (ac : Bool), adm ac l1 = true → endsTop l1 = true →
    adm false l2 = true → adm ac (l1 ++ l2) = true
  | [], _, _, _, he, _ => by cases he
  | [(x, s)], l2, ac, h, he, h2 => by
    obtain ⟨hwf, hbs, hd, hsep, -⟩ := adm_cons ac x s [] h
    have hnd := adm_head_not_defs l2 h2
    have hcl : closes x s = false ∧ sepOK x s (l2.head?.map (·.1)) = true := by
      cases x with
      | semi =>
        refine ⟨rfl, ?_⟩
        cases hh : l2.head?.map (·.1) with
        | none => simp [sepOK]
        | some y => simp [sepOK, hnd y hh]
      | config v =>
        refine ⟨rfl, ?_⟩
        cases hh : l2.head?.map (·.1) with
        | none => simp [sepOK]
        | some y => simp [sepOK, hnd y hh]
      | define a b c d =>
        refine ⟨rfl, ?_⟩
        cases s with
        | nil => cases he
        | cons c0 s' =>
          have : (c0 == '\n' || c0 == '\r') = true := by simpa [sepOK] using hsep
          cases hh : l2.head?.map (·.1) with
          | none => simpa [sepOK] using this
          | some y => simp only [sepOK, hnd y hh]; simpa using this
      | _ => cases he
    have hd' : (!x.isDefs || ac) = true := by
      cases hx : x.isDefs with
      | false => rfl
      | true => simp [hd hx]
    simp only [List.singleton_append, adm, hwf, hbs, hd', hcl.2, hcl.1, h2, Bool.and_self]
  | (x, s) :: p2 :: r, l2, ac, h, he, h2 => by
    obtain ⟨hwf, hbs, hd, hsep, hrest⟩ := adm_cons ac x s (p2 :: r) h
    have he' : endsTop (p2 :: r) = true := by simpa [endsTop, List.getLast?_cons_cons] using he
    have ih := adm_append (p2 :: r) l2 (closes x s) hrest he' h2
    have hd' : (!x.isDefs || ac) = true := by
      cases hx : x.isDefs with
      | false => rfl
      | true => simp [hd hx]
    have hsep' : sepOK x s (((p2 :: r) ++ l2).head?.map (·.1)) = true := by simpa using hsep
    have e : adm ac ((x, s) :: ((p2 :: r) ++ l2)) = (x.wf && blank s && (!x.isDefs || ac) &&
        sepOK x s (((p2 :: r) ++ l2).head?.map (·.1)) && adm (closes x s) ((p2 :: r) ++ l2)) := rfl
    rw [List.cons_append, e, hwf, hbs, hd', hsep', ih]; rfl

/-- `adm` for a segment that is followed by the lexeme `next` -/
def admN (next : Option Lexeme) : Bool → List (Lexeme × List Char) → Bool
  | _, [] => true
  | ac, [(x, s)] => x.wf && blank s && (!x.isDefs || ac) && sepOK x s next
  | ac, (x, s) :: y :: rest => x.wf && blank s && (!x.isDefs || ac) && sepOK x s (some y.1) && admN next (closes x s) (y :: rest)

/-- the look-behind flag behind a segment -/
def closesEnd : Bool → List (Lexeme × List Char) → Bool
  | ac, [] => ac
  | _, (x, s) :: rest => closesEnd (closes x s) rest

theorem adm_eq_admN : ∀ (l : List (Lexeme × List Char)) (ac : Bool), adm ac l = admN none ac l
  | [], _ => rfl
  | [(x, s)], ac => by simp [adm, admN]
  | (x, s) :: y :: rest, ac => by
    have ih := adm_eq_admN (y :: rest) (closes x s)
    have e : adm ac ((x, s) :: y :: rest) = (x.wf && blank s && (!x.isDefs || ac) && sepOK x s (some y.1) && adm (closes x s) (y :: rest)) := rfl
    rw [e, ih]; rfl

theorem admN_append : ∀ (l1 l2 : List (Lexeme × List Char)) (n : Option Lexeme) (ac : Bool) (y : Lexeme × List Char) (r2 : List (Lexeme × List Char)),
    l2 = y :: r2 → admN n ac (l1 ++ l2) = (admN (some y.1) ac l1 && admN n (closesEnd ac l1) l2)
  | [], l2, n, ac, y, r2, _ => by simp [admN, closesEnd]
  | [(x, s)], l2, n, ac, y, r2, h => by
    subst h
    simp only [List.cons_append, List.nil_append, admN, closesEnd]
  | (x, s) :: z :: r, l2, n, ac, y, r2, h => by
    have ih := admN_append (z :: r) l2 n (closes x s) y r2 h
    simp only [List.cons_append] at ih ⊢
    simp only [admN, closesEnd, ih, Bool.and_assoc]

theorem closesEnd_append : ∀ (l1 l2 : List (Lexeme × List Char)) (ac : Bool), closesEnd ac (l1 ++ l2) = closesEnd (closesEnd ac l1) l2
  | [], _, _ => rfl
  | (x, s) :: r, l2, ac => by simp only [List.cons_append, closesEnd]; exact closesEnd_append r l2 _

end Cstruct.DefParser.C13
