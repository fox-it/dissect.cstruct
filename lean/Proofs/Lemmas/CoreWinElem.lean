/-
  The readers below a structure on a cut input. Position facts of a successful read (`PFr`: the position does
  not go back, an aligned structure ends aligned, the static size is met exactly or as an upper bound) and truncation of
  the input at or after the end position (`ElemT`), for scalars, enums, pointers and, given the element type, arrays.
-/
import Proofs.Lemmas.CoreWinPrim
import Proofs.Lemmas.CoreLayout
import Proofs.Spec.C08Union
namespace Cstruct.Core.Lemmas
open Cstruct Cstruct.Core

theorem readArray_loop (cfg : Cfg) {e : Ty} (he : e.bitBase = none) (n ctx d pos) :
    readArray cfg e n ctx d pos = (readN cfg e n ctx d pos).map fun (vs, p) => (.list vs, p) := by
  cases e with
  | sc => cases he
  | enum => cases he
  | _ => exact readArray.eq_3 _ _ _ _ _ _ (by intros; contradiction) (by intros; contradiction)

/-- `list(map(cls, ...))` of the enum array readers -/
def enumWrap : Except Err (Val × Nat) → Except Err (Val × Nat)
  | .ok (.list vs, p) => .ok (.list vs.mapEnum, p)
  | .ok _ => .error .typeErr
  | .error e => .error e

theorem enumWrap_ok {x : Except Err (Val × Nat)} {v : Val} {p : Nat} (h : enumWrap x = .ok (v, p)) :
    ∃ vs, x = .ok (.list vs, p) ∧ v = .list vs.mapEnum := by
  unfold enumWrap at h
  split at h
  · cases h; exact ⟨_, rfl, rfl⟩
  · cases h
  · cases h

theorem readArray_enum (cfg : Cfg) (b a f n ctx d pos) :
    readArray cfg (.enum b a f) n ctx d pos = enumWrap (readArray cfg (.sc b a) n ctx d pos) := by
  rw [readArray.eq_2, readArray.eq_1]
  cases readScalarArray cfg b n d pos with
  | some r =>
    rcases r with e | ⟨v, p⟩
    · rfl
    · cases v <;> rfl
  | none => simp only []; cases readN cfg (.sc b a) n ctx d pos <;> rfl

theorem read0_enum (cfg : Cfg) (b a f ctx d pos) :
    read0 cfg (.enum b a f) ctx d pos = enumWrap (read0 cfg (.sc b a) ctx d pos) := by
  rw [read0.eq_2, read0.eq_1]; rfl

/-- how the end position compares with start + static size: `=`, or `≤` -/
structure Cmp (R : Nat → Nat → Prop) : Prop where
  refl : ∀ a, R a a
  le : ∀ {a b}, R a b → a ≤ b
  add : ∀ {a b c k m}, R b (a + k) → R c (b + m) → R c (a + (k + m))
  mono : ∀ (f : Nat → Nat), (∀ x y, x ≤ y → f x ≤ f y) → ∀ {a b}, R a b → R (f a) (f b)

theorem cmp_eq : Cmp (@Eq Nat) :=
  ⟨fun _ => rfl, fun h => Nat.le_of_eq h, fun h1 h2 => by omega, fun f _ _ _ h => congrArg f h⟩

theorem cmp_le : Cmp (@LE.le Nat _) :=
  ⟨Nat.le_refl, fun h => h, fun h1 h2 => by omega, fun _ hf _ _ h => hf _ _ h⟩

/-- position facts of a successful read from `pos` to `p`: the position does not go back, an aligned structure ends
    aligned, and the end compares by `R` with start + static size -/
def PFr (R : Nat → Nat → Prop) (cfg : Cfg) (al : Bool) (ty : Ty) (pos p : Nat) : Prop :=
  pos ≤ p ∧ (al = true → sAlign cfg ty ∣ p) ∧ ∀ k, ty.size cfg = some k → R p (pos + k)

/-- the same for `n` successive reads of `e` -/
def PFNr (R : Nat → Nat → Prop) (cfg : Cfg) (al : Bool) (e : Ty) (n pos p : Nat) : Prop :=
  pos ≤ p ∧ (al = true → sAlign cfg e ∣ p) ∧ ∀ k, e.size cfg = some k → R p (pos + n * k)

/-- every successful read of `e` on `d` from an aligned start has the position facts -/
def ElemPFr (R : Nat → Nat → Prop) (cfg : Cfg) (al : Bool) (e : Ty) (d : Bytes) : Prop :=
  ∀ ctx pos v p, read cfg e ctx d pos = .ok (v, p) → (al = true → sAlign cfg e ∣ pos) → PFr R cfg al e pos p

/-- `PFr (· = ·)` -/
def PF (cfg : Cfg) (al : Bool) (ty : Ty) (pos p : Nat) : Prop :=
  pos ≤ p ∧ (al = true → sAlign cfg ty ∣ p) ∧ ∀ k, ty.size cfg = some k → p = pos + k

def PFN (cfg : Cfg) (al : Bool) (e : Ty) (n pos p : Nat) : Prop := PFNr (@Eq Nat) cfg al e n pos p

/-- `ElemPFr (· = ·)` -/
def ElemPF (cfg : Cfg) (al : Bool) (e : Ty) (d : Bytes) : Prop :=
  ∀ ctx pos v p, read cfg e ctx d pos = .ok (v, p) → (al = true → sAlign cfg e ∣ pos) → PF cfg al e pos p

theorem elemPFr_of_eq {R : Nat → Nat → Prop} (hC : Cmp R) {cfg : Cfg} {al : Bool} {e : Ty} {d : Bytes}
    (h : ElemPF cfg al e d) : ElemPFr R cfg al e d :=
  fun ctx pos v p hr hpos => let ⟨h1, h2, h3⟩ := h ctx pos v p hr hpos; ⟨h1, h2, fun k hk => h3 k hk ▸ hC.refl _⟩

theorem pf_sc (cfg : Cfg) (al : Bool) (s : Scalar) (a : Nat) (d : Bytes) : ElemPF cfg al (.sc s a) d := by
  intro ctx pos v p h _
  rw [read_sc] at h
  obtain ⟨h1, h2⟩ := readScalar_pos cfg s d pos v p h
  exact ⟨h1, fun _ => Nat.one_dvd _, h2⟩

theorem pf_enum (cfg : Cfg) (al : Bool) (b : Scalar) (a : Nat) (f : Bool) (d : Bytes) :
    ElemPF cfg al (.enum b a f) d := by
  intro ctx pos v p h _
  rw [read_enum] at h
  obtain ⟨i, q, h1, h2⟩ := wrapInt_ok h
  cases h2
  obtain ⟨h1, h2⟩ := readScalar_pos cfg b d pos _ _ h1
  exact ⟨h1, fun _ => Nat.one_dvd _, h2⟩

theorem pf_ptr (cfg : Cfg) (al : Bool) (t : Ty) (d : Bytes) : ElemPF cfg al (.ptr t) d := by
  intro ctx pos v p h _
  rw [read_ptr] at h
  obtain ⟨i, q, h1, h2⟩ := wrapInt_ok h
  cases h2
  obtain ⟨h1, h2⟩ := readScalar_pos cfg cfg.ptr d pos _ _ h1
  exact ⟨h1, fun _ => Nat.one_dvd _, h2⟩

theorem pfr_N {R : Nat → Nat → Prop} (hC : Cmp R) (cfg : Cfg) (al : Bool) (e : Ty) (d : Bytes)
    (hE : ElemPFr R cfg al e d) :
    ∀ (n : Nat) (ctx : Ctx) (pos : Nat) (vs : Vals) (p : Nat), readN cfg e n ctx d pos = .ok (vs, p) →
      (al = true → sAlign cfg e ∣ pos) → PFNr R cfg al e n pos p := by
  intro n
  induction n with
  | zero =>
    intro ctx pos vs p h hpos
    rw [readN_zero] at h; cases h
    exact ⟨Nat.le_refl _, hpos, fun k _ => by rw [Nat.zero_mul]; exact hC.refl _⟩
  | succ n ih =>
    intro ctx pos vs p h hpos
    rw [readN_succ] at h
    obtain ⟨⟨v, p1⟩, h1, h2⟩ := bind_ok h
    obtain ⟨⟨vs', p'⟩, h3, h4⟩ := bind_ok h2
    cases h4
    obtain ⟨a1, a2, a3⟩ := hE _ _ _ _ h1 hpos
    obtain ⟨b1, b2, b3⟩ := ih _ _ _ _ h3 a2
    exact ⟨Nat.le_trans a1 b1, b2, fun k hk => by rw [Nat.succ_mul, Nat.add_comm (n * k)]; exact hC.add (a3 k hk) (b3 k hk)⟩

theorem pfr_array {R : Nat → Nat → Prop} (hC : Cmp R) (cfg : Cfg) (al : Bool) (e : Ty) (d : Bytes)
    (hE : ElemPFr R cfg al e d) (n : Nat) (ctx : Ctx) (pos : Nat) (v : Val) (p : Nat)
    (h : readArray cfg e n ctx d pos = .ok (v, p)) (hpos : al = true → sAlign cfg e ∣ pos) : PFNr R cfg al e n pos p := by
  have loop : ∀ e', e'.size cfg = e.size cfg → sAlign cfg e' = sAlign cfg e → ElemPFr R cfg al e' d → ∀ w,
      (readN cfg e' n ctx d pos).map (fun (vs, p) => (Val.list vs, p)) = .ok (w, p) → PFNr R cfg al e n pos p := by
    intro e' hs ha hE' w hw
    obtain ⟨⟨vs, q⟩, h1, h2⟩ := map_ok hw
    cases h2
    have := pfr_N hC cfg al e' d hE' n ctx pos vs _ h1 (ha ▸ hpos)
    unfold PFNr at this ⊢
    rwa [hs, ha] at this
  have bulk : ∀ s, e.size cfg = s.size → sAlign cfg e = 1 → ∀ w, readScalarArray cfg s n d pos = some (.ok (w, p)) →
      PFNr R cfg al e n pos p := by
    intro s hs ha w hw
    obtain ⟨k, hk, hp⟩ := readScalarArray_pos cfg s n d pos w p hw
    refine ⟨by omega, fun _ => ha ▸ Nat.one_dvd _, fun k' hk' => ?_⟩
    rw [hs, hk] at hk'; cases hk'
    rw [hp, Nat.mul_comm]; exact hC.refl _
  have scCase : ∀ s a, e.size cfg = s.size → sAlign cfg e = 1 → ∀ w, readArray cfg (.sc s a) n ctx d pos = .ok (w, p) →
      PFNr R cfg al e n pos p := by
    intro s a hs ha w hw
    rw [readArray.eq_1] at hw
    cases hx : readScalarArray cfg s n d pos with
    | some x => rw [hx] at hw; simp only [] at hw; subst hw; exact bulk s hs ha w hx
    | none =>
      rw [hx] at hw
      exact loop (.sc s a) hs.symm ha.symm (fun ctx pos v p h hp => by
        obtain ⟨a1, a2, a3⟩ := pf_sc cfg al s a d ctx pos v p h hp
        exact ⟨a1, a2, fun k hk => a3 k hk ▸ hC.refl _⟩) w hw
  cases e with
  | sc s a => exact scCase s a rfl rfl v h
  | enum b a f =>
    rw [readArray_enum] at h
    obtain ⟨vs, h1, _⟩ := enumWrap_ok h
    exact scCase b a rfl rfl _ h1
  | _ => rw [readArray_loop cfg rfl] at h; exact loop _ rfl rfl hE v h

theorem pf_array (cfg : Cfg) (al : Bool) (e : Ty) (d : Bytes) (hE : ElemPF cfg al e d) :
    ∀ (n : Nat) (ctx : Ctx) (pos : Nat) (v : Val) (p : Nat), readArray cfg e n ctx d pos = .ok (v, p) →
      (al = true → sAlign cfg e ∣ pos) → PFN cfg al e n pos p :=
  pfr_array cmp_eq cfg al e d hE

theorem read0_pos (cfg : Cfg) (e : Ty) (hp : (Ty.arr e .nullTerm).plain = true) (ctx : Ctx) (d : Bytes)
    (pos : Nat) (v : Val) (p : Nat) (h : read0 cfg e ctx d pos = .ok (v, p)) : pos ≤ p ∧ sAlign cfg e = 1 := by
  cases e with
  | sc s a =>
    rw [read0.eq_1] at h
    exact ⟨readScalarNullTerm_pos cfg s d pos v p h, rfl⟩
  | enum b a f =>
    rw [read0_enum, read0.eq_1] at h
    obtain ⟨vs, h1, _⟩ := enumWrap_ok h
    exact ⟨readScalarNullTerm_pos cfg b d pos _ p h1, rfl⟩
  | _ => simp [Ty.plain] at hp

theorem plainU_nullTerm (cfg : Cfg) (e : Ty) (h : (Ty.arr e .nullTerm).plainU cfg = true) :
    (Ty.arr e .nullTerm).plain = true := by
  cases e <;> simp [Ty.plainU, Ty.plain] at h ⊢ <;> exact h

theorem pfr_arr {R : Nat → Nat → Prop} (hC : Cmp R) {cfg : Cfg} {al : Bool} {e : Ty} {len : Len} {d : Bytes}
    (hpl : (Ty.arr e len).plainU cfg = true) (hE : ElemPFr R cfg al e d) : ElemPFr R cfg al (.arr e len) d := by
  intro ctx pos v p h hpos
  simp only [sAlign] at hpos
  unfold PFr
  simp only [sAlign]
  cases len with
  | fixed n =>
    rw [read_arr_fixed] at h
    obtain ⟨a1, a2, a3⟩ := pfr_array hC cfg al e d hE n ctx pos v p h hpos
    refine ⟨a1, a2, fun k hk => ?_⟩
    simp only [Ty.size] at hk
    cases he : e.size cfg with
    | none => rw [he] at hk; cases hk
    | some k' => rw [he] at hk; cases hk; exact a3 k' he
  | expr toks =>
    rw [read_arr_expr] at h
    obtain ⟨n, _, h2⟩ := bind_ok h
    obtain ⟨a1, a2, _⟩ := pfr_array hC cfg al e d hE n ctx pos v p h2 hpos
    exact ⟨a1, a2, fun k hk => by simp [Ty.size] at hk⟩
  | nullTerm =>
    rw [read_arr_null] at h
    obtain ⟨a1, a2⟩ := read0_pos cfg e (plainU_nullTerm cfg e hpl) ctx d pos v p h
    exact ⟨a1, fun _ => a2 ▸ Nat.one_dvd _, fun k hk => by simp [Ty.size] at hk⟩
  | eof => simp [Ty.plainU] at hpl

/-- every successful read of `e` on `d` succeeds with the same result on `d` cut at or after its end position -/
def ElemT (cfg : Cfg) (al : Bool) (e : Ty) (d : Bytes) : Prop :=
  ∀ ctx pos v p, read cfg e ctx d pos = .ok (v, p) → (al = true → sAlign cfg e ∣ pos) →
    ∀ q, p ≤ q → read cfg e ctx (d.take q) pos = .ok (v, p)

theorem t_sc (cfg : Cfg) (al : Bool) (s : Scalar) (a : Nat) (d : Bytes) : ElemT cfg al (.sc s a) d := by
  intro ctx pos v p h _ q hq
  rw [read_sc] at h ⊢
  exact readScalar_take cfg s d pos v p q h hq

theorem t_enum (cfg : Cfg) (al : Bool) (b : Scalar) (a : Nat) (f : Bool) (d : Bytes) :
    ElemT cfg al (.enum b a f) d := by
  intro ctx pos v p h _ q hq
  rw [read_enum] at h ⊢
  obtain ⟨i, p', h1, h2⟩ := wrapInt_ok h
  cases h2
  rw [readScalar_take cfg b d pos _ _ q h1 hq]; rfl

theorem t_ptr (cfg : Cfg) (al : Bool) (t : Ty) (d : Bytes) : ElemT cfg al (.ptr t) d := by
  intro ctx pos v p h _ q hq
  rw [read_ptr] at h ⊢
  obtain ⟨i, p', h1, h2⟩ := wrapInt_ok h
  cases h2
  rw [readScalar_take cfg _ d pos _ _ q h1 hq]; rfl

theorem t_N (cfg : Cfg) (al : Bool) (e : Ty) (d : Bytes) (hPF : ElemPFr (· ≤ ·) cfg al e d) (hT : ElemT cfg al e d) :
    ∀ (n : Nat) (ctx : Ctx) (pos : Nat) (vs : Vals) (p : Nat), readN cfg e n ctx d pos = .ok (vs, p) →
      (al = true → sAlign cfg e ∣ pos) → ∀ q, p ≤ q → readN cfg e n ctx (d.take q) pos = .ok (vs, p) := by
  intro n
  induction n with
  | zero => intro ctx pos vs p h _ q _; rw [readN_zero] at h ⊢; exact h
  | succ n ih =>
    intro ctx pos vs p h hpos q hq
    rw [readN_succ] at h ⊢
    obtain ⟨⟨v, p1⟩, h1, h2⟩ := bind_ok h
    obtain ⟨⟨vs', p'⟩, h3, h4⟩ := bind_ok h2
    cases h4
    obtain ⟨_, a2, _⟩ := hPF _ _ _ _ h1 hpos
    obtain ⟨b1, _, _⟩ := pfr_N cmp_le cfg al e d hPF n _ _ _ _ h3 a2
    rw [hT _ _ _ _ h1 hpos q (Nat.le_trans b1 hq)]
    simp only [Except.bind]
    rw [ih _ _ _ _ h3 a2 q hq]

theorem t_array (cfg : Cfg) (al : Bool) (e : Ty) (d : Bytes) (hPF : ElemPFr (· ≤ ·) cfg al e d) (hT : ElemT cfg al e d)
    (n : Nat) (ctx : Ctx) (pos : Nat) (v : Val) (p : Nat) (h : readArray cfg e n ctx d pos = .ok (v, p))
    (hpos : al = true → sAlign cfg e ∣ pos) (q : Nat) (hq : p ≤ q) :
    readArray cfg e n ctx (d.take q) pos = .ok (v, p) := by
  have loop : ∀ e', ElemPFr (· ≤ ·) cfg al e' d → ElemT cfg al e' d → (al = true → sAlign cfg e' ∣ pos) → ∀ w,
      (readN cfg e' n ctx d pos).map (fun (vs, p) => (Val.list vs, p)) = .ok (w, p) →
      (readN cfg e' n ctx (d.take q) pos).map (fun (vs, p) => (Val.list vs, p)) = .ok (w, p) := by
    intro e' hPF' hT' hpos' w hw
    obtain ⟨⟨vs, p'⟩, h1, h2⟩ := map_ok hw
    cases h2
    rw [t_N cfg al e' d hPF' hT' n ctx pos vs _ h1 hpos' q hq]; rfl
  have scCase : ∀ s a w, readArray cfg (.sc s a) n ctx d pos = .ok (w, p) →
      readArray cfg (.sc s a) n ctx (d.take q) pos = .ok (w, p) := by
    intro s a w hw
    rw [readArray.eq_1] at hw ⊢
    cases hx : readScalarArray cfg s n d pos with
    | some x =>
      rw [hx] at hw; simp only [] at hw; subst hw
      rw [readScalarArray_take cfg s n d pos w p q hx hq]
    | none =>
      rw [hx] at hw
      rw [readScalarArray_none_append cfg s n d (d.take q) pos hx]
      exact loop _ (elemPFr_of_eq cmp_le (pf_sc cfg al s a d)) (t_sc cfg al s a d) (fun _ => Nat.one_dvd _) w hw
  cases e with
  | sc s a => exact scCase s a v h
  | enum b a f =>
    rw [readArray_enum] at h ⊢
    obtain ⟨vs, h1, rfl⟩ := enumWrap_ok h
    rw [scCase b a _ h1]; rfl
  | _ => rw [readArray_loop cfg rfl] at h ⊢; exact loop _ hPF hT hpos v h

theorem t_read0 (cfg : Cfg) (e : Ty) (hp : (Ty.arr e .nullTerm).plain = true) (ctx : Ctx) (d : Bytes)
    (pos : Nat) (v : Val) (p : Nat) (h : read0 cfg e ctx d pos = .ok (v, p)) (q : Nat) (hq : p ≤ q) :
    read0 cfg e ctx (d.take q) pos = .ok (v, p) := by
  cases e with
  | sc s a =>
    rw [read0.eq_1] at h ⊢
    have hs : s.size ≠ some 0 ∨ s = .void := by
      simp only [Ty.plain, Bool.and_eq_true, Bool.or_eq_true, bne_iff_ne, beq_iff_eq] at hp
      exact hp.1
    exact readScalarNullTerm_take cfg s d pos v p q hs h hq
  | enum b a f =>
    rw [read0_enum, read0.eq_1] at h ⊢
    have hs : b.size ≠ some 0 ∨ b = .void := by
      simp only [Ty.plain, Bool.and_eq_true, bne_iff_ne] at hp
      exact Or.inl hp.1
    obtain ⟨vs, h1, rfl⟩ := enumWrap_ok h
    rw [readScalarNullTerm_take cfg b d pos _ p q hs h1 hq]; rfl
  | _ => simp [Ty.plain] at hp

theorem t_arr {cfg : Cfg} {al : Bool} {e : Ty} {len : Len} {d : Bytes} (hpl : (Ty.arr e len).plainU cfg = true)
    (hPF : ElemPFr (· ≤ ·) cfg al e d) (hT : ElemT cfg al e d) : ElemT cfg al (.arr e len) d := by
  intro ctx pos v p h hpos q hq
  simp only [sAlign] at hpos
  cases len with
  | fixed n =>
    rw [read_arr_fixed] at h ⊢
    exact t_array cfg al e d hPF hT n ctx pos v p h hpos q hq
  | expr toks =>
    rw [read_arr_expr] at h ⊢
    obtain ⟨n, h1, h2⟩ := bind_ok h
    rw [h1]
    exact t_array cfg al e d hPF hT n ctx pos v p h2 hpos q hq
  | nullTerm =>
    rw [read_arr_null] at h ⊢
    exact t_read0 cfg e (plainU_nullTerm cfg e hpl) ctx d pos v p h q hq
  | eof => simp [Ty.plainU] at hpl

end Cstruct.Core.Lemmas
