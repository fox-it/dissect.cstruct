/-
  Helper lemmas for C04: the bit trick `-o & (a - 1)` against the rounding rule, and `Fields.layout` on members without
  bit width against the C rule of `Proofs/Spec/C04.lean`.
-/
import Proofs.Spec.C04
import CstructModel.Gen.TypeTable
import Proofs.Lemmas.Bits
import Proofs.Lemmas.LayoutEq
namespace Cstruct.C04.Lemmas
open Cstruct Cstruct.C04

theorem land_zero_left (x : Int) : land 0 x = 0 := by
  cases x with
  | ofNat n => show ((0 &&& n : Nat) : Int) = 0; rw [Nat.zero_and]; rfl
  | negSucc n => show land (Int.ofNat 0) (Int.negSucc n) = 0; simp [land, Nat.bitwise]

/-- `-o & (2^k - 1)` is `-o` modulo `2^k`, which is the distance from `o` to the next multiple of `2^k` -/
theorem pyPad_eq (o k : Nat) : pyPad (o : Int) ((2^k : Nat) : Int) = (pad o (2^k) : Nat) := by
  have hr := Nat.mod_lt o (Nat.two_pow_pos k)
  have hmask : ((2 ^ k : Nat) : Int) - 1 = shl 1 k - 1 := by rw [shl, Int.one_mul]
  rw [pyPad, hmask, land_mask, pad, Int.neg_emod, Int.natAbs_natCast, ← Int.natCast_emod]
  generalize 2 ^ k = a at *
  split
  · rename_i h
    rw [Nat.mod_eq_zero_of_dvd (Int.natCast_dvd_natCast.1 h), Nat.sub_zero, Nat.mod_self]
    rfl
  · rename_i h
    have : o % a ≠ 0 := fun h0 => h (Int.natCast_dvd_natCast.2 (Nat.dvd_of_mod_eq_zero h0))
    rw [Nat.mod_eq_of_lt (show a - o % a < a by omega)]
    omega

theorem padNat_pow2 (o k : Nat) : padNat o (2 ^ k) = pad o (2 ^ k) := by
  unfold padNat
  rw [pyPad_eq]
  rfl

theorem roundUp_eq (o a : Nat) (ha : 0 < a) : roundUp o a = o + pad o a := by
  obtain ⟨q, r, hr, rfl⟩ : ∃ q r, r < a ∧ o = a * q + r := ⟨o / a, o % a, Nat.mod_lt _ ha, (Nat.div_add_mod o a).symm⟩
  rw [roundUp, pad, Nat.mul_add_mod, Nat.mod_eq_of_lt hr]
  cases r with
  | zero =>
    show (a * q + a - 1) / a * a = a * q + (a - 0) % a
    rw [Nat.sub_zero, Nat.mod_self, Nat.add_sub_assoc ha, Nat.mul_add_div ha,
      Nat.div_eq_of_lt (Nat.sub_one_lt (Nat.ne_of_gt ha)), Nat.mul_comm]
    rfl
  | succ r =>
    rw [show a * q + (r + 1) + a - 1 = a * (q + 1) + r by rw [Nat.mul_succ]; omega, Nat.mul_add_div ha,
      Nat.div_eq_of_lt (by omega), Nat.mod_eq_of_lt (show a - (r + 1) < a by omega), Nat.add_zero, Nat.mul_comm,
      Nat.mul_succ]
    omega

theorem roundUp_mod (o a : Nat) : roundUp o a % a = 0 := by
  unfold roundUp
  exact Nat.mul_mod_left _ _

theorem pad_lt (o a : Nat) (ha : 0 < a) : pad o a < a := Nat.mod_lt _ ha

theorem padNat_roundUp (o a : Nat) (ha : isPow2 a) : o + padNat o a = roundUp o a := by
  obtain ⟨k, rfl⟩ := ha
  rw [padNat_pow2, roundUp_eq _ _ (Nat.two_pow_pos k)]

theorem isPow2_pos {a : Nat} (ha : isPow2 a) : 0 < a := by
  obtain ⟨k, rfl⟩ := ha
  exact Nat.two_pow_pos k

theorem isPow2_max {a b : Nat} (ha : isPow2 a) (hb : isPow2 b) : isPow2 (max a b) := by
  rcases Nat.le_total a b with h | h
  · rw [Nat.max_eq_right h]; exact hb
  · rw [Nat.max_eq_left h]; exact ha

theorem foldl_max_pow2 (ms : List (Nat × Nat)) (hp : ∀ m ∈ ms, isPow2 m.2) (a0 : Nat) (h0 : isPow2 a0) :
    isPow2 (ms.foldl (fun a m => max a m.2) a0) := by
  induction ms generalizing a0 with
  | nil => exact h0
  | cons m r ih =>
    simp only [List.foldl_cons]
    exact ih (fun x hx => hp x (List.mem_cons_of_mem _ hx)) _ (isPow2_max h0 (hp m List.mem_cons_self))

theorem maxAlignOf_cons_pow2 (m : Nat × Nat) (r : List (Nat × Nat)) (hp : ∀ x ∈ m :: r, isPow2 x.2) :
    isPow2 (maxAlignOf (m :: r)) := by
  unfold maxAlignOf
  simp only [List.foldl_cons, Nat.zero_max]
  exact foldl_max_pow2 r (fun x hx => hp x (List.mem_cons_of_mem _ hx)) _ (hp m List.mem_cons_self)

/-! ### Layout, non-bit-field members -/

theorem layout_cons_none (cfg : Cfg) (align : Bool) (n : String) (an : Bool) (ty : Ty) (rest : Fields) (st : LState)
    (cur k : Nat) (hst : st.offset = some cur) (hk : ty.size cfg = some k) :
    Fields.layout cfg align (.cons n an ty none rest) st =
      let o := if align then cur + padNat cur (ty.alignment cfg) else cur
      match Fields.layout cfg align rest
          { offset := some (o + k), alignment := max st.alignment (ty.alignment cfg), bitsType := none,
            bitsFieldOffset := some 0, bitsRemaining := 0 } with
      | .error e => .error e
      | .ok (sz, al, offs) => .ok (sz, al, some o :: offs) := by
  rw [Layout.layout_cons_eq]
  simp only [Layout.stepL, Layout.offOf, hst, hk]
  cases align <;> rfl

theorem members_cons {cfg : Cfg} {n : String} {an : Bool} {ty : Ty} {bits : Option Nat} {rest : Fields}
    {ms : List (Nat × Nat)} (h : members cfg (.cons n an ty bits rest) = some ms) :
    ∃ sz ms', bits = none ∧ ty.size cfg = some sz ∧ members cfg rest = some ms' ∧
      ms = (sz, ty.alignment cfg) :: ms' := by
  simp only [members] at h
  split at h
  · rename_i sz ms' h2 h3
    injection h with h
    exact ⟨sz, ms', rfl, h2, h3, h.symm⟩
  · cases h

theorem layout_abi (cfg : Cfg) : ∀ (fs : Fields) (ms : List (Nat × Nat)) (st : LState) (cur : Nat),
    members cfg fs = some ms → (∀ m ∈ ms, isPow2 m.2) → st.offset = some cur →
    Fields.layout cfg true fs st =
      .ok (some ((cOffsets ms cur).2 + padNat (cOffsets ms cur).2 (ms.foldl (fun a m => max a m.2) st.alignment)),
           ms.foldl (fun a m => max a m.2) st.alignment, (cOffsets ms cur).1.map some)
  | .nil, ms, st, cur, hm, _, hst => by
    simp only [members] at hm
    injection hm with hm
    subst hm
    simp only [Fields.layout, hst, cOffsets, List.foldl_nil, List.map_nil, if_true]
  | .cons n an ty bits rest, ms, st, cur, hm, hp, hst => by
    obtain ⟨sz, ms', rfl, hsz, hm', rfl⟩ := members_cons hm
    rw [layout_cons_none cfg true n an ty rest st cur sz hst hsz]
    have hpa : isPow2 (ty.alignment cfg) := hp _ List.mem_cons_self
    have ih := layout_abi cfg rest ms'
      { offset := some (cur + padNat cur (ty.alignment cfg) + sz), alignment := max st.alignment (ty.alignment cfg),
        bitsType := none, bitsFieldOffset := some 0, bitsRemaining := 0 }
      (cur + padNat cur (ty.alignment cfg) + sz) hm' (fun x hx => hp x (List.mem_cons_of_mem _ hx)) rfl
    simp only [if_true] at ih ⊢
    rw [ih]
    simp only [cOffsets, List.foldl_cons, List.map_cons, padNat_roundUp cur _ hpa]

theorem layout_packed (cfg : Cfg) : ∀ (fs : Fields) (ms : List (Nat × Nat)) (st : LState) (cur : Nat),
    members cfg fs = some ms → st.offset = some cur →
    Fields.layout cfg false fs st =
      .ok (some (packedOffsets ms cur).2, ms.foldl (fun a m => max a m.2) st.alignment,
           (packedOffsets ms cur).1.map some)
  | .nil, ms, st, cur, hm, hst => by
    simp only [members] at hm
    injection hm with hm
    subst hm
    simp only [Fields.layout, hst, packedOffsets, List.foldl_nil, List.map_nil, Bool.false_eq_true, if_false]
  | .cons n an ty bits rest, ms, st, cur, hm, hst => by
    obtain ⟨sz, ms', rfl, hsz, hm', rfl⟩ := members_cons hm
    rw [layout_cons_none cfg false n an ty rest st cur sz hst hsz]
    have ih := layout_packed cfg rest ms'
      { offset := some (cur + sz), alignment := max st.alignment (ty.alignment cfg),
        bitsType := none, bitsFieldOffset := some 0, bitsRemaining := 0 }
      (cur + sz) hm' rfl
    simp only [Bool.false_eq_true, if_false] at ih ⊢
    rw [ih]
    simp only [packedOffsets, List.foldl_cons, List.map_cons]

/-- `he`: an empty member list has alignment 0, and `-e & -1 = -e` is the right padding only at `e = 0` -/
theorem tail_pad (ms : List (Nat × Nat)) (hp : ∀ m ∈ ms, isPow2 m.2) (e : Nat) (he : ms = [] → e = 0) :
    e + padNat e (maxAlignOf ms) = roundUp e (maxAlignOf ms) := by
  cases ms with
  | nil =>
    rw [he rfl]
    show 0 + padNat 0 0 = roundUp 0 0
    simp [padNat, pyPad, land_zero_left, roundUp]
  | cons m r => exact padNat_roundUp _ _ (maxAlignOf_cons_pow2 m r hp)

theorem le_roundUp (o a : Nat) (ha : 0 < a) : o ≤ roundUp o a := by
  rw [roundUp_eq o a ha]; omega

theorem roundUp_lt (o a : Nat) (ha : 0 < a) : roundUp o a < o + a := by
  rw [roundUp_eq o a ha]
  have := pad_lt o a ha
  omega

theorem cOffsets_cons (sz al : Nat) (r : List (Nat × Nat)) (cur : Nat) :
    cOffsets ((sz, al) :: r) cur =
      (roundUp cur al :: (cOffsets r (roundUp cur al + sz)).1, (cOffsets r (roundUp cur al + sz)).2) := rfl

theorem cOffsets_facts (ms : List (Nat × Nat)) (hp : ∀ m ∈ ms, isPow2 m.2) :
    ∀ (cur : Nat) (os : List Nat) (e : Nat), cOffsets ms cur = (os, e) →
      os.length = ms.length ∧
      (∀ i (h : i < ms.length) (h' : i < os.length), os[i] % (ms[i]).2 = 0) ∧
      (∀ o ∈ os, cur ≤ o) ∧ cur ≤ e := by
  induction ms with
  | nil =>
    intro cur os e h
    simp only [cOffsets] at h
    injection h with h1 h2
    subst h1; subst h2
    simp
  | cons m r ih =>
    intro cur os e h
    obtain ⟨sz, al⟩ := m
    rw [cOffsets_cons] at h
    injection h with h1 h2
    subst h1; subst h2
    have hal : isPow2 al := hp (sz, al) List.mem_cons_self
    have hle := le_roundUp cur al (isPow2_pos hal)
    obtain ⟨i1, i2, i3, i4⟩ := ih (fun x hx => hp x (List.mem_cons_of_mem _ hx)) (roundUp cur al + sz) _ _ rfl
    refine ⟨by simp [i1], ?_, ?_, by omega⟩
    · intro i h h'
      cases i with
      | zero => simp [roundUp_mod]
      | succ j =>
        simp only [List.getElem_cons_succ]
        exact i2 j (by simpa using h) (by simpa using h')
    · intro o ho
      rcases List.mem_cons.mp ho with rfl | ho
      · exact hle
      · have := i3 o ho; omega

theorem unionSize_members (cfg : Cfg) : ∀ (fs : Fields) (ms : List (Nat × Nat)) (cur : Nat),
    members cfg fs = some ms →
    Fields.unionSize cfg fs (some cur) = some (ms.foldl (fun s m => max s m.1) cur)
  | .nil, ms, cur, hm => by
    simp only [members] at hm
    injection hm with hm
    subst hm
    simp only [Fields.unionSize, List.foldl_nil]
  | .cons n an ty bits rest, ms, cur, hm => by
    obtain ⟨sz, ms', rfl, hsz, hm', rfl⟩ := members_cons hm
    simp only [Fields.unionSize, hsz, List.foldl_cons]
    rw [unionSize_members cfg rest ms' _ hm', Nat.max_comm]

theorem maxAlign_members (cfg : Cfg) : ∀ (fs : Fields) (ms : List (Nat × Nat)) (a : Nat),
    members cfg fs = some ms →
    Fields.maxAlign cfg fs a = ms.foldl (fun a m => max a m.2) a
  | .nil, ms, a, hm => by
    simp only [members] at hm
    injection hm with hm
    subst hm
    simp only [Fields.maxAlign, List.foldl_nil]
  | .cons n an ty bits rest, ms, a, hm => by
    obtain ⟨sz, ms', rfl, hsz, hm', rfl⟩ := members_cons hm
    simp only [Fields.maxAlign, List.foldl_cons]
    rw [maxAlign_members cfg rest ms' _ hm']

/-! ### Dynamic tail -/

theorem layout_none (cfg : Cfg) (al : Bool) : ∀ (fs : Fields) (st : LState) (sz : Option Nat) (a : Nat)
    (offs : List (Option Nat)), st.offset = none → Fields.layout cfg al fs st = .ok (sz, a, offs) →
    sz = none ∧ ∀ o ∈ offs, o = none
  | .nil, st, sz, a, offs, hst, h => by
    simp [Fields.layout, hst] at h
    obtain ⟨rfl, _, rfl⟩ := h
    simp
  | .cons n an ty bits rest, st, sz, a, offs, hst, h => by
    obtain ⟨st', foff, offs', hs, hr, rfl⟩ := Layout.layout_cons_ok h
    rw [hst] at hs
    -- from no offset a step records no offset and leaves none
    have hn : foff = none ∧ st'.offset = none := by
      rcases (Layout.stepL_ok hs).2 with ⟨_, h1, h2⟩ | ⟨_, ⟨h1, _, h2⟩ | ⟨h1, h2⟩⟩ <;> exact ⟨h1, h2⟩
    obtain ⟨h1, h2⟩ := layout_none cfg al rest st' sz a offs' hn.2 hr
    refine ⟨h1, fun o ho => ?_⟩
    rcases List.mem_cons.mp ho with rfl | ho
    · exact hn.1
    · exact h2 o ho

theorem layout_step_inv {r : Except Err (Option Nat × Nat × List (Option Nat))} {x : Option Nat}
    {sz : Option Nat} {a : Nat} {offs : List (Option Nat)}
    (h : (match r with
          | .error e => .error e
          | .ok (sz, al, offs) => .ok (sz, al, x :: offs)) = Except.ok (sz, a, offs)) :
    ∃ offs', r = .ok (sz, a, offs') ∧ offs = x :: offs' := by
  cases r with
  | error e => cases h
  | ok p =>
    obtain ⟨s, a', o'⟩ := p
    simp only [Except.ok.injEq, Prod.mk.injEq] at h
    obtain ⟨rfl, rfl, rfl⟩ := h
    exact ⟨o', rfl, rfl⟩

/-- the largest alignment in the table is 16 (`int128`): hence the list, and `k ≤ 4` in `c04_table_pow2` -/
def entryOk : Gen.TypeEntry → Bool
  | .type _ _ _ (some a) => a == 0 || a == 1 || a == 2 || a == 4 || a == 8 || a == 16
  | _ => true

theorem table_all_ok : Gen.typeTable.all (fun p => entryOk p.2) = true := by decide +kernel

end Cstruct.C04.Lemmas
