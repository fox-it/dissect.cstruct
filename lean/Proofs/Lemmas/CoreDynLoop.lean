/-
  The member loop of fragment D (`Proofs/CoreDyn.lean`), in either mode (`al`), with or without layout offsets. One
  invariant gives both directions: at matched positions the writer succeeds provided every structure it meets has a
  layout, and whatever it writes ends where the layout says (as long as the layout knows) and is parsed back. Matched
  positions: writer position = reader position, = `start + offset` as long as the layout has an offset; a pending
  bit-field unit has been allocated by the layout and loaded by the reader but not yet emitted by the writer, and is
  related to the bytes flushed later by `URel`. In aligned mode every structure starts and ends at a multiple of its
  alignment and (under `bitsNatural`) every unit is opened at a multiple of its size, so that no padding moves a member
  that continues a unit.
  The invariant is `DynWr` (one value of a type), `DynTy`, `DynIdle`, `DynPend` (member lists; no unit / a unit pending);
  `dyn_idle_nil` … `dyn_pend_cons` are its cases for member lists, assembled in `CoreDynTy.lean`. From elsewhere:
  `LIdle`, `RIdle`, `Pend`, `URel`, `padW`, `putStep`, `stNew`, `stCont` and the member equations (`CoreBitsUnfold.lean`);
  `sAlign`, `allAlignDvd`, `alignedOff`, `stNext` (`CoreLayout.lean`); `At` (`CoreDynScalar.lean`); `WriteInv`, `ReadInv`,
  `put_step` (`Lemmas/C06.lean`).
-/
import Proofs.Lemmas.CoreDynScalar
import Proofs.Lemmas.CoreBitsUnfold

namespace Cstruct.Core.Lemmas
open Cstruct Cstruct.Core Cstruct.C06 Cstruct.C06.Lemmas
open Cstruct.C05.Lemmas (encBytes encBytes_length)

mutual
/-- every structure `write` meets in a value of the type has a layout; one behind a pointer is never written. Weaker
    than `defErr = none`, and true of every type of fragment D without bit-fields (`laidOut_of_noBits`,
    `CoreDynModes.lean`). -/
def LaidOut (cfg : Cfg) : Ty → Prop
  | .arr e _ => LaidOut cfg e
  | .struct al fs => LaidOutF cfg fs ∧ ∃ r, structLayout cfg al fs = .ok r
  | _ => True
def LaidOutF (cfg : Cfg) : Fields → Prop
  | .nil => True
  | .cons _ _ t _ r => LaidOut cfg t ∧ LaidOutF cfg r
end

/-- the standing hypotheses on a type: in fragment D, one `align` flag throughout and, in aligned mode only, power-of-two
    alignments and bit-field storage types whose size is their alignment -/
structure TyOk (cfg : Cfg) (al : Bool) (ty : Ty) : Prop where
  frag : ty.fragD cfg = true
  unif : ty.uniformAlign al = true
  p2 : al = true → ty.pow2Aligned cfg
  nat : al = true → ty.bitsNatural cfg = true

/-- `TyOk` for a member list -/
structure FieldsOk (cfg : Cfg) (al : Bool) (fs : Fields) : Prop where
  frag : Fields.fragD cfg fs = true
  unif : Fields.uniformAlign al fs = true
  p2 : al = true → fs.pow2Aligned cfg
  nat : al = true → Fields.bitsNatural cfg fs = true

theorem FieldsOk.tail {cfg al name an ty bits rest} (h : FieldsOk cfg al (.cons name an ty bits rest)) :
    FieldsOk cfg al rest := by
  obtain ⟨h1, h2, h3, h4⟩ := h
  simp only [Fields.fragD, Bool.and_eq_true] at h1
  simp only [Fields.uniformAlign, Bool.and_eq_true] at h2
  simp only [Fields.pow2Aligned] at h3
  simp only [Fields.bitsNatural, Bool.and_eq_true] at h4
  exact ⟨h1.2, h2.2, fun ha => (h3 ha).2, fun ha => (h4 ha).2⟩

theorem FieldsOk.head_nb {cfg al name an ty rest} (h : FieldsOk cfg al (.cons name an ty none rest)) : TyOk cfg al ty := by
  obtain ⟨h1, h2, h3, h4⟩ := h
  simp only [Fields.fragD, Bool.and_eq_true] at h1
  simp only [Fields.uniformAlign, Bool.and_eq_true] at h2
  simp only [Fields.pow2Aligned] at h3
  simp only [Fields.bitsNatural, Bool.and_eq_true] at h4
  exact ⟨h1.1, h2.1, fun ha => (h3 ha).1, fun ha => (h4 ha).1⟩

theorem FieldsOk.head_p2 {cfg al name an ty bits rest} (h : FieldsOk cfg al (.cons name an ty bits rest)) (ha : al = true) :
    IsP2 (ty.alignment cfg) :=
  alignment_p2 cfg ty (h.p2 ha).1

/-- `v` can be written at `pos` if every structure met has a layout; whatever is written there has the static size of
    the type if it has one, ends at a multiple of `sAlign` (aligned mode; `sAlign`, `CoreLayout.lean`: the alignment of a
    structure, of an array that of its elements, else 1), and parses back to `v` in the context `ctx` -/
def DynWr (cfg : Cfg) (al : Bool) (ty : Ty) (ctx : Ctx) (v : Val) (pos : Nat) : Prop :=
  (LaidOut cfg ty → ∃ bs, write cfg ty v pos = .ok bs) ∧
  ∀ bs, write cfg ty v pos = .ok bs →
    (∀ k, ty.size cfg = some k → bs.length = k) ∧ (al = true → sAlign cfg ty ∣ pos + bs.length) ∧
    ∀ d, At d pos bs → read cfg ty ctx d pos = .ok (v, pos + bs.length)

/-- `DynWr` for every value of the type, at every start that is a multiple of `sAlign` (aligned mode) -/
def DynTy (cfg : Cfg) (al : Bool) (ty : Ty) : Prop :=
  TyOk cfg al ty → ∀ ctx v, HasTyD cfg ctx v ty → ∀ pos, (al = true → sAlign cfg ty ∣ pos) → DynWr cfg al ty ctx v pos

/-- the member loop from a state without a pending unit. `start` is where the structure starts and `pos` the position of
    both writer and reader, `start + o` while the layout state `st` has an offset `o`. `fl` is the final flush of what the
    writer leaves in its buffer: it is counted with the output `out`. If the layout knows the size `s`, the bytes end at the
    offset `e` with `s = alignTo al e sa`: the size is the end offset rounded up to the alignment `sa` of the structure. -/
def DynIdle (cfg : Cfg) (al : Bool) (fs : Fields) : Prop :=
  FieldsOk cfg al fs → ∀ ctx vs, HasTysD cfg ctx vs fs →
  ∀ st sz sa offs, Fields.layout cfg al fs st = .ok (sz, sa, offs) → LIdle st fs →
  ∀ start pos, (al = true → allAlignDvd cfg start fs) → (∀ o, st.offset = some o → pos = start + o) →
    (LaidOutF cfg fs → ∃ r, writeFields cfg al fs offs vs start BitBuf.empty pos = .ok r) ∧
    ∀ out bbF, writeFields cfg al fs offs vs start BitBuf.empty pos = .ok (out, bbF) →
      ∃ fl, flushBits cfg bbF = .ok fl ∧
        (∀ s, sz = some s → ∃ e, pos + (out ++ fl).length = start + e ∧ s = alignTo al e sa) ∧
        ∀ (d : Bytes) (bbR : BitBuf), At d pos (out ++ fl) → RIdle bbR fs →
          ∃ szs, readFields cfg al fs offs start bbR ctx d pos = .ok (vs, szs, pos + (out ++ fl).length)

/-- the member loop from a state with a pending unit of storage type `ft` (`fsz` bytes) of which `k` bits are used and
    hold `n`. The bytes written from here on (final flush included) start with the unit, whose value `F` extends the bits
    accumulated so far; a reader that has loaded that unit and handed out the same `k` bits returns the values. `pos` is
    where the unit starts: the writer, which has emitted nothing for it, is there; the reader is at `pos + fsz`; the
    layout offset is behind the unit too (`pos + fsz = start + o`). `fsz ∣ pos`: in aligned mode the unit was opened at a
    multiple of its size. `fl`, `e`, `s` as in `DynIdle`. -/
def DynPend (cfg : Cfg) (al : Bool) (fs : Fields) : Prop :=
  FieldsOk cfg al fs → ∀ ctx vs, HasTysD cfg ctx vs fs →
  ∀ st sz sa offs, Fields.layout cfg al fs st = .ok (sz, sa, offs) →
  ∀ ft fsz k n bbW, Pend cfg st ft fsz k n bbW →
  ∀ start pos, (al = true → allAlignDvd cfg start fs) → (al = true → fsz ∣ pos) →
    (∀ o, st.offset = some o → pos + fsz = start + o) →
    (LaidOutF cfg fs → ∃ r, writeFields cfg al fs offs vs start bbW pos = .ok r) ∧
    ∀ out bbF, writeFields cfg al fs offs vs start bbW pos = .ok (out, bbF) →
      ∃ fl F tail, flushBits cfg bbF = .ok fl ∧ out ++ fl = encBytes cfg.endian fsz F ++ tail ∧ F < 2 ^ (8 * fsz) ∧
        URel cfg.endian (8 * fsz) k n F ∧
        (∀ s, sz = some s → ∃ e, pos + (out ++ fl).length = start + e ∧ s = alignTo al e sa) ∧
        ∀ (d : Bytes) (bbR : BitBuf) (U : Int), At d pos (out ++ fl) → bbR.ty = some ft →
          ReadInv cfg.endian (8 * fsz) U k bbR → U % ((2 ^ (8 * fsz) : Nat) : Int) = (F : Int) →
          ∃ szs, readFields cfg al fs offs start bbR ctx d (pos + fsz) = .ok (vs, szs, pos + (out ++ fl).length)

theorem hasTysD_cons_vals {cfg : Cfg} {ctx : Ctx} {vs : Vals} {name an ty bits r}
    (h : HasTysD cfg ctx vs (.cons name an ty bits r)) : ∃ v vs', vs = .cons v vs' := by
  cases h <;> exact ⟨_, _, rfl⟩

theorem hasTysD_bits {cfg : Cfg} {ctx : Ctx} {val : Val} {vs : Vals} {name an ty b r}
    (h : HasTysD cfg ctx (.cons val vs) (.cons name an ty (some (b + 1)) r)) :
    ∃ i : Int, val = ty.bitVal i ∧ 0 ≤ i ∧ i < 2 ^ (b + 1) ∧ HasTysD cfg (ctx.set name (ty.bitVal i)) vs r := by
  cases h with
  | bitsInt h0 h1 h2 => exact ⟨_, rfl, h0, h1, h2⟩
  | bitsEnum h0 h1 h2 => exact ⟨_, rfl, h0, h1, h2⟩

/-- where a member is placed when no unit is pending: `padW` bytes behind `pos`, which is a multiple of its alignment
    (aligned mode) and its layout offset from `start` if there is one -/
theorem member_pos (cfg : Cfg) (al : Bool) (ty : Ty) (hfa : al = true → IsP2 (ty.alignment cfg)) (st : LState)
    (start pos : Nat) (hd : al = true → ty.alignment cfg ∣ start) (hpos : ∀ o, st.offset = some o → pos = start + o) :
    fieldPos cfg al ty (alignedOff cfg al ty st) start pos = pos + padW cfg al ty (alignedOff cfg al ty st) start pos ∧
    (al = true → ty.alignment cfg ∣ pos + padW cfg al ty (alignedOff cfg al ty st) start pos) ∧
    ∀ o, alignedOff cfg al ty st = some o → pos + padW cfg al ty (alignedOff cfg al ty st) start pos = start + o := by
  cases ho : st.offset with
  | none =>
    simp only [alignedOff, ho, Option.map, padW, fieldPos, Option.isNone_none, and_true]
    refine ⟨by split <;> rfl, fun ha => ?_, fun o h => by cases h⟩
    subst ha
    exact padNat_p2_dvd (hfa rfl) pos
  | some o0 =>
    have h1 := hpos o0 ho
    have h0 := le_alignTo al o0 (ty.alignment cfg)
    have h2 : pos + padW cfg al ty (some (alignTo al o0 (ty.alignment cfg))) start pos =
        start + alignTo al o0 (ty.alignment cfg) := by
      simp only [padW]; split <;> omega
    simp only [alignedOff, ho, Option.map, h2, fieldPos, Option.isNone_some, Bool.false_eq_true, and_false, if_false,
      Option.some.injEq]
    refine ⟨trivial, fun ha => ?_, fun o h => by rw [h]⟩
    subst ha
    exact Nat.dvd_add (hd rfl) (alignTo_dvd (hfa rfl) o0)

theorem pos_append (pos : Nat) (a b : Bytes) : pos + (a ++ b).length = pos + a.length + b.length := by
  rw [List.length_append, Nat.add_assoc]

theorem size_shift {pos start : Nat} {a bs : Bytes} {sz : Option Nat} {P : Nat → Nat → Prop}
    (h : ∀ s, sz = some s → ∃ e, pos + a.length + bs.length = start + e ∧ P s e) :
    ∀ s, sz = some s → ∃ e, pos + (a ++ bs).length = start + e ∧ P s e := by
  intro s hs
  obtain ⟨e, h1, h2⟩ := h s hs
  exact ⟨e, by rw [pos_append]; exact h1, h2⟩

/-- the layout's test that `w` more bits fit the unit, for natural numbers -/
theorem bits_fit {W k w : Nat} (hk : k ≤ W) (h : ¬ ((W - k : Nat) : Int) - ((w : Nat) : Int) < 0) :
    ((W - k : Nat) : Int) - ((w : Nat) : Int) = ((W - (k + w) : Nat) : Int) ∧ k + w ≤ W := by
  omega

theorem loadUnit_at (cfg : Cfg) (ft : Scalar) (hi : Scalar.isInt ft = true) (fsz : Nat) (hsz : ft.size = some fsz) (F : Nat)
    (hF : F < 2 ^ (8 * fsz)) {d : Bytes} {pos : Nat} (hd : At d pos (encBytes cfg.endian fsz F)) (bbR : BitBuf)
    (hc : bbR.remaining = 0 ∨ bbR.ty ≠ some ft) :
    ∃ U : Int, loadUnit cfg ft bbR d pos = .ok ({ ty := some ft, buffer := U, remaining := fsz * 8 }, pos + fsz) ∧
      U % ((2 ^ (8 * fsz) : Nat) : Int) = (F : Int) := by
  obtain ⟨pre, post, rfl, hp⟩ := hd
  exact loadUnit_new cfg ft hi fsz hsz F hF pre post pos hp bbR hc

/-- one bit-field once its unit `bb2` is selected: put, a flush if the unit is full, the remaining members, and the
    matching take on the reader's side -/
theorem dyn_bit_step (cfg : Cfg) (al : Bool) (rest : Fields) (IHi : DynIdle cfg al rest) (IHp : DynPend cfg al rest)
    (hH : FieldsOk cfg al rest) (ctx' : Ctx) (vs' : Vals) (hvs : HasTysD cfg ctx' vs' rest) (st1 : LState) (sz sa offs')
    (hlay : Fields.layout cfg al rest st1 = .ok (sz, sa, offs'))
    (ft : Scalar) (fsz k n w : Nat) (bb2 : BitBuf) (hi : Scalar.isInt ft = true) (hsz : ft.size = some fsz)
    (hbt : st1.bitsType = some ft) (hbr : st1.bitsRemaining = ((8 * fsz - (k + w) : Nat) : Int)) (hkw : k + w ≤ 8 * fsz)
    (hoff : st1.offset = st1.bitsFieldOffset.map (· + fsz)) (hty : bb2.ty = some ft)
    (hinv : WriteInv cfg.endian (8 * fsz) k n bb2) (hn : n < 2 ^ k) (i : Int) (hi0 : 0 ≤ i) (hi1 : i < 2 ^ w)
    (start pos : Nat) (hdv : al = true → allAlignDvd cfg start rest) (hual : al = true → fsz ∣ pos)
    (hpos : ∀ o, st1.offset = some o → pos + fsz = start + o) :
    (LaidOutF cfg rest → ∃ r, putStep cfg al rest offs' vs' start fsz i w bb2 pos = .ok r) ∧
    ∀ out bbF, putStep cfg al rest offs' vs' start fsz i w bb2 pos = .ok (out, bbF) →
      ∃ fl F tail, flushBits cfg bbF = .ok fl ∧ out ++ fl = encBytes cfg.endian fsz F ++ tail ∧ F < 2 ^ (8 * fsz) ∧
        URel cfg.endian (8 * fsz) k n F ∧
        (∀ s, sz = some s → ∃ e, pos + (out ++ fl).length = start + e ∧ s = alignTo al e sa) ∧
        ∀ (d : Bytes) (bbR : BitBuf) (U : Int), At d pos (out ++ fl) → bbR.ty = some ft →
          ReadInv cfg.endian (8 * fsz) U k bbR → U % ((2 ^ (8 * fsz) : Nat) : Int) = (F : Int) →
          ∃ bbR2, bbR.take cfg.endian w = some (i, bbR2) ∧
            ∃ szs, readFields cfg al rest offs' start bbR2 ctx' d (pos + fsz) = .ok (vs', szs, pos + (out ++ fl).length) := by
  obtain ⟨m, rfl⟩ := Int.eq_ofNat_of_zero_le hi0
  have hm : m < 2 ^ w := by exact_mod_cast hi1
  obtain ⟨bb3, hput, hinv3⟩ := put_step cfg.endian fsz k n w m bb2 hinv hn hm hkw
  have hn3 := acc_lt cfg.endian k n m w hn hm
  have hty3 : bb3.ty = some ft := by rw [put_ty hput, hty]
  by_cases hex : k + w = 8 * fsz
  · -- the unit is full: it is flushed now, and the remaining members start without a pending unit
    have hrem3 : bb3.remaining = 0 := by rw [hinv3.1, hex, Nat.sub_self]
    obtain ⟨F, hfl3, hF, hrel⟩ := flush_pend cfg ft fsz (k + w) _ bb3 hty3 hsz hinv3 hn3 hkw
    have hl3 : (encBytes cfg.endian fsz F).length = fsz := encBytes_length _ _ _
    have hstep : putStep cfg al rest offs' vs' start fsz (m : Int) w bb2 pos =
        (writeFields cfg al rest offs' vs' start BitBuf.empty (pos + fsz)).bind fun (o, bbf) =>
          .ok (encBytes cfg.endian fsz F ++ o, bbf) := by
      simp only [putStep, hput, hrem3, if_true, hfl3, Except.bind, hl3]
    obtain ⟨hT, hR⟩ := IHi hH ctx' vs' hvs st1 sz sa offs' hlay
      (lidle_of_rem st1 (by rw [hbr, hex, Nat.sub_self]; rfl) rest) start (pos + fsz) hdv hpos
    obtain ⟨hrel0, hrd⟩ := take_of_urel cfg.endian fsz k n m w F hn hm hkw hrel
    rw [hstep]
    refine ⟨fun hL => ?_, fun out bbF hw => ?_⟩
    · obtain ⟨r, h⟩ := hT hL
      exact ⟨_, by rw [h]; rfl⟩
    obtain ⟨o, hwr, rfl⟩ := bind_ok_fst hw
    obtain ⟨fl, hfl, hsize, hread⟩ := hR o bbF hwr
    refine ⟨fl, F, o ++ fl, hfl, List.append_assoc .., hF, hrel0, ?_, ?_⟩ <;> rw [List.append_assoc]
    · exact size_shift (by rw [hl3]; exact hsize)
    intro d bbR U hd hRty hR hUF
    obtain ⟨bbR2, ht, hR2, _⟩ := hrd bbR U hR hUF
    obtain ⟨szs, hr⟩ := hread d bbR2 (hl3 ▸ hd.right) (ridle_of_rem bbR2 (by rw [hR2.2.1, hex, Nat.sub_self]) rest)
    exact ⟨bbR2, ht, szs, by rw [pos_append, hl3]; exact hr⟩
  · -- the unit stays pending
    have hlt : k + w < 8 * fsz := Nat.lt_of_le_of_ne hkw hex
    have hrem3 : bb3.remaining ≠ 0 := by rw [hinv3.1]; exact Nat.sub_ne_zero_of_lt hlt
    have hstep : putStep cfg al rest offs' vs' start fsz (m : Int) w bb2 pos =
        writeFields cfg al rest offs' vs' start bb3 pos := by
      simp only [putStep, hput, hrem3, if_false, Except.bind, List.length_nil, Nat.add_zero, List.nil_append]
      cases writeFields cfg al rest offs' vs' start bb3 pos <;> rfl
    obtain ⟨hT, hR⟩ := IHp hH ctx' vs' hvs st1 sz sa offs' hlay ft fsz _ _ bb3
      { isInt := hi, size := hsz, lty := hbt, lrem := hbr, lt := hlt, loff := hoff, wty := hty3, winv := hinv3, nlt := hn3 }
      start pos hdv hual hpos
    rw [hstep]
    refine ⟨hT, fun out bbF hw => ?_⟩
    obtain ⟨fl, F, tail, hfl, hdata, hF, hrel, hsize, hread⟩ := hR out bbF hw
    obtain ⟨hrel0, hrd⟩ := take_of_urel cfg.endian fsz k n m w F hn hm hkw hrel
    refine ⟨fl, F, tail, hfl, hdata, hF, hrel0, hsize, ?_⟩
    intro d bbR U hd hRty hR hUF
    obtain ⟨bbR2, ht, hR2, hty2⟩ := hrd bbR U hR hUF
    exact ⟨bbR2, ht, hread d bbR2 U hd (by rw [hty2, hRty]) hR2 hUF⟩

/-- after the last member: the size is the offset reached, rounded up -/
theorem nil_size {al : Bool} {st : LState} {start p : Nat} (hpos : ∀ o, st.offset = some o → p = start + o) :
    ∀ s, (st.offset.map fun o => alignTo al o st.alignment) = some s → ∃ e, p = start + e ∧ s = alignTo al e st.alignment := by
  intro s hs
  cases ho : st.offset with
  | none => rw [ho] at hs; cases hs
  | some o =>
    rw [ho] at hs
    exact ⟨o, hpos o ho, (Option.some.inj hs).symm⟩

theorem dyn_idle_nil (cfg : Cfg) (al : Bool) : DynIdle cfg al .nil := by
  intro _ ctx vs hvs st sz sa offs hlay _ start pos _ hpos
  cases hvs
  rw [layout_nil] at hlay
  simp only [Except.ok.injEq, Prod.mk.injEq] at hlay
  obtain ⟨rfl, rfl, rfl⟩ := hlay
  rw [writeFields_nil]
  refine ⟨fun _ => ⟨_, rfl⟩, fun out bbF hw => ?_⟩
  simp only [Except.ok.injEq, Prod.mk.injEq] at hw
  obtain ⟨rfl, rfl⟩ := hw
  refine ⟨[], rfl, ?_, ?_⟩
  · exact nil_size hpos
  · intro d bbR _ _
    exact ⟨[], by rw [readFields_nil]; rfl⟩

theorem dyn_pend_nil (cfg : Cfg) (al : Bool) : DynPend cfg al .nil := by
  intro _ ctx vs hvs st sz sa offs hlay ft fsz k n bbW hP start pos _ _ hpos
  cases hvs
  rw [layout_nil] at hlay
  simp only [Except.ok.injEq, Prod.mk.injEq] at hlay
  obtain ⟨rfl, rfl, rfl⟩ := hlay
  rw [writeFields_nil]
  refine ⟨fun _ => ⟨_, rfl⟩, fun out bbF hw => ?_⟩
  simp only [Except.ok.injEq, Prod.mk.injEq] at hw
  obtain ⟨rfl, rfl⟩ := hw
  obtain ⟨F, hfl, hF, hrel⟩ := flush_pend cfg ft fsz k n bbW hP.wty hP.size hP.winv hP.nlt (Nat.le_of_lt hP.lt)
  have hl : (encBytes cfg.endian fsz F).length = fsz := encBytes_length _ _ _
  refine ⟨_, F, [], hfl, by rw [List.nil_append, List.append_nil], hF, hrel, ?_, ?_⟩
  · rw [List.nil_append, hl]
    exact nil_size hpos
  · intro d bbR U _ _ _ _
    exact ⟨[], by rw [readFields_nil, List.nil_append, hl]⟩

theorem dyn_idle_cons_nb (cfg : Cfg) (al : Bool) (name an ty rest) (IHt : DynTy cfg al ty) (IHi : DynIdle cfg al rest) :
    DynIdle cfg al (.cons name an ty none rest) := by
  intro hH ctx vs hvs st sz sa offs hlay _ start pos hdv hpos
  cases hvs with
  | @cons _ v vs' _ _ _ _ hv hvs' =>
  rw [layout_cons_nobits _ _ _ _ _ _ _ _ rfl] at hlay
  obtain ⟨offs', hlay', rfl⟩ := bind_ok_offs hlay
  obtain ⟨hfp, hal, hfo⟩ := member_pos cfg al ty hH.head_p2 st start pos (fun ha => (hdv ha).1) hpos
  rw [writeFields_nb]
  generalize padW cfg al ty (alignedOff cfg al ty st) start pos = pad at hfp hal hfo
  obtain ⟨hTt, hRt⟩ := IHt hH.head_nb ctx v hv (pos + pad)
    (fun ha => Nat.dvd_trans (sAlign_dvd_alignment cfg ty) (hal ha))
  -- whatever is written for the member, the remaining members start at matched positions
  have hrest : ∀ body, write cfg ty v (pos + pad) = .ok body →
      ∀ o', (stNext cfg al ty st).offset = some o' → pos + (zeros pad ++ body).length = start + o' := by
    intro body hwb o' ho'
    simp only [stNext] at ho'
    cases hao : alignedOff cfg al ty st with
    | none => rw [hao] at ho'; cases ho'
    | some o0 =>
      rw [hao] at ho'
      cases hk : ty.size cfg with
      | none => rw [hk] at ho'; cases ho'
      | some k =>
        rw [hk] at ho'
        simp only [Option.bind, Option.map, Option.some.injEq] at ho'
        rw [pos_append, length_zeros, (hRt body hwb).1 k hk, hfo o0 hao, ← ho', Nat.add_assoc]
  have hIH := fun body hwb => IHi hH.tail (ctx.set name v) vs' hvs' _ sz sa offs' hlay' (lidle_of_rem _ rfl rest) start _
    (fun ha => (hdv ha).2) (hrest body hwb)
  refine ⟨fun hL => ?_, fun out bbF hw => ?_⟩
  · obtain ⟨body, hwb⟩ := hTt hL.1
    obtain ⟨r, hwr⟩ := (hIH body hwb).1 hL.2
    exact ⟨_, by rw [hwb]; simp only [Except.bind]; rw [hwr]⟩
  obtain ⟨body, hwb, hw2⟩ := bind_ok hw
  obtain ⟨o, hwr, rfl⟩ := bind_ok_fst hw2
  obtain ⟨_, _, hread⟩ := hRt body hwb
  obtain ⟨fl, hfl, hsz, hrd⟩ := (hIH body hwb).2 o bbF hwr
  refine ⟨fl, hfl, ?_, ?_⟩ <;> rw [List.append_assoc (zeros pad ++ body) o fl]
  · exact size_shift hsz
  intro d bbR hd _
  obtain ⟨szs, hr2⟩ := hrd d BitBuf.empty hd.right (ridle_of_rem _ rfl rest)
  have e3 : pos + (zeros pad ++ body).length = pos + pad + body.length := by rw [pos_append, length_zeros]
  rw [e3] at hr2
  rw [readFields_cons_nobits _ _ _ _ _ _ _ _ _ _ _ _ _ rfl]
  simp only [List.head?, Option.join, Option.bind, id, List.drop_one, List.tail_cons]
  rw [hfp, hread d (length_zeros pad ▸ hd.left.right)]
  simp only [Except.bind]
  rw [hr2, pos_append pos (zeros pad ++ body) (o ++ fl), e3]
  exact ⟨_, rfl⟩

theorem dyn_idle_cons_bit (cfg : Cfg) (al : Bool) (name an ty b rest) (IHi : DynIdle cfg al rest)
    (IHp : DynPend cfg al rest) : DynIdle cfg al (.cons name an ty (some (b + 1)) rest) := by
  intro hH ctx vs hvs st sz sa offs hlay hli start pos hdv hpos
  have hS := hH.frag
  simp only [Fields.fragD, Bool.and_eq_true] at hS
  obtain ⟨v, vs', rfl⟩ := hasTysD_cons_vals hvs
  obtain ⟨i, rfl, hi0, hi1, hvs'⟩ := hasTysD_bits hvs
  obtain ⟨ft, fsz, hbase, hint, hsz⟩ := bitOk_base ty hS.1
  have hnew : st.bitsRemaining = 0 ∨ some ft ≠ st.bitsType := by
    rcases hli with h | h
    · exact Or.inl h
    · rw [hbase] at h; exact Or.inr h
  rw [layout_bit_new cfg al name an ty b rest st ft fsz hbase hsz hnew] at hlay
  split at hlay
  · cases hlay
  rename_i hfit
  obtain ⟨offs', hlay', rfl⟩ := bind_ok_offs hlay
  obtain ⟨hfp, hal, hfo⟩ := member_pos cfg al ty hH.head_p2 st start pos (fun ha => (hdv ha).1) hpos
  rw [writeFields_bit_new cfg al name an ty b rest _ offs' _ vs' start pos ft fsz i hbase hsz (bitVal_cases ty i)]
  generalize padW cfg al ty (alignedOff cfg al ty st) start pos = pad at hfp hal hfo
  have h8 : fsz * 8 = 8 * fsz := Nat.mul_comm _ _
  have hpos' : ∀ o, (stNew cfg al ty ft fsz (b + 1) st).offset = some o → pos + pad + fsz = start + o := by
    intro o ho
    simp only [stNew] at ho
    cases hao : alignedOff cfg al ty st with
    | none => rw [hao] at ho; cases ho
    | some o0 =>
      rw [hao] at ho
      simp only [Option.map, Option.some.injEq] at ho
      rw [hfo o0 hao, ← ho, Nat.add_assoc]
  rw [h8, ← Nat.sub_zero (8 * fsz)] at hfit
  obtain ⟨hbr, hkw⟩ := bits_fit (Nat.zero_le _) hfit
  obtain ⟨hT, hR⟩ := dyn_bit_step cfg al rest IHi IHp hH.tail (ctx.set name (ty.bitVal i)) vs' hvs'
    (stNew cfg al ty ft fsz (b + 1) st) sz sa offs' hlay' ft fsz 0 0 (b + 1)
    { ty := some ft, buffer := 0, remaining := fsz * 8 } hint hsz rfl
    (by simp only [stNew]; rw [h8, ← Nat.sub_zero (8 * fsz)]; exact hbr) hkw rfl rfl
    (by rw [h8]; exact writeInv_init _ _ _) (Nat.two_pow_pos 0) i hi0 hi1
    start (pos + pad) (fun ha => (hdv ha).2) (fun ha => by rw [bitsNatural_head (hH.nat ha) hbase hsz]; exact hal ha) hpos'
  refine ⟨fun hL => ?_, fun out bbF hw => ?_⟩
  · obtain ⟨r, h⟩ := hT hL.2
    exact ⟨_, by rw [h]; rfl⟩
  obtain ⟨out', hw', rfl⟩ := bind_ok_fst hw
  obtain ⟨fl, F, tail, hfl, hdata, hF, _, hsize, hread⟩ := hR out' bbF hw'
  refine ⟨fl, hfl, ?_, ?_⟩ <;> rw [List.append_assoc]
  · exact size_shift (by rw [length_zeros]; exact hsize)
  intro d bbR hd hri
  have hc : bbR.remaining = 0 ∨ bbR.ty ≠ some ft := by
    rcases hri with h | h
    · exact Or.inl h
    · rw [hbase] at h; exact Or.inr h
  have hd' : At d (pos + pad) (out' ++ fl) := length_zeros pad ▸ hd.right
  obtain ⟨U, hload, hUF⟩ := loadUnit_at cfg ft hint fsz hsz F hF (hdata ▸ hd').left bbR hc
  obtain ⟨bbR2, htake, szs, hr⟩ := hread d { ty := some ft, buffer := U, remaining := fsz * 8 } U hd' rfl
    (by rw [h8]; exact readInv_init _ _ _ _) hUF
  rw [readFields_cons_bits]
  simp only [hbase, List.head?, Option.join, Option.bind, id, List.drop_one, List.tail_cons]
  rw [hfp, hload]
  simp only [Except.bind, htake, bitVal_eq, hr, pos_append, length_zeros]
  exact ⟨_, rfl⟩

/-- a bit-field of the pending unit's storage type continues the unit; anything else flushes it and is then a member
    met without one (`Hidle`) -/
theorem dyn_pend_cons (cfg : Cfg) (al : Bool) (name an ty bits rest) (Hidle : DynIdle cfg al (.cons name an ty bits rest))
    (IHi : DynIdle cfg al rest) (IHp : DynPend cfg al rest) : DynPend cfg al (.cons name an ty bits rest) := by
  intro hH ctx vs hvs st sz sa offs hlay ft fsz k n bbW hPd start pos hdv hual hpos
  obtain ⟨v, vs', rfl⟩ := hasTysD_cons_vals hvs
  by_cases hsame : isBitW bits = true ∧ ty.bitBase = some ft
  · obtain ⟨hb, hbase⟩ := hsame
    rcases bits with _ | _ | b
    · cases hb
    · cases hb
    obtain ⟨i, rfl, hi0, hi1, hvs'⟩ := hasTysD_bits hvs
    -- in aligned mode the unit was opened at a multiple of its size = the member's alignment: no padding anywhere
    have hfsz : al = true → fsz = ty.alignment cfg := fun ha => bitsNatural_head (hH.nat ha) hbase hPd.size
    have hd1 : al = true → padNat pos (ty.alignment cfg) = 0 := fun ha =>
      padNat_of_dvd (hH.head_p2 ha) _ (by rw [← hfsz ha]; exact hual ha)
    have hd2 : al = true → padNat (pos + fsz) (ty.alignment cfg) = 0 := fun ha =>
      padNat_of_dvd (hH.head_p2 ha) _ (by rw [← hfsz ha]; exact Nat.dvd_add (hual ha) (Nat.dvd_refl _))
    have hd3 : ∀ o, st.offset = some o → alignTo al o (ty.alignment cfg) = o := by
      intro o ho
      cases al with
      | false => rfl
      | true =>
        have h2 : ty.alignment cfg ∣ start + o := by
          rw [← hpos o ho, ← hfsz rfl]; exact Nat.dvd_add (hual rfl) (Nat.dvd_refl _)
        simp only [alignTo, if_true, padNat_of_dvd (hH.head_p2 rfl) _ ((Nat.dvd_add_right (hdv rfl).1).1 h2),
          Nat.add_zero]
    have hrem : st.bitsRemaining ≠ 0 := by
      rw [hPd.lrem]; exact Int.natCast_ne_zero.2 (Nat.sub_ne_zero_of_lt hPd.lt)
    rw [layout_bit_cont cfg al name an ty b rest st ft fsz hbase hPd.size hrem hPd.lty hPd.loff hd3] at hlay
    split at hlay
    · cases hlay
    rename_i hfit
    obtain ⟨offs', hlay', rfl⟩ := bind_ok_offs hlay
    have hwrem : bbW.remaining ≠ 0 := by rw [hPd.winv.1]; exact Nat.sub_ne_zero_of_lt hPd.lt
    rw [writeFields_bit_cont cfg al name an ty b rest offs' _ vs' start pos ft fsz i bbW hbase hPd.size
      (bitVal_cases ty i) hPd.wty hwrem hd1]
    rw [hPd.lrem] at hfit
    obtain ⟨hbr, hkw⟩ := bits_fit (Nat.le_of_lt hPd.lt) hfit
    obtain ⟨hT, hR⟩ := dyn_bit_step cfg al rest IHi IHp hH.tail (ctx.set name (ty.bitVal i))
      vs' hvs' (stCont cfg ty (b + 1) st) sz sa offs' hlay' ft fsz k n (b + 1) bbW hPd.isInt hPd.size hPd.lty
      (by simp only [stCont, hPd.lrem]; exact hbr) hkw hPd.loff hPd.wty hPd.winv hPd.nlt i hi0 hi1
      start pos (fun ha => (hdv ha).2) hual hpos
    refine ⟨fun hL => hT hL.2, fun out bbF hw => ?_⟩
    obtain ⟨fl, F, tail, hfl, hdata, hF, hrel, hsize, hread⟩ := hR out bbF hw
    refine ⟨fl, F, tail, hfl, hdata, hF, hrel, hsize, ?_⟩
    intro d bbR U hd hRty hR hUF
    obtain ⟨bbR2, htake, szs, hr⟩ := hread d bbR U hd hRty hR hUF
    have hc : ¬ (bbR.remaining = 0 ∨ bbR.ty ≠ some ft) := fun h =>
      h.elim (fun h0 => Nat.sub_ne_zero_of_lt hPd.lt (hR.2.1 ▸ h0)) (fun h1 => h1 hRty)
    rw [readFields_cons_bits]
    simp only [hbase, List.head?, Option.join, Option.bind, id, List.drop_one, List.tail_cons, loadUnit, hc, if_false]
    rw [fieldPos_none cfg al ty start _ hd2]
    simp only [Except.bind, htake, bitVal_eq, hr]
    exact ⟨_, rfl⟩
  · have hne := not_same_unit hsame
    rw [writeFields_flush cfg al name an ty bits rest offs v vs' start bbW pos ft hPd.wty hne]
    obtain ⟨F, hfl0, hF, hrel⟩ := flush_pend cfg ft fsz k n bbW hPd.wty hPd.size hPd.winv hPd.nlt (Nat.le_of_lt hPd.lt)
    have hl0 : (encBytes cfg.endian fsz F).length = fsz := encBytes_length _ _ _
    rw [hfl0]
    simp only [Except.bind, hl0]
    obtain ⟨hT, hR⟩ := Hidle hH ctx _ hvs st sz sa offs hlay (lidle_of_ne hPd.lty hne) start (pos + fsz) hdv hpos
    refine ⟨fun hL => ?_, fun out bbF hw => ?_⟩
    · obtain ⟨r, h⟩ := hT hL
      exact ⟨_, by rw [h]⟩
    obtain ⟨o, hwr, rfl⟩ := bind_ok_fst hw
    obtain ⟨fl, hfl, hsize, hread⟩ := hR o bbF hwr
    refine ⟨fl, F, o ++ fl, hfl, List.append_assoc .., hF, hrel, ?_, ?_⟩ <;> rw [List.append_assoc]
    · exact size_shift (by rw [hl0]; exact hsize)
    intro d bbR U hd hRty hR hUF
    obtain ⟨szs, hr⟩ := hread d bbR (hl0 ▸ hd.right) (ridle_of_ne hRty hne)
    exact ⟨szs, by rw [pos_append, hl0]; exact hr⟩

end Cstruct.Core.Lemmas
