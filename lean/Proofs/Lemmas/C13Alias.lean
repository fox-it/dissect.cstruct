/-
  C13 — lemmas on the alias table: alias chains and `resolveB`, `setB` / `addType` on fresh names, the built-in table.
-/
import Proofs.Spec.C13
namespace Cstruct.Parser
open Cstruct

theorem chain_pos (tbl : List (String × Bind)) (name : String) (id : Nat) : ¬ Chain tbl name id 0 := by
  intro h; cases h

theorem resolve_chain (tbl : List (String × Bind)) (n : Nat) (name : String) (id : Nat) :
    resolveB tbl n name = some id ↔ ∃ k, k ≤ n ∧ Chain tbl name id k := by
  induction n generalizing name with
  | zero =>
    simp only [resolveB]
    constructor
    · intro h; cases h
    · rintro ⟨k, hk, hc⟩
      obtain rfl : k = 0 := by omega
      exact absurd hc (chain_pos _ _ _)
  | succ n ih =>
    rw [resolveB]
    cases hl : lookupB name tbl with
    | none =>
      constructor
      · intro h; cases h
      · rintro ⟨k, _, hc⟩
        cases hc <;> simp_all
    | some b =>
      cases b with
      | type i =>
        constructor
        · intro h
          simp at h
          subst h
          exact ⟨1, by omega, .type _ _ hl⟩
        · rintro ⟨k, _, hc⟩
          cases hc <;> simp_all
      | alias t =>
        simp only
        rw [ih]
        constructor
        · rintro ⟨k, hk, hc⟩
          exact ⟨k + 1, by omega, .alias _ t _ _ hl hc⟩
        · rintro ⟨k, hk, hc⟩
          cases hc with
          | type _ _ h => simp_all
          | alias _ t' _ k' h hc' =>
            rw [hl] at h
            cases h
            exact ⟨k', by omega, hc'⟩

theorem chain_unique (tbl : List (String × Bind)) (name : String) (i j k m : Nat)
    (h₁ : Chain tbl name i k) (h₂ : Chain tbl name j m) : i = j ∧ k = m := by
  induction h₁ generalizing m with
  | type name id h =>
    cases h₂ with
    | type _ _ h' => rw [h] at h'; cases h'; exact ⟨rfl, rfl⟩
    | alias _ t _ k' h' _ => rw [h] at h'; cases h'
  | alias name t id k h _ ih =>
    cases h₂ with
    | type _ _ h' => rw [h] at h'; cases h'
    | alias _ t' _ k' h' hc' =>
      rw [h] at h'; cases h'
      obtain ⟨rfl, rfl⟩ := ih _ hc'
      exact ⟨rfl, rfl⟩

theorem lookupB_setB (n name : String) (v : Bind) (tbl : List (String × Bind)) :
    lookupB n (setB name v tbl) = if n = name then some v else lookupB n tbl := by
  induction tbl with
  | nil => simp [setB, lookupB]
  | cons p r ih =>
    obtain ⟨k, b⟩ := p
    simp only [setB]
    by_cases hk : name = k
    · subst hk
      by_cases hn : n = name <;> simp [lookupB, hn]
    · simp only [hk, if_false, lookupB, ih]
      by_cases hn : n = k
      · subst hn
        have : ¬ n = name := fun e => hk e.symm
        simp [this]
      · simp [hn]

theorem resolveB_setB_fresh (tbl : List (String × Bind)) (name : String) (v : Bind)
    (hfresh : lookupB name tbl = none) (m : Nat) (n : String) (i : Nat)
    (h : resolveB tbl m n = some i) : resolveB (setB name v tbl) m n = some i := by
  induction m generalizing n with
  | zero => simp [resolveB] at h
  | succ m ih =>
    rw [resolveB] at h ⊢
    have hn : n ≠ name := by
      intro e; subst e; rw [hfresh] at h; cases h
    rw [lookupB_setB, if_neg hn]
    cases hl : lookupB n tbl with
    | none => rw [hl] at h; cases h
    | some b =>
      rw [hl] at h
      cases b with
      | type j => exact h
      | alias t => exact ih t h

theorem addType_fresh (tbl : List (String × Bind)) (name : String) (v : Bind)
    (hfresh : lookupB name tbl = none) : addType tbl name v = some (setB name v tbl) := by
  simp [addType, hfresh]

theorem alias_same (tbl tbl' : List (String × Bind)) (name t : String) (id : Nat)
    (hfresh : lookupB name tbl = none) (ht : resolveB tbl 9 t = some id)
    (hadd : addType tbl name (.alias t) = some tbl') :
    resolveB tbl' 10 name = some id ∧
    ∀ n i, resolveB tbl 10 n = some i → resolveB tbl' 10 n = some i := by
  rw [addType_fresh _ _ _ hfresh] at hadd
  cases hadd
  refine ⟨?_, fun n i h => resolveB_setB_fresh _ _ _ hfresh _ _ _ h⟩
  rw [resolveB, lookupB_setB, if_pos rfl]
  exact resolveB_setB_fresh _ _ _ hfresh _ _ _ ht

theorem redeclare (tbl : List (String × Bind)) (name : String) (b v : Bind)
    (hb : lookupB name tbl = some b) :
    (addType tbl name v).isSome ↔ resolveB tbl 10 name = v.target tbl := by
  cases v with
  | type j =>
    simp only [addType, hb, Bind.target]
    by_cases h : resolveB tbl 10 name = some j <;> simp [h]
  | alias t =>
    simp only [addType, hb, Bind.target]
    by_cases h : resolveB tbl 10 name = resolveB tbl 10 t <;> simp [h]

theorem resolveB_congr (t₁ t₂ : List (String × Bind)) (h : LookupEq t₁ t₂) (m : Nat) (n : String) :
    resolveB t₁ m n = resolveB t₂ m n := by
  induction m generalizing n with
  | zero => rfl
  | succ m ih =>
    rw [resolveB, resolveB, h n]
    cases lookupB n t₂ with
    | none => rfl
    | some b =>
      cases b with
      | type j => rfl
      | alias t => exact ih t

theorem commute (tbl t₁ t₂ t₁' t₂' : List (String × Bind)) (a b : String) (va vb : Bind) (hab : a ≠ b)
    (ha : lookupB a tbl = none) (hb : lookupB b tbl = none)
    (h₁ : addType tbl a va = some t₁) (h₁' : addType t₁ b vb = some t₁')
    (h₂ : addType tbl b vb = some t₂) (h₂' : addType t₂ a va = some t₂') :
    LookupEq t₁' t₂' ∧ ∀ n, resolveB t₁' 10 n = resolveB t₂' 10 n := by
  rw [addType_fresh _ _ _ ha] at h₁
  cases h₁
  rw [addType_fresh _ _ _ hb] at h₂
  cases h₂
  have hb' : lookupB b (setB a va tbl) = none := by
    rw [lookupB_setB, if_neg (fun e => hab e.symm), hb]
  have ha' : lookupB a (setB b vb tbl) = none := by
    rw [lookupB_setB, if_neg hab, ha]
  rw [addType_fresh _ _ _ hb'] at h₁'
  cases h₁'
  rw [addType_fresh _ _ _ ha'] at h₂'
  cases h₂'
  have hl : LookupEq (setB b vb (setB a va tbl)) (setB a va (setB b vb tbl)) := by
    intro n
    simp only [lookupB_setB]
    by_cases h1 : n = a
    · subst h1; simp [hab]
    · simp [h1]
  exact ⟨hl, fun n => resolveB_congr _ _ hl 10 n⟩

def aliasOk (p : String × Gen.TypeEntry) : Bool :=
  match p.2 with
  | .alias t =>
    decide ((resolve Gen.typeTable p.1).toOption = (resolve Gen.typeTable t).toOption) &&
      (resolve Gen.typeTable p.1).toOption.isSome
  | _ => true

theorem aliasOk_all : Gen.typeTable.all aliasOk = true := by decide +kernel

theorem builtin_aliases :
    ∀ p ∈ Gen.typeTable, ∀ t, p.2 = Gen.TypeEntry.alias t →
      (resolve Gen.typeTable p.1).toOption = (resolve Gen.typeTable t).toOption ∧ (resolve Gen.typeTable p.1).toOption.isSome := by
  intro p hp t ht
  have := List.all_eq_true.mp aliasOk_all p hp
  simp only [aliasOk, ht, Bool.and_eq_true, decide_eq_true_eq] at this
  exact this

end Cstruct.Parser
