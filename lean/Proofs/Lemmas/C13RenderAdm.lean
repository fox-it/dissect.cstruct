/-
  C13, round trip — the rendered lexeme lists are admissible texts: segments (`Seg`) that compose, for types, members,
  aggregates and top-level declarations (`adm_lexDecls`).
-/
import Proofs.Lemmas.C13Adm
import Proofs.Lemmas.C13RenderInd
import Proofs.Lemmas.C13RenderLex

namespace Cstruct.DefParser.C13
open Cstruct.DefParser

/-- a segment that does not close a brace at its end, in front of `n` -/
def Seg (l : List (Lexeme × List Char)) (n : Option Lexeme) : Prop := admN n false l = true ∧ closesEnd false l = false

def NextOK (n : Option Lexeme) : Prop := ∀ y, n = some y → y.isDefs = false

def headLex (l : List (Lexeme × List Char)) (n : Option Lexeme) : Option Lexeme :=
  match l with
  | [] => n
  | p :: _ => some p.1

theorem seg_nil (n : Option Lexeme) : Seg [] n := ⟨rfl, rfl⟩

theorem seg_append (l1 l2 : List (Lexeme × List Char)) (n : Option Lexeme) (h1 : Seg l1 (headLex l2 n)) (h2 : Seg l2 n) :
    Seg (l1 ++ l2) n := by
  cases l2 with
  | nil => simpa [headLex] using h1
  | cons y r =>
    refine ⟨?_, ?_⟩
    · rw [admN_append l1 (y :: r) n false y r rfl, h1.2]
      simp only [headLex] at h1
      simp [h1.1, h2.1]
    · rw [closesEnd_append, h1.2]; exact h2.2

theorem seg_single (x : Lexeme) (s : List Char) (n : Option Lexeme) (hwf : x.wf = true) (hb : blank s = true)
    (hnd : x.isDefs = false) (hsep : sepOK x s n = true) (hcl : closes x s = false) : Seg [(x, s)] n := by
  refine ⟨?_, ?_⟩
  · simp [admN, hwf, hb, hnd, hsep]
  · simp [closesEnd, hcl]

theorem seg_struct (u : Bool) (n : Option Lexeme) (h : NextOK n) : Seg [(.struct u, [' '])] n :=
  seg_single _ _ _ rfl rfl rfl (by cases n with
    | none => simp [sepOK]
    | some y => simp [sepOK, h y rfl]) rfl

theorem seg_typedef (n : Option Lexeme) (h : NextOK n) : Seg [(.typedef, [' '])] n :=
  seg_single _ _ _ rfl rfl rfl (by cases n with
    | none => simp [sepOK]
    | some y => simp [sepOK, h y rfl]) rfl

theorem seg_punct (x : Lexeme) (hx : x = .lbrace ∨ x = .rbrace ∨ x = .semi) (s : List Char) (hs : s = [' '] ∨ s = ['\n'])
    (n : Option Lexeme) (h : NextOK n) : Seg [(x, s)] n := by
  have hb : blank s = true := by rcases hs with rfl | rfl <;> rfl
  have hne : s.isEmpty = false := by rcases hs with rfl | rfl <;> rfl
  have hsep : ∀ z : Lexeme, (z = .lbrace ∨ z = .rbrace ∨ z = .semi) → sepOK z s n = true := by
    intro z hz
    cases n with
    | none => rcases hz with rfl | rfl | rfl <;> simp [sepOK]
    | some y => rcases hz with rfl | rfl | rfl <;> simp [sepOK, h y rfl]
  rcases hx with rfl | rfl | rfl
  · exact seg_single _ _ _ rfl hb rfl (hsep _ (.inl rfl)) rfl
  · exact seg_single _ _ _ rfl hb rfl (hsep _ (.inr (.inl rfl))) (by simp [closes, hne])
  · exact seg_single _ _ _ rfl hb rfl (hsep _ (.inr (.inr rfl))) rfl

theorem seg_ident (w : List Char) (hw : isIdent w = true) (n : Option Lexeme) (h : NextOK n) (hs : n ≠ some .semi) :
    Seg [(.ident w, [' '])] n := by
  refine seg_single _ _ _ hw rfl rfl ?_ rfl
  cases n with
  | none => simp [sepOK]
  | some y =>
    have : y ≠ .semi := fun e => hs (by rw [e])
    simp [sepOK, h y rfl, this]

theorem seg_idents : ∀ (ws : List (List Char)), (∀ w ∈ ws, isIdent w = true) → ∀ (n : Option Lexeme), NextOK n → n ≠ some .semi →
    Seg (identLex ws) n
  | [], _, n, _, _ => seg_nil n
  | w :: ws, h, n, hn, hs => by
    have ih := seg_idents ws (fun x hx => h x (by simp [hx])) n hn hs
    have : identLex (w :: ws) = [(.ident w, [' '])] ++ identLex ws := rfl
    rw [this]
    refine seg_append _ _ n (seg_ident w (h w (by simp)) _ ?_ ?_) ih
    · cases ws with
      | nil => exact hn
      | cons v vs => intro y hy; simp [headLex, identLex] at hy; subst hy; rfl
    · cases ws with
      | nil => exact hs
      | cons v vs => simp [headLex, identLex]

theorem seg_name (pre w : List Char) (bits : Option (List Char × List Char × List Char)) (cnt : Option (List Char))
    (hwf : (Lexeme.name pre w bits cnt).wf = true) : Seg [(.name pre w bits cnt, [])] (some .semi) :=
  seg_single _ _ _ hwf rfl rfl (by simp [sepOK, Lexeme.isDefs]) rfl

theorem headLex_append (l1 l2 : List (Lexeme × List Char)) (n : Option Lexeme) (h : l1 ≠ []) : headLex (l1 ++ l2) n = headLex l1 n := by
  cases l1 with
  | nil => exact absurd rfl h
  | cons p r => rfl

theorem lexT_head (t : TypeRef) (h : wfT t = true) : ∃ x s r, lexT t = (x, s) :: r ∧ x.isDefs = false ∧ x ≠ .semi := by
  cases t with
  | none => simp [wfT] at h
  | name n =>
    obtain ⟨w, ws, hw⟩ := List.exists_cons_of_ne_nil (typeWordsOf_ne_nil n)
    exact ⟨.ident w, [' '], identLex ws, by simp [lexT, hw, identLex], rfl, by simp⟩
  | structRef t => exact ⟨_, _, _, rfl, rfl, by simp⟩
  | inline a => obtain ⟨u, tag, fs, ns⟩ := a; exact ⟨_, _, _, rfl, rfl, by simp⟩

theorem lexF_head (f : FieldDecl) (h : wfF f = true) : ∃ x s r, lexF f = (x, s) :: r ∧ x.isDefs = false := by
  cases f with
  | anon t =>
    simp only [wfF, Bool.and_eq_true] at h
    obtain ⟨x, s, r, e, hd, -⟩ := lexT_head t h.2
    exact ⟨x, s, r ++ [(.semi, [' '])], by simp [lexF, e], hd⟩
  | named t d =>
    simp only [wfF, Bool.and_eq_true] at h
    obtain ⟨x, s, r, e, hd, -⟩ := lexT_head t h.1
    exact ⟨x, s, r ++ [(declrLex d, []), (.semi, [' '])], by simp [lexF, e], hd⟩

theorem headLex_lexFs (fs : List FieldDecl) (h : wfFs fs = true) (tail : List (Lexeme × List Char)) (n : Option Lexeme)
    (ht : NextOK (headLex tail n)) : NextOK (headLex (lexFs fs ++ tail) n) := by
  cases fs with
  | nil => simpa [lexFs] using ht
  | cons f r =>
    simp only [wfFs, Bool.and_eq_true] at h
    obtain ⟨x, s, rr, e, hd⟩ := lexF_head f h.1
    intro y hy
    simp only [lexFs, e, List.cons_append, headLex, Option.some.injEq] at hy
    subst hy; exact hd

theorem seg_aggr (u : Bool) (tagL : List (Lexeme × List Char))
    (htag : tagL = [] ∨ ∃ t, isIdent t = true ∧ tagL = [(Lexeme.ident t, [' '])]) (fs : List FieldDecl) (hfs : wfFs fs = true)
    (ih : ∀ n, NextOK n → Seg (lexFs fs) n) (s : List Char) (tl : List (Lexeme × List Char)) (n : Option Lexeme)
    (htl : Seg ((Lexeme.rbrace, s) :: tl) n) :
    Seg ((Lexeme.struct u, [' ']) :: (tagL ++ (Lexeme.lbrace, [' ']) :: (lexFs fs ++ (Lexeme.rbrace, s) :: tl))) n := by
  have hrb : NextOK (some Lexeme.rbrace) := by intro y hy; cases hy; rfl
  have hlb : NextOK (some Lexeme.lbrace) := by intro y hy; cases hy; rfl
  have h2 : Seg ((Lexeme.lbrace, [' ']) :: (lexFs fs ++ (Lexeme.rbrace, s) :: tl)) n :=
    seg_append [(Lexeme.lbrace, [' '])] _ n
      (seg_punct _ (.inl rfl) _ (.inl rfl) _ (headLex_lexFs fs hfs ((Lexeme.rbrace, s) :: tl) n hrb))
      (seg_append _ _ n (ih _ hrb) htl)
  rcases htag with rfl | ⟨t, ht, rfl⟩
  · exact seg_append [(Lexeme.struct u, [' '])] _ n (seg_struct u _ hlb) h2
  · exact seg_append [(Lexeme.struct u, [' '])] ([(Lexeme.ident t, [' '])] ++ _) n
      (seg_struct u _ (by intro y hy; cases hy; rfl)) (seg_append _ _ n (seg_ident t ht _ hlb nofun) h2)

theorem seg_render :
    (∀ t, wfT t = true → ∀ (n : Option Lexeme), NextOK n → n ≠ some .semi → Seg (lexT t) n) ∧
    (∀ a, wfA false a = true → ∀ (n : Option Lexeme), NextOK n → Seg (lexA a) n) ∧
    (∀ f, wfF f = true → ∀ (n : Option Lexeme), NextOK n → Seg (lexF f) n) ∧
    (∀ fs, wfFs fs = true → ∀ (n : Option Lexeme), NextOK n → Seg (lexFs fs) n) := by
  have hsemi : NextOK (some Lexeme.semi) := by intro y hy; cases hy; rfl
  refine wf_induct (fun nm h n hn hs => ?_) (fun t h n hn hs => ?_) (fun a _ ih n hn _ => ih n hn)
    (fun u tag fs htag hfs ih n hn => ?_) (fun a _ ih n hn => ?_) (fun t d _ hd ih n hn => ?_) (fun n _ => seg_nil n)
    (fun f fs _ hfs i1 i2 n hn => ?_)
  · exact seg_idents _ (List.all_eq_true.mp h) n hn hs
  · exact seg_append [(.struct false, [' '])] [(.ident t, [' '])] n
      (seg_struct false _ (by intro y hy; cases hy; rfl)) (seg_ident t h n hn hs)
  · have hr := seg_punct Lexeme.rbrace (.inr (.inl rfl)) [' '] (.inl rfl) n hn
    cases tag with
    | none => exact seg_aggr u [] (.inl rfl) fs hfs ih [' '] [] n hr
    | some t => exact seg_aggr u [(Lexeme.ident t, [' '])] (.inr ⟨t, htag, rfl⟩) fs hfs ih [' '] [] n hr
  · exact seg_append _ _ n (ih _ hsemi) (seg_punct _ (.inr (.inr rfl)) _ (.inl rfl) n hn)
  · have hdw := declrLex_wf true d hd
    refine seg_append _ [(declrLex d, []), (Lexeme.semi, [' '])] n (ih _ ?_ ?_)
      (seg_append [(declrLex d, [])] _ n (seg_name _ _ _ _ hdw) (seg_punct _ (.inr (.inr rfl)) _ (.inl rfl) n hn))
    · intro y hy; cases hy; rfl
    · exact nofun
  · exact seg_append _ _ n (i1 _ (by simpa only [List.append_nil] using headLex_lexFs fs hfs [] n hn)) (i2 n hn)

theorem segT : ∀ (t : TypeRef), wfT t = true → ∀ (n : Option Lexeme), NextOK n → n ≠ some .semi → Seg (lexT t) n := seg_render.1

theorem segA : ∀ (a : Aggr), wfA false a = true → ∀ (n : Option Lexeme), NextOK n → Seg (lexA a) n := seg_render.2.1

theorem segF : ∀ (f : FieldDecl), wfF f = true → ∀ (n : Option Lexeme), NextOK n → Seg (lexF f) n := seg_render.2.2.1

theorem segFs : ∀ (fs : List FieldDecl), wfFs fs = true → ∀ (n : Option Lexeme), NextOK n → Seg (lexFs fs) n := seg_render.2.2.2

theorem seg_tail (ns : List (List Char)) (hns : ∀ m ∈ ns, isIdent m = true) (n : Option Lexeme) (hn : NextOK n) :
    Seg ([(Lexeme.rbrace, if ns.length ≥ 2 then [] else [' '])] ++ namesLex ns ++ [(.semi, ['\n'])]) n := by
  have hsemi : Seg [(Lexeme.semi, ['\n'])] n := seg_punct _ (.inr (.inr rfl)) _ (.inr rfl) n hn
  have hs : NextOK (some Lexeme.semi) := by intro y hy; cases hy; rfl
  match ns, hns with
  | [], _ =>
    simp only [namesLex, List.length_nil, List.append_nil]
    exact seg_append _ _ n (seg_punct _ (.inr (.inl rfl)) _ (.inl rfl) _ (by simpa [headLex] using hs)) hsemi
  | [m], hm =>
    have hw := nameLex_wf m (hm m (by simp))
    simp only [namesLex, List.length_cons, List.length_nil]
    refine seg_append _ _ n (seg_append _ _ _ (seg_punct _ (.inr (.inl rfl)) _ (.inl rfl) _ ?_) ?_) hsemi
    · intro y hy; simp [headLex] at hy; subst hy; rfl
    · simpa [headLex] using seg_name _ _ _ _ hw
  | m :: m2 :: r, hm =>
    have hw := defsLex_wf m (m2 :: r) (hm m (by simp)) (fun x hx => hm x (by simp [hx])) (by simp)
    have hsep : sepOK Lexeme.semi ['\n'] n = true := by
      cases n with
      | none => simp [sepOK]
      | some y => simp [sepOK, hn y rfl]
    have e1 : sepOK Lexeme.rbrace [] (some (Lexeme.defs [' '] m ((m2 :: r).map fun m => (([] : List Char), [' '], m)))) = true := by
      simp [sepOK, Lexeme.isDefs]
    have e2 : sepOK (Lexeme.defs [' '] m ((m2 :: r).map fun m => (([] : List Char), [' '], m))) [] (some .semi) = true := by
      simp [sepOK, Lexeme.isDefs]
    have el : (if (m :: m2 :: r).length ≥ 2 then ([] : List Char) else [' ']) = [] := by simp
    refine ⟨?_, ?_⟩
    · simp only [namesLex, el, List.cons_append, List.nil_append, admN, e1, e2, hw, hsep]
      rfl
    · simp only [namesLex, el, List.cons_append, List.nil_append, closesEnd]
      rfl

theorem segTop (a : Aggr) (h : wfA true a = true) (n : Option Lexeme) (hn : NextOK n) : Seg (lexTop a) n := by
  obtain ⟨u, tag, fs, ns⟩ := a
  simp only [wfA, Bool.and_eq_true, if_true, List.all_eq_true] at h
  obtain ⟨⟨htag, hfs⟩, hns, -⟩ := h
  have htl : Seg ((Lexeme.rbrace, if ns.length ≥ 2 then [] else [' ']) :: (namesLex ns ++ [(Lexeme.semi, ['\n'])])) n := by
    simpa only [List.append_assoc, List.cons_append, List.nil_append] using seg_tail ns hns n hn
  cases tag with
  | none =>
    simpa only [lexTop, List.append_assoc, List.cons_append, List.nil_append]
      using seg_aggr u [] (.inl rfl) fs hfs (segFs fs hfs) _ _ n htl
  | some t =>
    simpa only [lexTop, List.append_assoc, List.cons_append, List.nil_append]
      using seg_aggr u [(Lexeme.ident t, [' '])] (.inr ⟨t, htag, rfl⟩) fs hfs (segFs fs hfs) _ _ n htl

theorem segDecl (d : Decl) (h : wfDecl d = true) (n : Option Lexeme) (hn : NextOK n) : Seg (lexDecl d) n := by
  have hsemi : Seg [(Lexeme.semi, ['\n'])] n := seg_punct _ (.inr (.inr rfl)) _ (.inr rfl) n hn
  cases d with
  | lookup a b => simp [wfDecl] at h
  | config vs =>
    refine seg_single _ _ _ (configLex_wf vs h) rfl rfl ?_ rfl
    cases n with
    | none => simp [sepOK]
    | some y => simp [sepOK, hn y rfl]
  | const nm v =>
    refine seg_single _ _ _ (defineLex_wf nm v h) rfl rfl ?_ rfl
    cases n with
    | none => simp [sepOK]
    | some y => simp [sepOK, hn y rfl]
  | enum fl nm b ms =>
    have hw := enumLex_wf fl nm b ms h
    have hsep : sepOK Lexeme.semi ['\n'] n = true := by
      cases n with
      | none => simp [sepOK]
      | some y => simp [sepOK, hn y rfl]
    refine ⟨?_, ?_⟩
    · simp only [lexDecl, admN, hw, hsep]
      rfl
    · simp [lexDecl, closesEnd, closes]
  | typedef t ds =>
    simp only [wfDecl, Bool.and_eq_true] at h
    obtain ⟨ht, hds⟩ := h
    match ds, hds with
    | [d], hd =>
      have hdw := declrLex_wf false d hd
      have e : lexDecl (.typedef t [d]) = [(Lexeme.typedef, [' '])] ++ (lexT t ++ ([(declrLex d, [])] ++ [(.semi, ['\n'])])) := by simp [lexDecl]
      rw [e]
      obtain ⟨x, s, r, ex, hxd, -⟩ := lexT_head t ht
      refine seg_append _ _ n (seg_typedef _ ?_) (seg_append _ _ n (segT t ht _ ?_ ?_) (seg_append _ _ n ?_ hsemi))
      · intro y hy; simp [headLex, ex] at hy; subst hy; exact hxd
      · intro y hy; simp [headLex, declrLex] at hy; subst hy; rfl
      · simp [headLex, declrLex]
      · simp only [headLex, declrLex] at hdw ⊢; exact seg_name _ _ _ _ hdw
  | aggr a => exact segTop a h n hn

theorem lexDecl_head (d : Decl) (h : wfDecl d = true) : ∃ x s r, lexDecl d = (x, s) :: r ∧ x.isDefs = false := by
  cases d with
  | lookup a b => simp [wfDecl] at h
  | config vs => exact ⟨_, _, _, rfl, rfl⟩
  | const n v => exact ⟨_, _, _, rfl, rfl⟩
  | enum fl n b ms => exact ⟨_, _, _, rfl, rfl⟩
  | typedef t ds => exact ⟨_, _, _, rfl, rfl⟩
  | aggr a => obtain ⟨u, tag, fs, ns⟩ := a; exact ⟨_, _, _, rfl, rfl⟩

theorem segDecls : ∀ (ds : List Decl), wfDecls ds = true → Seg (lexDecls ds) none
  | [], _ => seg_nil none
  | d :: r, h => by
    simp only [wfDecls, List.all_cons, Bool.and_eq_true] at h
    have ih := segDecls r (by simpa [wfDecls] using h.2)
    have : lexDecls (d :: r) = lexDecl d ++ lexDecls r := by simp [lexDecls]
    rw [this]
    refine seg_append _ _ none (segDecl d h.1 _ ?_) ih
    cases r with
    | nil => intro y hy; simp [lexDecls, headLex] at hy
    | cons d2 r2 =>
      simp only [List.all_cons, Bool.and_eq_true] at h
      obtain ⟨x, s, rr, e, hx⟩ := lexDecl_head d2 h.2.1
      intro y hy
      simp [lexDecls, headLex, e] at hy
      subst hy; exact hx

theorem adm_lexDecls (ds : List Decl) (h : wfDecls ds = true) : adm false (lexDecls ds) = true := by
  rw [adm_eq_admN]; exact (segDecls ds h).1

end Cstruct.DefParser.C13
