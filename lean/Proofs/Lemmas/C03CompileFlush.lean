/-
  `flush()`: the statements it yields (an optional seek or alignment,
  then the block) take the validator from the cursor in front of the pending members to the compiler's cursor.
-/
import Proofs.Lemmas.C03CompileBlock

namespace Cstruct.Compiler
open Cstruct Cstruct.Core.Lemmas

/-- the validator's state between two members outside a bit run: only the static position is known -/
def syncSt (o : Option Nat) : VSt := { spos := o, lastAlign := none, unit := none, dirty := false }

/-- what the validator knows of the static position, against the layout offset `lo` and the generator's tracked offset
    `c`: the validator knows the layout offset, or it knows nothing (after an alignment statement in front of a bit-field
    that continues a unit) and then the generator has forgotten its offset as well (so it will emit a seek) -/
def Known (sp lo c : Option Nat) : Prop := sp = lo ∨ (sp = none ∧ c = none)

theorem Known.of_some {sp lo c : Option Nat} {x : Nat} (h : Known sp lo c) (hc : c = some x) : sp = lo := by
  rcases h with h | ⟨_, h⟩
  · exact h
  · rw [h] at hc; cases hc

theorem Known.of_none {sp c : Option Nat} (h : Known sp none c) : sp = none := by
  rcases h with h | ⟨h, _⟩ <;> exact h

/-- the simulation invariant outside a bit run: the pending block -/
structure PlainSt (cfg : Cfg) (al : Bool) (gst : GState) (vst : VSt) (bs lo : Option Nat)
    (fsV : Fields) (offsV : List (Option Nat)) (fs : Fields) (offs : List (Option Nat)) : Prop where
  pend : Pending gst.block fsV offsV fs offs
  /-- `bs` is the layout's running offset in front of the pending block -/
  chain : Chain cfg al gst.block bs lo
  sync : Known vst.spos bs (if gst.block.isEmpty = true then gst.cur else gst.blockOff)
  mem : ∀ f ∈ gst.block, Member cfg al f
  wfV : compileWF cfg al fsV = true
  boff : gst.block ≠ [] → ∀ c l, gst.blockOff = some c → bs = some l → c ≤ l
  dyn : al = true → bs = none → gst.block.length ≤ 1
  vsync : vst = syncSt vst.spos
  np : gst.prevBits = false
  rem0 : gst.bitsRem = 0

theorem PlainSt.empty {cfg : Cfg} {al : Bool} {gst : GState} {sp lo : Option Nat} {fs : Fields} {offs : List (Option Nat)}
    (hb : gst.block = []) (hnp : gst.prevBits = false) (hr : gst.bitsRem = 0) (hK : Known sp lo gst.cur)
    (hwf : compileWF cfg al fs = true) :
    PlainSt cfg al gst (syncSt sp) lo lo fs offs fs offs where
  pend := by rw [hb]; exact Pending.nil _ _
  chain := by rw [hb]; rfl
  sync := by rw [hb]; exact hK
  mem := by rw [hb]; intro f hf; cases hf
  wfV := hwf
  boff := fun h => absurd hb h
  dyn := by rw [hb]; intro _ _; exact Nat.zero_le _
  vsync := rfl
  np := hnp
  rem0 := hr

theorem dv_isSome_of_dropVoids {cfg : Cfg} {al : Bool} {fs : Fields} {offs : List (Option Nat)} {at_ : Option Nat}
    (h : ∃ r, dropVoids cfg al fs offs at_ = some r) : ∃ r, dv cfg al fs offs at_ = some r := by
  obtain ⟨r, hr⟩ := h
  exact ⟨_, by rw [dv, hr]; rfl⟩

theorem dropVoids_of_dv {cfg : Cfg} {al : Bool} {fs : Fields} {offs : List (Option Nat)} {at_ : Option Nat}
    {r : Fields × List (Option Nat)} (h : dv cfg al fs offs at_ = some r) :
    ∃ sk, dropVoids cfg al fs offs at_ = some (r.1, r.2, sk) := by
  unfold dv at h
  cases hd : dropVoids cfg al fs offs at_ with
  | none => rw [hd] at h; cases h
  | some x =>
    obtain ⟨a, b, c⟩ := x
    rw [hd] at h
    simp only [Option.map_some, Option.some.injEq] at h
    subst h
    exact ⟨c, rfl⟩

theorem seek_same (cfg : Cfg) (al : Bool) (salign : Nat) (o : Nat) (p : Plan) (hh : p.head? ≠ some .bitsReset)
    (hs : ∀ o', p.head? ≠ some (.seek o')) (fsV : Fields) (offsV : List (Option Nat)) :
    planOKAux cfg al salign (.seek o :: p) fsV offsV (syncSt (some o)) =
      planOKAux cfg al salign p fsV offsV (syncSt (some o)) := by
  cases hd : dropVoids cfg al fsV offsV (some o) with
  | none =>
    have h0 : planOKAux cfg al salign p fsV offsV (syncSt (some o)) = false := planOKAux_none hh hs hd
    rw [planOKAux_seek_none hd, h0]
    exact (congrArg _ h0).trans (Bool.and_false _)
  | some r =>
    rw [planOKAux_dropVoids (by simp) rfl hd, planOKAux_dropVoids hh rfl hd,
      planOKAux_seek (dropVoids_noVoid cfg al _ _ _ hd)]
    split
    · rfl
    · exact if_pos (beq_self_eq_true _)

theorem align_one (cfg : Cfg) (al : Bool) (salign : Nat) (p : Plan) (hh : p.head? ≠ some .bitsReset)
    (hs : ∀ o', p.head? ≠ some (.seek o')) (fsV : Fields) (offsV : List (Option Nat)) (bo : Option Nat) :
    planOKAux cfg al salign (.align 1 :: p) fsV offsV (syncSt bo) = planOKAux cfg al salign p fsV offsV (syncSt bo) := by
  cases hd : dropVoids cfg al fsV offsV bo with
  | none => rw [planOKAux_none (by simp) (by simp) hd, planOKAux_none hh hs hd]
  | some r =>
    rw [planOKAux_dropVoids (by simp) rfl hd, planOKAux_dropVoids hh rfl hd,
      planOKAux_align (dropVoids_noVoid cfg al _ _ _ hd)]
    rfl

theorem block_step (cfg : Cfg) (al : Bool) (salign : Nat) (st1 : VSt) (hd1 : st1.dirty = false)
    {B : List CField} {fsV : Fields} {offsV : List (Option Nat)} {fs : Fields} {offs : List (Option Nat)}
    (hp : Pending B fsV offsV fs offs) (hm : ∀ f ∈ B, Member cfg al f) (hwfV : compileWF cfg al fsV = true) (lo : Option Nat)
    (hc : Chain cfg al B st1.spos lo) (f0 : CField) (B0 : List CField) (hB : B = f0 :: B0) (hoff : f0.off = st1.spos)
    (blk : Instr) (hg : genPacked cfg al B = .ok blk) (hdyn : DynOK cfg al st1.spos st1.lastAlign B true 0)
    (hla : st1.lastAlign ≠ none → isVoid f0.ty = false)
    (hfs : ∃ r, dropVoids cfg al fs offs lo = some r) (rest : Plan) (hh : rest.head? ≠ some .bitsReset) :
    planOKAux cfg al salign (blk :: rest) fsV offsV st1 = planOKAux cfg al salign rest fs offs (syncSt lo) := by
  obtain ⟨size, fmt, slots, its, rfl, hfmt, he, hvd, fsE, offsE, hso, hdv⟩ :=
    block_ok cfg al st1.spos st1.lastAlign hp hm hwfV lo hc f0 B0 hB hoff blk hg hdyn
  subst he
  cases slots with
  | cons sl slots' =>
    obtain ⟨fs0, offs0, sk, hdr, hso'⟩ := slotsOK_dropVoids cfg al its size st1.spos st1.lastAlign sl slots' fsV offsV _ hso
    rw [planOKAux_dropVoids (by simp) hd1 hdr, planOKAux_block (dropVoids_noVoid cfg al _ _ _ hdr) hd1 hfmt hso']
    simp only [beq_self_eq_true, Bool.true_and, List.isEmpty_cons, Bool.false_eq_true, if_false]
    exact planOKAux_dv cfg al salign rest hh _ rfl _ _ _ _ hdv (Or.inl hfs)
  | nil =>
    rw [slotsOK_nil] at hso
    obtain ⟨rfl, rfl, rfl⟩ : fsV = fsE ∧ offsV = offsE ∧ 0 = size := by simpa using hso
    obtain ⟨r, hr⟩ := dv_isSome_of_dropVoids hfs
    rw [← hdv] at hr
    have hz : st1.spos.map (· + 0) = st1.spos := map_add_zero _
    rw [hz] at hr hdv
    obtain ⟨sk, hdr⟩ := dropVoids_of_dv hr
    have hla' : st1.lastAlign = none := by
      cases hl : st1.lastAlign with
      | none => rfl
      | some a =>
        have h1 := hla (by simp [hl])
        have h2 := hvd rfl f0 (by rw [hB]; exact List.mem_cons_self)
        rw [h1] at h2
        cases h2
    rw [planOKAux_dropVoids (by simp) hd1 hdr,
      planOKAux_block (dropVoids_noVoid cfg al _ _ _ hdr) hd1 hfmt (slotsOK_nil ..)]
    simp only [beq_self_eq_true, Bool.true_and, List.isEmpty_nil, if_true, hla', hz]
    have hdv2 := dv_of_dropVoids cfg al hdr
    exact planOKAux_dv cfg al salign rest hh _ rfl _ _ _ _ (by simp only [syncSt]; rw [hdv2, hdv])
      (Or.inl (by rw [hz] at hfs; exact hfs))

theorem padNat_aligned {a : Nat} (ha : IsP2 a) (o : Nat) : padNat (o + padNat o a) a = 0 :=
  padNat_of_dvd ha (padNat_p2_dvd ha o)

theorem seek_void (cfg : Cfg) (al : Bool) (salign : Nat) (o : Nat) (is : Plan) (name : String) (an : Bool) (ty : Ty)
    (fsV : Fields) (offsV : List (Option Nat)) (hv : isVoid ty = true) :
    planOKAux cfg al salign (.seek o :: is) (.cons name an ty none fsV) (some o :: offsV) (syncSt none) =
      planOKAux cfg al salign is (.cons name an ty none fsV) (some o :: offsV) (syncSt (some o)) := by
  rw [planOKAux_seek_none (by rw [dropVoids_void cfg al name an fsV _ _ hv, if_neg]; simp [voidOK, hdOff, syncSt])]
  rfl

theorem flush_ok {cfg : Cfg} {al : Bool} (salign : Nat) {gst : GState} {vst : VSt} {bs lo : Option Nat}
    {fsV : Fields} {offsV : List (Option Nat)} {fs : Fields} {offs : List (Option Nat)}
    (hP : PlainSt cfg al gst vst bs lo fsV offsV fs offs) {fl : Plan} (hfl : flush cfg al gst = .ok fl)
    (hfs : ∃ r, dropVoids cfg al fs offs lo = some r) (rest : Plan) (hh : rest.head? ≠ some .bitsReset) :
    ∃ sp', planOKAux cfg al salign (fl ++ rest) fsV offsV vst = planOKAux cfg al salign rest fs offs (syncSt sp') ∧
      Known sp' lo gst.cur := by
  obtain ⟨sp, la, un, di⟩ := vst
  have hvs := hP.vsync
  simp only [syncSt, VSt.mk.injEq, true_and] at hvs
  obtain ⟨rfl, rfl, rfl⟩ := hvs
  change ∃ sp', planOKAux cfg al salign (fl ++ rest) fsV offsV (syncSt sp) = _ ∧ _
  have hp : Pending gst.block fsV offsV fs offs := hP.pend
  have hc : Chain cfg al gst.block bs lo := hP.chain
  have hm := hP.mem
  have hsync : Known sp bs (if gst.block.isEmpty = true then gst.cur else gst.blockOff) := hP.sync
  have hboff : gst.block ≠ [] → ∀ c l, gst.blockOff = some c → bs = some l → c ≤ l := hP.boff
  have hdynl : al = true → bs = none → gst.block.length ≤ 1 := hP.dyn
  unfold flush at hfl
  cases hB : gst.block with
  | nil =>
    rw [hB] at hfl
    cases hfl
    rw [hB] at hp hc hsync
    cases hp
    simp only [Chain] at hc
    subst hc
    exact ⟨sp, by rw [List.nil_append], by simpa using hsync⟩
  | cons f0 B0 =>
    rw [hB] at hfl hsync
    simp only [List.isEmpty_cons, Bool.false_eq_true, if_false] at hsync
    simp only at hfl
    rw [← hB] at hfl
    refine ⟨lo, ?_, Or.inl rfl⟩
    split at hfl
    · cases hfl
    · rename_i blk hg
      cases hfl
      obtain ⟨size, fmt, slots, rfl⟩ := genPacked_block cfg al _ _ hg
      have hmf : Member cfg al f0 := hm f0 (by rw [hB]; exact List.mem_cons_self)
      rw [hB] at hc
      obtain ⟨hc1, hc2⟩ := hc
      cases hoff : f0.off with
      | some o =>
        -- static: the block is read at `o`
        simp only [Option.isNone_some, Bool.false_eq_true, and_false, if_false, List.append_nil]
        rw [hoff] at hc1 hc2
        obtain ⟨b0, rfl, hle, hpk, hal1⟩ := alignOpt_some hc1.symm
        have hre : Chain cfg al (f0 :: B0) (some o) lo := by
          refine ⟨?_, by rw [hoff]; exact hc2⟩
          rw [hoff]
          cases hal : al with
          | false => rfl
          | true =>
            rw [hal1 hal]
            simp only [alignOpt, Option.map_some, if_true, padNat_aligned (hmf.p2 hal) b0, Nat.add_zero]
        have hblock : planOKAux cfg al salign (.block size fmt slots :: rest) fsV offsV (syncSt (some o)) =
            planOKAux cfg al salign rest fs offs (syncSt lo) := by
          refine block_step cfg al salign (syncSt (some o)) rfl hp hm hP.wfV lo (by rw [hB]; exact hre) f0 B0 hB hoff _ hg
            ?_ (fun h => absurd rfl h) hfs rest hh
          intro h; cases h
        by_cases hsk : some o ≠ gst.blockOff
        · rw [if_pos hsk]
          simp only [List.cons_append, List.nil_append]
          -- the seek
          have hseek : planOKAux cfg al salign (.seek o :: .block size fmt slots :: rest) fsV offsV (syncSt sp) =
              planOKAux cfg al salign (.block size fmt slots :: rest) fsV offsV (syncSt (some o)) := by
            by_cases hv : isVoid f0.ty = true
            · obtain rfl : o = b0 := by
                cases hal : al with
                | false => exact hpk hal
                | true => rw [hal1 hal, hmf.voidAlign hv hal, padNat_one]; rfl
              rcases hsync with h | ⟨h, _⟩
              · subst h
                exact seek_same cfg al salign o _ (by simp) (by simp) fsV offsV
              · subst h
                rw [hB] at hp
                cases hp with
                | cons name an ty o' hp' =>
                  simp only at hv hoff
                  subst hoff
                  exact seek_void cfg al salign o _ name an ty _ _ hv
            · rw [hB] at hp
              cases hp with
              | cons name an ty o' hp' =>
                simp only at hv hoff
                subst hoff
                rw [planOKAux_seek (noVoid_of_not (by simpa using hv)), if_pos (by rfl)]
                rfl
          rw [hseek, hblock]
        · have hbo : gst.blockOff = some o := by
            cases hbo : gst.blockOff with
            | none => rw [hbo] at hsk; exact absurd (by simp) hsk
            | some c =>
              rw [hbo] at hsk
              simp only [ne_eq, Option.some.injEq, Decidable.not_not] at hsk
              rw [hsk]
          have hsp : sp = some b0 := hsync.of_some hbo
          subst hsp
          obtain rfl : o = b0 := Nat.le_antisymm (hboff (by rw [hB]; simp) o b0 hbo rfl) hle
          rw [if_neg hsk, List.nil_append, List.cons_append, List.nil_append, hblock]
      | none =>
        -- dynamic: the block is read where the stream is (aligned in an aligned structure)
        rw [hoff] at hc1 hc2
        obtain rfl : bs = none := by
          cases bs with
          | none => rfl
          | some b0 => cases hc1
        obtain rfl : sp = none := hsync.of_none
        have hre : Chain cfg al (f0 :: B0) none lo := ⟨by rw [hoff]; rfl, by rw [hoff]; exact hc2⟩
        simp only [List.nil_append, Option.isNone_none, and_true]
        cases hal : al with
        | false =>
          simp only [Bool.false_eq_true, if_false, List.nil_append, List.cons_append]
          subst hal
          refine block_step cfg false salign (syncSt none) rfl hp hm hP.wfV lo (by rw [hB]; exact hre) f0 B0 hB hoff _ hg
            ?_ (fun h => absurd rfl h) hfs rest hh
          intro _
          exact ⟨(fun _ => rfl), (fun h => by cases h)⟩
        | true =>
          subst hal
          simp only [if_true, List.cons_append, List.nil_append]
          have hlen := hdynl rfl rfl
          have hB0 : B0 = [] := by
            rw [hB] at hlen
            simp only [List.length_cons] at hlen
            cases B0 with
            | nil => rfl
            | cons _ _ => simp at hlen
          by_cases h1 : f0.ty.alignment cfg = 1
          · rw [h1, align_one cfg true salign _ (by simp) (by simp)]
            refine block_step cfg true salign (syncSt none) rfl hp hm hP.wfV lo (by rw [hB]; exact hre) f0 B0 hB hoff _ hg
              ?_ (fun h => absurd rfl h) hfs rest hh
            intro _
            exact ⟨(fun h => by cases h), (fun _ => Or.inr ⟨f0, by rw [hB, hB0], rfl, rfl, Or.inr ⟨rfl, h1⟩⟩)⟩
          · have hnv : isVoid f0.ty = false := by
              cases hv : isVoid f0.ty with
              | false => rfl
              | true => exact absurd (hmf.voidAlign hv rfl) h1
            have hp2 := hp
            rw [hB] at hp
            cases hp with
            | cons name an ty o' hp' =>
              simp only at hnv h1 hoff
              have hpos := hmf.apos
              simp only at hpos
              rw [planOKAux_align (noVoid_of_not hnv), if_neg (by simp [syncSt]; omega), if_neg h1, if_neg (by simp)]
              refine block_step cfg true salign ⟨none, some (ty.alignment cfg), none, false⟩ rfl hp2 hm hP.wfV lo
                (by rw [hB]; exact hre) _ B0 hB hoff _ hg ?_ (fun _ => hnv) hfs rest hh
              intro _
              exact ⟨(fun h => by cases h), (fun _ => Or.inr ⟨_, by rw [hB, hB0], rfl, rfl, Or.inl rfl⟩)⟩

end Cstruct.Compiler
