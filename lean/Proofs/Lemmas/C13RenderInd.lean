/-
  C13, round trip — `wf_induct`: induction over well-formed `TypeRef` / `Aggr` / `FieldDecl` / member lists, each case
  carrying its well-formedness facts; the four families of round-trip lemmas are instances.
-/
import Proofs.Spec.C13Render

namespace Cstruct.DefParser.C13
open Cstruct.DefParser

/-- induction over well-formed types, nested aggregates, members and member lists; each case comes with what `wfT` … `wfFs` say
    there -/
theorem wf_induct {PT : TypeRef → Prop} {PA : Aggr → Prop} {PF : FieldDecl → Prop} {PFs : List FieldDecl → Prop}
    (name : ∀ n, (typeWordsOf n).all isIdent = true → PT (.name n))
    (ref : ∀ t, isIdent t = true → PT (.structRef t))
    (inline : ∀ a, wfA false a = true → PA a → PT (.inline a))
    (mk : ∀ u tag fs, (match tag with | some t => isIdent t | none => true) = true → wfFs fs = true → PFs fs → PA (.mk u tag fs []))
    (anon : ∀ a, wfA false a = true → PA a → PF (.anon (.inline a)))
    (named : ∀ t d, wfT t = true → declrWF true d = true → PT t → PF (.named t d))
    (nil : PFs [])
    (cons : ∀ f fs, wfF f = true → wfFs fs = true → PF f → PFs fs → PFs (f :: fs)) :
    (∀ t, wfT t = true → PT t) ∧ (∀ a, wfA false a = true → PA a) ∧ (∀ f, wfF f = true → PF f) ∧ (∀ fs, wfFs fs = true → PFs fs) := by
  -- the motive for a type also keeps the aggregate of an inline type
  let MT : TypeRef → Prop := fun t => wfT t = true → PT t ∧ ∀ a, t = .inline a → PA a
  have hnone : MT .none := fun h => by cases h
  have hname : ∀ n, MT (.name n) := fun n h => ⟨name n (by simpa only [wfT] using h), nofun⟩
  have href : ∀ t, MT (.structRef t) := fun t h => ⟨ref t (by simpa only [wfT] using h), nofun⟩
  have hinl : ∀ a, (wfA false a = true → PA a) → MT (.inline a) := fun a ih h =>
    have h' : wfA false a = true := by simpa only [wfT] using h
    ⟨inline a h' (ih h'), fun b e => by cases e; exact ih h'⟩
  have hmk : ∀ u tag fs ns, (wfFs fs = true → PFs fs) → wfA false (.mk u tag fs ns) = true → PA (.mk u tag fs ns) :=
    fun u tag fs ns ih h => by
      simp only [wfA, Bool.and_eq_true, Bool.false_eq_true, if_false, List.isEmpty_iff] at h
      obtain ⟨⟨h1, h2⟩, rfl⟩ := h
      exact mk u tag fs h1 h2 (ih h2)
  have hanon : ∀ t, MT t → wfF (.anon t) = true → PF (.anon t) := fun t ih h => by
    simp only [wfF, Bool.and_eq_true] at h
    cases t with
    | inline a => exact anon a (by simpa only [wfT] using h.2) ((ih h.2).2 a rfl)
    | _ => cases h.1
  have hnamed : ∀ t d, MT t → wfF (.named t d) = true → PF (.named t d) := fun t d ih h => by
    simp only [wfF, Bool.and_eq_true] at h
    exact named t d h.1 h.2 (ih h.1).1
  have hcons : ∀ f fs, (wfF f = true → PF f) → (wfFs fs = true → PFs fs) → wfFs (f :: fs) = true → PFs (f :: fs) :=
    fun f fs i1 i2 h => by
      simp only [wfFs, Bool.and_eq_true] at h
      exact cons f fs h.1 h.2 (i1 h.1) (i2 h.2)
  exact ⟨fun t h => (TypeRef.rec (motive_1 := MT) hnone hname href hinl hmk hanon hnamed (fun _ => nil) hcons t h).1,
    Aggr.rec (motive_1 := MT) hnone hname href hinl hmk hanon hnamed (fun _ => nil) hcons,
    FieldDecl.rec (motive_1 := MT) hnone hname href hinl hmk hanon hnamed (fun _ => nil) hcons,
    TypeRef.rec_1 (motive_1 := MT) hnone hname href hinl hmk hanon hnamed (fun _ => nil) hcons⟩

end Cstruct.DefParser.C13
