/-
  C10, text level: character classes, `skipSuffix`, and one step of the tokenizer per token class.
-/
import Proofs.Spec.C10Text

namespace Cstruct.Expr.C10.TextLemmas
open Cstruct Cstruct.Expr Cstruct.Expr.C10

theorem opChar_facts : ∀ c ∈ Gen.tokenizerOperators,
    c.isDigit = false ∧ isIdStart c = false ∧ isIdChar c = false ∧ c ≠ '<' ∧ c ≠ '>' ∧ c ≠ ' ' ∧ c ≠ '\t' := by
  decide +kernel

theorem hexbin_facts : ∀ c ∈ Gen.hexbinSuffix,
    c.isDigit = false ∧ isIdChar c = true ∧ isSuffixChar c = false ∧ isOperatorChar c = false := by decide +kernel

theorem mem_ops {c : Char} (h : isOperatorChar c = true) : c ∈ Gen.tokenizerOperators :=
  List.contains_iff_mem.mp h

theorem mem_hexbin {c : Char} (h : isHexBinSuffix c = true) : c ∈ Gen.hexbinSuffix :=
  List.contains_iff_mem.mp h

theorem not_op_of {c : Char} (p : Char → Bool) (hp : ∀ c ∈ Gen.tokenizerOperators, p c = false)
    (h : p c = true) : isOperatorChar c = false := by
  cases ho : isOperatorChar c with
  | false => rfl
  | true => have := hp c (mem_ops ho); rw [h] at this; cases this

theorem digit_not_op {c : Char} (h : c.isDigit = true) : isOperatorChar c = false :=
  not_op_of Char.isDigit (fun c hc => (opChar_facts c hc).1) h

theorem idStart_not_op {c : Char} (h : isIdStart c = true) : isOperatorChar c = false :=
  not_op_of isIdStart (fun c hc => (opChar_facts c hc).2.1) h

theorem idStart_not_digit {c : Char} (h : isIdStart c = true) : c.isDigit = false := by
  cases hd : c.isDigit with
  | false => rfl
  | true =>
    -- a digit is at most `9`, a letter or `_` at least `A`
    have h9 : c.val ≤ '9'.val := of_decide_eq_true (Bool.and_eq_true_iff.mp hd).2
    have hA : 'A'.val ≤ c.val := by
      rcases Bool.or_eq_true_iff.mp h with h | h
      · rcases Bool.or_eq_true_iff.mp h with h | h
        · exact (of_decide_eq_true h : _ ∧ _).1
        · exact UInt32.le_trans (by decide) (of_decide_eq_true (Bool.and_eq_true_iff.mp h).1)
      · rw [of_decide_eq_true h]; decide
    exact absurd (UInt32.le_trans hA h9) (by decide)

theorem idStart_idChar {c : Char} (h : isIdStart c = true) : isIdChar c = true := by
  simp only [isIdStart, isIdChar, Char.isAlphanum, Bool.or_eq_true, decide_eq_true_eq] at *
  rcases h with h | h
  · exact Or.inl (Or.inl h)
  · exact Or.inr h

theorem digit_idChar {c : Char} (h : c.isDigit = true) : isIdChar c = true := by
  simp only [isIdChar, Char.isAlphanum, Bool.or_eq_true, decide_eq_true_eq]
  exact Or.inl (Or.inr h)

theorem digit_hexDigit {c : Char} (h : c.isDigit = true) : isHexDigit c = true := by
  simp only [isHexDigit, h, Bool.true_or]

theorem hexDigit_idChar {c : Char} (h : isHexDigit c = true) : isIdChar c = true := by
  unfold isHexDigit at h
  unfold isIdChar Char.isAlphanum Char.isAlpha
  rcases Bool.or_eq_true_iff.mp h with h | h
  · rcases Bool.or_eq_true_iff.mp h with h | h
    · rw [h, Bool.or_true, Bool.true_or]
    · -- a lower-case letter up to `f`
      have h' := Bool.and_eq_true_iff.mp h
      have : c.isLower = true := Bool.and_eq_true_iff.mpr
        ⟨decide_eq_true (of_decide_eq_true h'.1), decide_eq_true (UInt32.le_trans (of_decide_eq_true h'.2) (by decide))⟩
      rw [this, Bool.or_true, Bool.true_or, Bool.true_or]
  · have h' := Bool.and_eq_true_iff.mp h
    have : c.isUpper = true := decide_eq_true
      ⟨of_decide_eq_true h'.1, UInt32.le_trans (of_decide_eq_true h'.2) (by decide)⟩
    rw [this, Bool.true_or, Bool.true_or, Bool.true_or]
theorem hexDigit_not_suffix {c : Char} (h : isHexDigit c = true) : isSuffixChar c = false := by
  cases hs : isSuffixChar c with
  | false => rfl
  | true =>
    simp only [isSuffixChar, Bool.or_eq_true, decide_eq_true_eq] at hs
    rcases hs with ((rfl | rfl) | rfl) | rfl <;> exact absurd h (by decide)
theorem octDigit_digit {c : Char} (h : isOctDigit c = true) : c.isDigit = true :=
  have h' := Bool.and_eq_true_iff.mp h
  Bool.and_eq_true_iff.mpr ⟨decide_eq_true (of_decide_eq_true h'.1),
    decide_eq_true (UInt32.le_trans (of_decide_eq_true h'.2) (by decide))⟩

theorem binDigit_digit {c : Char} (h : isBinDigit c = true) : c.isDigit = true := by
  simp only [isBinDigit, Bool.or_eq_true, decide_eq_true_eq] at h
  rcases h with rfl | rfl <;> rfl

theorem suffixChar_idChar {c : Char} (h : isSuffixChar c = true) : isIdChar c = true := by
  simp only [isSuffixChar, Bool.or_eq_true, decide_eq_true_eq] at h
  rcases h with ((rfl | rfl) | rfl) | rfl <;> rfl

theorem hexbin_idChar {c : Char} (h : isHexBinSuffix c = true) : isIdChar c = true :=
  (hexbin_facts c (mem_hexbin h)).2.1

theorem hexbin_not_suffix {c : Char} (h : isHexBinSuffix c = true) : isSuffixChar c = false :=
  (hexbin_facts c (mem_hexbin h)).2.2.1

theorem digit_not_hexbin {c : Char} (h : c.isDigit = true) : isHexBinSuffix c = false := by
  cases hb : isHexBinSuffix c with
  | false => rfl
  | true => have := (hexbin_facts c (mem_hexbin hb)).1; rw [h] at this; cases this

theorem not_of_not_idChar {c : Char} (p : Char → Bool) (hp : ∀ c, p c = true → isIdChar c = true)
    (h : isIdChar c = false) : p c = false := by
  cases hc : p c with
  | false => rfl
  | true => have := hp c hc; rw [h] at this; cases this

/-- what may follow a word token: end of input, or a character that is not a letter, digit or `_` -/
def Boundary (rest : List Char) : Prop := ∀ c, rest.head? = some c → isIdChar c = false

theorem boundary_nil : Boundary [] := fun _ h => by cases h

theorem boundary_cons {c : Char} {r : List Char} (h : isIdChar c = false) : Boundary (c :: r) := by
  intro c' hc; cases hc; exact h

theorem takeWhileC_append (p : Char → Bool) (ds tl : List Char) (hds : ∀ d ∈ ds, p d = true)
    (htl : ∀ c, tl.head? = some c → p c = false) : takeWhileC p (ds ++ tl) = (ds, tl) := by
  induction ds with
  | nil =>
    cases tl with
    | nil => rfl
    | cons c r => simp only [List.nil_append, takeWhileC, htl c rfl, Bool.false_eq_true, if_false]
  | cons d ds ih =>
    simp only [List.cons_append, takeWhileC, hds d (by simp), if_true, ih (fun x hx => hds x (by simp [hx]))]

theorem isU_suffixChar {c : Char} (h : IsU c) : isSuffixChar c = true := by
  rcases h with rfl | rfl <;> rfl

theorem isL_suffixChar {c : Char} (h : IsL c) : isSuffixChar c = true := by
  rcases h with rfl | rfl <;> rfl

theorem suffix_chars {sfx : List Char} (h : IsSuffix sfx) : ∀ c ∈ sfx, isSuffixChar c = true := by
  have nil : ∀ c ∈ ([] : List Char), isSuffixChar c = true := fun _ h => nomatch h
  cases h with
  | none => exact nil
  | u h1 => exact List.forall_mem_cons.mpr ⟨isU_suffixChar h1, nil⟩
  | l h1 => exact List.forall_mem_cons.mpr ⟨isL_suffixChar h1, nil⟩
  | ul h1 h2 => exact List.forall_mem_cons.mpr ⟨isU_suffixChar h1, List.forall_mem_cons.mpr ⟨isL_suffixChar h2, nil⟩⟩
  | ll h1 h2 => exact List.forall_mem_cons.mpr ⟨isL_suffixChar h1, List.forall_mem_cons.mpr ⟨isL_suffixChar h2, nil⟩⟩
  | lu h1 h2 => exact List.forall_mem_cons.mpr ⟨isL_suffixChar h1, List.forall_mem_cons.mpr ⟨isU_suffixChar h2, nil⟩⟩
  | ull h1 h2 h3 =>
    exact List.forall_mem_cons.mpr ⟨isU_suffixChar h1, List.forall_mem_cons.mpr ⟨isL_suffixChar h2,
      List.forall_mem_cons.mpr ⟨isL_suffixChar h3, nil⟩⟩⟩
  | llu h1 h2 h3 =>
    exact List.forall_mem_cons.mpr ⟨isL_suffixChar h1, List.forall_mem_cons.mpr ⟨isL_suffixChar h2,
      List.forall_mem_cons.mpr ⟨isU_suffixChar h3, nil⟩⟩⟩

theorem suffix_head {a : Char} {r : List Char} (h : IsSuffix (a :: r)) : isSuffixChar a = true :=
  suffix_chars h a List.mem_cons_self

theorem isL_not_isU {c : Char} (h : IsL c) : ¬ IsU c := by
  rcases h with rfl | rfl <;> (unfold IsU; decide +kernel)

/-- by cases on the suffix; `skipSuffix` tests the letter classes `IsU`, `IsL` themselves, so `if_pos`/`if_neg` apply -/
theorem skipSuffix_suffix {sfx rest : List Char} (h : IsSuffix sfx) (hb : Boundary rest) :
    skipSuffix (sfx ++ rest) = rest := by
  -- what follows is not a suffix letter
  have hr : ∀ c r, rest = c :: r → ¬ (c = 'u' ∨ c = 'U') ∧ ¬ (c = 'l' ∨ c = 'L') := by
    intro c r e
    have hc : isIdChar c = false := hb c (e ▸ rfl)
    constructor <;> intro h' <;> rcases h' with rfl | rfl <;> cases hc
  cases h with
  | none =>
    rcases rest with _ | ⟨c, r⟩
    · rfl
    · exact (if_neg (hr c r rfl).1).trans (if_neg (hr c r rfl).2)
  | u ha =>
    rcases rest with _ | ⟨c, r⟩
    · exact if_pos ha
    · exact (if_pos ha).trans (if_neg (hr c r rfl).2)
  | ul ha hl =>
    rcases rest with _ | ⟨c, r⟩
    · exact (if_pos ha).trans (if_pos hl)
    · exact (if_pos ha).trans ((if_pos hl).trans (if_neg (hr c r rfl).2))
  | ull ha hl hl' => exact (if_pos ha).trans ((if_pos hl).trans (if_pos hl'))
  | @l a ha =>
    show skipSuffix (a :: rest) = rest
    refine (if_neg (isL_not_isU ha)).trans ((if_pos ha).trans ?_)
    rcases rest with _ | ⟨c, r⟩
    · rfl
    · simp only [if_neg (hr c r rfl).2, if_neg (hr c r rfl).1]
  | @ll a b ha hl =>
    show skipSuffix (a :: b :: rest) = rest
    refine (if_neg (isL_not_isU ha)).trans ((if_pos ha).trans ?_)
    have hl' : b = 'l' ∨ b = 'L' := hl
    rcases rest with _ | ⟨c, r⟩
    · simp only [if_pos hl']
    · simp only [if_pos hl', if_neg (hr c r rfl).1]
  | @lu a b ha hu =>
    show skipSuffix (a :: b :: rest) = rest
    refine (if_neg (isL_not_isU ha)).trans ((if_pos ha).trans ?_)
    have hu' : b = 'u' ∨ b = 'U' := hu
    have hnl : ¬ (b = 'l' ∨ b = 'L') := fun h => isL_not_isU h hu
    simp only [if_neg hnl, if_pos hu']
  | @llu a b c ha hl hu =>
    show skipSuffix (a :: b :: c :: rest) = rest
    refine (if_neg (isL_not_isU ha)).trans ((if_pos ha).trans ?_)
    have hl' : b = 'l' ∨ b = 'L' := hl
    have hu' : c = 'u' ∨ c = 'U' := hu
    simp only [if_pos hl', if_pos hu']
theorem step_op (fuel : Nat) (c : Char) (r : List Char) (acc : List String) (h : isOperatorChar c = true) :
    tokenizeAux (fuel + 1) (c :: r) acc = tokenizeAux fuel r (String.singleton c :: acc) :=
  if_pos h

theorem step_blank (fuel : Nat) (c : Char) (r : List Char) (acc : List String) (h : c = ' ' ∨ c = '\t') :
    tokenizeAux (fuel + 1) (c :: r) acc = tokenizeAux fuel r acc := by
  rcases h with rfl | rfl <;> rfl

theorem step_shl (fuel : Nat) (r : List Char) (acc : List String) :
    tokenizeAux (fuel + 1) ('<' :: '<' :: r) acc = tokenizeAux fuel r ("<<" :: acc) := by
  rw [tokenizeAux.eq_def]; simp [isOperatorChar, Gen.tokenizerOperators, isIdStart]

theorem step_shr (fuel : Nat) (r : List Char) (acc : List String) :
    tokenizeAux (fuel + 1) ('>' :: '>' :: r) acc = tokenizeAux fuel r (">>" :: acc) := by
  rw [tokenizeAux.eq_def]; simp [isOperatorChar, Gen.tokenizerOperators, isIdStart]

theorem step_ident (fuel : Nat) (c : Char) (cs rest : List Char) (acc : List String)
    (hc : isIdStart c = true) (hcs : ∀ d ∈ cs, isIdChar d = true) (hb : Boundary rest) :
    tokenizeAux (fuel + 1) (c :: cs ++ rest) acc = tokenizeAux fuel rest (String.ofList (c :: cs) :: acc) := by
  have htw : takeWhileC isIdChar (c :: (cs ++ rest)) = (c :: cs, rest) :=
    takeWhileC_append isIdChar (c :: cs) rest
      (fun d hd => by
        rcases List.mem_cons.mp hd with rfl | hd
        · exact idStart_idChar hc
        · exact hcs d hd) hb
  refine (if_neg (by rw [idStart_not_op hc]; exact Bool.false_ne_true)).trans ?_
  refine (if_neg (by rw [idStart_not_digit hc]; exact Bool.false_ne_true)).trans ((if_pos hc).trans ?_)
  exact congrArg (fun p : List Char × List Char => tokenizeAux fuel p.2 (String.ofList p.1 :: acc)) htw

def numSplit (r : List Char) : List Char × List Char :=
  match r with
  | s :: r' => if isHexBinSuffix s then ([s], r') else ([], r)
  | [] => ([], r)

def badTok (tok : List Char) : Bool := match tok with | [_, d] => isHexBinSuffix d | _ => false

theorem step_digit (fuel : Nat) (c : Char) (r : List Char) (acc : List String) (hd : c.isDigit = true) :
    tokenizeAux (fuel + 1) (c :: r) acc =
      if badTok (c :: ((numSplit r).1 ++ (takeWhileC isHexDigit (numSplit r).2).1)) = true then .error .tokenizer
      else tokenizeAux fuel (skipSuffix (takeWhileC isHexDigit (numSplit r).2).2)
        (String.ofList (octRewrite (c :: ((numSplit r).1 ++ (takeWhileC isHexDigit (numSplit r).2).1))) :: acc) :=
  (if_neg (by rw [digit_not_op hd]; exact Bool.false_ne_true)).trans (if_pos hd)

theorem numSplit_none {r : List Char} (h : ∀ s, r.head? = some s → isHexBinSuffix s = false) :
    numSplit r = ([], r) := by
  cases r with
  | nil => rfl
  | cons s r' => simp only [numSplit, h s rfl, Bool.false_eq_true, if_false]

theorem numSplit_some {p : Char} (r : List Char) (h : isHexBinSuffix p = true) :
    numSplit (p :: r) = ([p], r) := by
  simp only [numSplit, h, if_true]

/-- `pfx`: the optional `x`/`b` letter; `hx`: the digits taken; `tl`: what follows (suffix and rest) -/
theorem step_number (fuel : Nat) (c : Char) (pfx hx tl : List Char) (acc : List String)
    (hd : c.isDigit = true) (hhx : ∀ d ∈ hx, isHexDigit d = true)
    (hpfx : (pfx = [] ∧ ∀ d ∈ hx, d.isDigit = true) ∨ (∃ p, pfx = [p] ∧ isHexBinSuffix p = true ∧ hx ≠ []))
    (htl : ∀ s, tl.head? = some s → isHexDigit s = false ∧ isHexBinSuffix s = false) :
    tokenizeAux (fuel + 1) (c :: (pfx ++ (hx ++ tl))) acc =
      tokenizeAux fuel (skipSuffix tl) (String.ofList (octRewrite (c :: (pfx ++ hx))) :: acc) := by
  have htw := takeWhileC_append isHexDigit hx tl hhx (fun s h => (htl s h).1)
  rw [step_digit fuel c _ acc hd]
  rcases hpfx with ⟨rfl, hds⟩ | ⟨p, rfl, hp, hne⟩
  · have hns : ∀ s, (hx ++ tl).head? = some s → isHexBinSuffix s = false := by
      cases hx with
      | nil => exact fun s h => (htl s h).2
      | cons d _ => intro s h; cases h; exact digit_not_hexbin (hds d List.mem_cons_self)
    rw [List.nil_append, numSplit_none hns]
    simp only [htw, List.nil_append]
    have hbad : badTok (c :: hx) = false := by
      rcases hx with _ | ⟨d, _ | _⟩
      · rfl
      · exact hns d rfl
      · rfl
    simp only [hbad, Bool.false_eq_true, if_false]
  · rw [List.cons_append, List.nil_append, numSplit_some _ hp]
    simp only [htw]
    have hbad : badTok (c :: ([p] ++ hx)) = false := by
      cases hx with
      | nil => exact absurd rfl hne
      | cons _ _ => rfl
    simp only [hbad, Bool.false_eq_true, if_false]

end Cstruct.Expr.C10.TextLemmas
