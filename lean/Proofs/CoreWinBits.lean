/-
  The window theorems of `Proofs/Core.lean` WITHOUT the "no bit-fields" restriction.

  `Core.read_prefix` / `Core.read_window` assume `ty.noBits`. Here that hypothesis is replaced by `hbn`:
    packed mode  (`al = false`): nothing;
    aligned mode (`al = true`) : `ty.bitsAlignBy cfg g` for some function `g : Scalar → Nat` — the alignment of every
      bit-field is `g` of its storage scalar, i.e. fields that can share a storage unit are aligned alike.
  Every structure the library can define satisfies `hbn` with `g = Scalar.tableAlign` (the alignment is an attribute of the
  type object the bit buffer compares), int24/int48 storage (size ≠ alignment) included; `bitsNatural` (size = alignment,
  the hypothesis of the aligned round-trip theorems of `Proofs/CoreBits.lean`) is the special case `g s = s.size`.
  No hypothesis "the layout accepts the definition" (`defErr = none`) and no "static storage size" hypothesis is needed:
  a structure whose layout fails cannot be read (`read` computes the layout first), so `hr` excludes these cases.

  Proof idea (`Proofs/Lemmas/CoreWinFields.lean`): the member loop is followed together with the layout from an arbitrary
  layout state and bit buffer that agree (`BInvW`). Either the layout opens a unit exactly when the reader loads one, or
  (int24/int48 in aligned mode) it opens one for every further bit-field of the type while the reader keeps its unit and
  is told where to seek; either way the position never goes back, and a unit is loaded from bytes before the end position.

  `hbn` cannot simply be dropped in aligned mode: the model-level statement is FALSE for `cex` below, where ONE storage
  scalar is declared with three different alignments (no cstruct definition yields such a type).
-/
import Proofs.Core
import Proofs.CoreBits
import Proofs.C09Shift
import Proofs.Spec.CoreWinBits
import Proofs.Lemmas.CoreWinBitsEx

namespace Cstruct.Core
open Cstruct

/-- **Prefix (window) theorem, bit-fields included.** The statement of `read_prefix` with `ty.noBits` replaced by `hbn`:
    nothing in packed mode; in aligned mode the alignment of a bit-field is a function `g` of its storage scalar.
    If parsing succeeds on `d1` and ends at `p`, it succeeds with the very same value and end position on every input
    that starts with the first `p` bytes of `d1`. -/
theorem read_prefix_bits (cfg : Cfg) (al : Bool) (g : Scalar → Nat) (ty : Ty) (hplain : ty.plain = true)
    (hbn : al = true → ty.bitsAlignBy cfg g = true)
    (hu : ty.uniformAlign al = true) (hp : ty.pow2Aligned cfg) (ctx : Ctx) (d1 : Bytes) (pos : Nat)
    (hal : ty.alignsDivide cfg pos = true) (v : Val) (p : Nat)
    (hr : read cfg ty ctx d1 pos = .ok (v, p)) (d2 : Bytes) (hpre : d1.take p <+: d2) :
    read cfg ty ctx d2 pos = .ok (v, p) :=
  Lemmas.WinBits.read_prefix_bits_u cfg al g ty (Lemmas.plainU_of_plain cfg ty hplain) hbn hu hp ctx d1 pos hal v p hr d2 hpre

/-- **Window corollary, bit-fields included**: the result depends on nothing after the end position. -/
theorem read_window_bits (cfg : Cfg) (al : Bool) (g : Scalar → Nat) (ty : Ty) (hplain : ty.plain = true)
    (hbn : al = true → ty.bitsAlignBy cfg g = true)
    (hu : ty.uniformAlign al = true) (hp : ty.pow2Aligned cfg) (ctx : Ctx) (d1 : Bytes) (pos : Nat)
    (hal : ty.alignsDivide cfg pos = true) (v : Val) (p : Nat)
    (hr : read cfg ty ctx d1 pos = .ok (v, p)) (post : Bytes) :
    read cfg ty ctx (d1.take p ++ post) pos = .ok (v, p) :=
  read_prefix_bits cfg al g ty hplain hbn hu hp ctx d1 pos hal v p hr _ (List.prefix_append _ _)

/-- packed mode: no bit-field side condition at all -/
theorem read_prefix_bits_packed (cfg : Cfg) (ty : Ty) (hplain : ty.plain = true) (hu : ty.uniformAlign false = true)
    (hp : ty.pow2Aligned cfg) (ctx : Ctx) (d1 : Bytes) (pos : Nat) (hal : ty.alignsDivide cfg pos = true) (v : Val) (p : Nat)
    (hr : read cfg ty ctx d1 pos = .ok (v, p)) (d2 : Bytes) (hpre : d1.take p <+: d2) :
    read cfg ty ctx d2 pos = .ok (v, p) :=
  read_prefix_bits cfg false (fun _ => 0) ty hplain (fun h => by cases h) hu hp ctx d1 pos hal v p hr d2 hpre

/-- the side condition as a Boolean (`Ty.winBits`, decidable by evaluation) -/
theorem read_window_bits' (cfg : Cfg) (al : Bool) (g : Scalar → Nat) (ty : Ty) (hplain : ty.plain = true)
    (hbn : ty.winBits cfg al g = true)
    (hu : ty.uniformAlign al = true) (hp : ty.pow2Aligned cfg) (ctx : Ctx) (d1 : Bytes) (pos : Nat)
    (hal : ty.alignsDivide cfg pos = true) (v : Val) (p : Nat)
    (hr : read cfg ty ctx d1 pos = .ok (v, p)) (post : Bytes) :
    read cfg ty ctx (d1.take p ++ post) pos = .ok (v, p) :=
  read_window_bits cfg al g ty hplain ((Ty.winBits_iff cfg al g ty).1 hbn) hu hp ctx d1 pos hal v p hr post

/-- the instance for definitions over the built-in type table (`g` = its alignment column) -/
theorem read_window_bits_table (cfg : Cfg) (al : Bool) (ty : Ty) (hplain : ty.plain = true)
    (hbn : al = true → ty.bitsAlignBy cfg Scalar.tableAlign = true)
    (hu : ty.uniformAlign al = true) (hp : ty.pow2Aligned cfg) (ctx : Ctx) (d1 : Bytes) (pos : Nat)
    (hal : ty.alignsDivide cfg pos = true) (v : Val) (p : Nat)
    (hr : read cfg ty ctx d1 pos = .ok (v, p)) (post : Bytes) :
    read cfg ty ctx (d1.take p ++ post) pos = .ok (v, p) :=
  read_window_bits cfg al Scalar.tableAlign ty hplain hbn hu hp ctx d1 pos hal v p hr post

/-- the window theorem under the hypothesis of the aligned round-trip theorems (`bitsNatural`) -/
theorem read_window_bits_natural (cfg : Cfg) (al : Bool) (ty : Ty) (hplain : ty.plain = true)
    (hbn : al = true → ty.bitsNatural cfg = true)
    (hu : ty.uniformAlign al = true) (hp : ty.pow2Aligned cfg) (ctx : Ctx) (d1 : Bytes) (pos : Nat)
    (hal : ty.alignsDivide cfg pos = true) (v : Val) (p : Nat)
    (hr : read cfg ty ctx d1 pos = .ok (v, p)) (post : Bytes) :
    read cfg ty ctx (d1.take p ++ post) pos = .ok (v, p) :=
  read_window_bits cfg al _ ty hplain (fun ha => bitsAlignBy_of_bitsNatural cfg ty (hbn ha)) hu hp ctx d1 pos hal v p hr post

/-- **Where a successful read ends (bit-fields included).** Under the hypotheses of the window theorem the end position is
    at most start + declared size; with `bitsNatural` in aligned mode (always in packed mode) it is exactly that
    (`read_end_eq_bits`). For int24/int48 bit-fields in aligned mode the reader can stop short of the declared size
    (`short24` below: size 8, read to position 4) — the recorded layout/reader disagreement, to which the window theorem
    is insensitive. -/
theorem read_end_le_bits (cfg : Cfg) (al : Bool) (g : Scalar → Nat) (ty : Ty) (hplain : ty.plain = true)
    (hbn : al = true → ty.bitsAlignBy cfg g = true) (hu : ty.uniformAlign al = true) (hp : ty.pow2Aligned cfg) (ctx : Ctx)
    (d : Bytes) (pos : Nat) (hal : ty.alignsDivide cfg pos = true) (v : Val) (p : Nat)
    (hr : read cfg ty ctx d pos = .ok (v, p)) : pos ≤ p ∧ ∀ k, ty.size cfg = some k → p ≤ pos + k :=
  Lemmas.WinBits.read_end_le_u cfg al g ty (Lemmas.plainU_of_plain cfg ty hplain) hbn hu hp ctx d pos hal v p hr

theorem read_end_eq_bits (cfg : Cfg) (al : Bool) (ty : Ty) (hplain : ty.plain = true)
    (hbn : al = true → ty.bitsNatural cfg = true) (hu : ty.uniformAlign al = true) (hp : ty.pow2Aligned cfg) (ctx : Ctx)
    (d : Bytes) (pos : Nat) (hal : ty.alignsDivide cfg pos = true) (v : Val) (p : Nat)
    (hr : read cfg ty ctx d pos = .ok (v, p)) : pos ≤ p ∧ ∀ k, ty.size cfg = some k → p = pos + k := by
  obtain ⟨h1, _, h3⟩ := (Lemmas.WinBits.win_ty Lemmas.cmp_eq (Lemmas.WinBits.loopInv_eq cfg al d) ty
    (Lemmas.plainU_of_plain cfg ty hplain) hu hp (fun ha => bitsAlignBy_of_bitsNatural cfg ty (hbn ha))).1 ctx pos v p hr
    (fun _ => Lemmas.sAlign_dvd_of_alignsDivide cfg pos ty hal)
  exact ⟨h1, h3⟩

/-! ### Non-vacuity
  Packed, little endian: `struct { int8 a:3; int8 b:5; uint16 c:4; uint16 d:12; uint8 e; }` (`Ex.tyA`): two bit-field units
  of different storage types followed by a scalar. Aligned, big endian: `struct { uint8 a:3; uint16 b:4; uint16 c:12;
  uint8 e; }` (`Ex.tyG`): the second unit behind a byte of padding, one byte of tail padding. Aligned, little endian,
  int24 storage: `struct { uint24 a:8; uint24 b:8; uint8 e; }` (`Ex24.ty24`). -/
open Ex in
theorem ex_read_packed (post : Bytes) (ctx : Ctx) :
    read cfgL tyA ctx ([253, 201, 171, 7] ++ post) 0 = .ok (.record vsA, 4) := by
  have h := roundtrip_SB_packed cfgL tyA (by decide +kernel) (by decide +kernel) (.record vsA)
    (.struct (.bitsInt (by decide) (by decide) (.bitsInt (by decide) (by decide) (.bitsInt (by decide) (by decide)
      (.bitsInt (by decide) (by decide) (.cons (.int rfl (by decide)) .nil))))))
    0 _ ex_write [] post rfl ctx
  simpa using h
open Ex in
theorem ex_read_aligned (post : Bytes) (ctx : Ctx) :
    read cfgBE tyG ctx ([0xA0, 0, 0x9A, 0xBC, 7, 0] ++ post) 0 = .ok (.record wsA, 6) := by
  have h := roundtrip_SB cfgBE true tyG (by decide +kernel) (by decide +kernel)
    ⟨Or.inr ⟨0, rfl⟩, Or.inr ⟨1, rfl⟩, Or.inr ⟨1, rfl⟩, Or.inr ⟨0, rfl⟩, trivial⟩ (fun _ => by decide +kernel)
    (by decide +kernel) (.record wsA)
    (.struct (.bitsInt (by decide) (by decide) (.bitsInt (by decide) (by decide) (.bitsInt (by decide) (by decide)
      (.cons (.int rfl (by decide)) .nil)))))
    0 (by decide +kernel) _ ex_write_al [] post rfl ctx
  simpa using h
-- the decidable hypotheses of `read_window_bits` hold for the three types
open Ex in
example : tyA.plain = true ∧ tyA.noBits = false ∧ tyA.uniformAlign false = true ∧ tyA.alignsDivide cfgL 0 = true ∧
    tyA.winBits cfgL false Scalar.tableAlign = true := by decide +kernel
open Ex in
example : tyG.plain = true ∧ tyG.noBits = false ∧ tyG.uniformAlign true = true ∧ tyG.alignsDivide cfgBE 0 = true ∧
    tyG.bitsNatural cfgBE = true ∧ tyG.bitsAlignBy cfgBE Scalar.tableAlign = true ∧
    tyG.winBits cfgBE true Scalar.tableAlign = true := by decide +kernel
open Ex24 in
example : ty24.plain = true ∧ ty24.noBits = false ∧ ty24.uniformAlign true = true ∧ ty24.alignsDivide cfgL 0 = true ∧
    ty24.bitsNatural cfgL = false ∧ ty24.bitsAlignBy cfgL Scalar.tableAlign = true ∧ ty24.defErr cfgL = none ∧
    ty24.size cfgL = some 8 := by decide +kernel
-- the theorem applied: whatever follows the bytes in the input the value was parsed from (`junk`), the consumed bytes
-- followed by anything else (`post`) parse to the same value
open Ex in
example (junk post : Bytes) (ctx : Ctx) :
    read cfgL tyA ctx (([253, 201, 171, 7] ++ junk).take 4 ++ post) 0 = .ok (.record vsA, 4) :=
  read_window_bits cfgL false Scalar.tableAlign tyA (by decide +kernel) (fun h => by cases h) (by decide +kernel)
    ⟨Or.inr ⟨0, rfl⟩, Or.inr ⟨0, rfl⟩, Or.inr ⟨1, rfl⟩, Or.inr ⟨1, rfl⟩, Or.inr ⟨0, rfl⟩, trivial⟩ ctx _ 0 (by decide +kernel)
    _ _ (ex_read_packed junk ctx) post
open Ex in
example (junk post : Bytes) (ctx : Ctx) :
    read cfgBE tyG ctx (([0xA0, 0, 0x9A, 0xBC, 7, 0] ++ junk).take 6 ++ post) 0 = .ok (.record wsA, 6) :=
  read_window_bits cfgBE true Scalar.tableAlign tyG (by decide +kernel) (fun _ => by decide +kernel) (by decide +kernel)
    ⟨Or.inr ⟨0, rfl⟩, Or.inr ⟨1, rfl⟩, Or.inr ⟨1, rfl⟩, Or.inr ⟨0, rfl⟩, trivial⟩ ctx _ 0 (by decide +kernel)
    _ _ (ex_read_aligned junk ctx) post
open Ex24 in
example (junk post : Bytes) (ctx : Ctx) :
    read cfgL ty24 ctx (([1, 2, 3, 4, 5, 6, 7, 8] ++ junk).take 8 ++ post) 0 = .ok (val24, 8) :=
  read_window_bits cfgL true Scalar.tableAlign ty24 (by decide +kernel) (fun _ => by decide +kernel) (by decide +kernel)
    ⟨Or.inr ⟨2, rfl⟩, Or.inr ⟨2, rfl⟩, Or.inr ⟨0, rfl⟩, trivial⟩ ctx _ 0 (by decide +kernel)
    _ _ (ex_read24 junk ctx) post

-- aligned `struct { uint24 a:8; uint24 b:8; }`: declared size 8 (two units, at 0 and 4), but the reader takes both fields
-- from the unit at 0 and stops at 4: `read_end_le_bits` cannot be an equality for int24 storage
def short24 : Ty := .struct true (.cons "a" false Ex24.u24 (some 8) (.cons "b" false Ex24.u24 (some 8) .nil))
#guard short24.size Ex24.cfgL = some 8
#guard (read Ex24.cfgL short24 [] Ex24.dat 0).map (·.2) = .ok 4

/-! ### The aligned-mode side condition cannot simply be dropped (model level)
  `cex` := aligned `struct { char c0, c1, c2; T1 a:8; T2 b:8; T4 c:32; T4 d:8; char e[0]; }` where `Tk` is the 6-byte
  unsigned integer `.aint 6 false` declared with alignment `k` — ONE storage scalar under three alignments. Little endian,
  input = the 24 bytes 1, 2, …, 24.
  Layout: offsets [0, 1, 2, 3, 10, ·, ·, 16], size 16, alignment 4 (`a` opens a unit at 3; re-aligning its end 9 to 2 gives
  10 > 9, so `b` opens a second unit at 10, end 16; `c`, `d` continue it: 16 is a multiple of 4). Reader: loads bytes 3..8
  for `a`, seeks to 10 for `b` WITHOUT loading (32 bits are left of the same storage type), pads 10 to 12 for `c` and uses
  up the unit, pads 12 to 12 for `d` and loads bytes 12..17, then seeks BACK to offset 16 for `e` and stops there.
  Result: `.ok (_, 16)` although byte 17 was consumed; on the first 16 (17) bytes alone: `EOFError`.
  `cex` satisfies every hypothesis of `read_prefix_bits` except `hbn` (it is plain, one align flag, alignments powers of
  two, start 0, and the layout accepts it); no `g` works since `g (.aint 6 false)` would have to be 1, 2 and 4. No cstruct
  definition yields such a type: the alignment is an attribute of the type object that the bit buffer compares
  (`self._type != field_type`), so fields sharing a unit share the alignment. -/
def cexT (k : Nat) : Ty := .sc (.aint 6 false) k
def cexC : Ty := .sc .char 1
def cex : Ty := .struct true (.cons "c0" false cexC none (.cons "c1" false cexC none (.cons "c2" false cexC none
  (.cons "a" false (cexT 1) (some 8) (.cons "b" false (cexT 2) (some 8) (.cons "c" false (cexT 4) (some 32)
  (.cons "d" false (cexT 4) (some 8) (.cons "e" false (.arr cexC (.fixed 0)) none .nil))))))))
def cexData : Bytes := (List.range 24).map (fun i => UInt8.ofNat (i + 1))
def endOf (r : Except Err (Val × Nat)) : Except Err Nat := r.map (·.2)

example : cex.plain = true ∧ cex.uniformAlign true = true ∧ cex.alignsDivide Ex.cfgL 0 = true ∧ cex.defErr Ex.cfgL = none ∧
    cex.bitsNatural Ex.cfgL = false ∧ cex.bitsAlignBy Ex.cfgL Scalar.tableAlign = false ∧
    structLayout Ex.cfgL true (match cex with | .struct _ fs => fs | _ => .nil) =
      .ok (some 16, 4, [some 0, some 1, some 2, some 3, some 10, none, none, some 16]) := by decide +kernel
#guard endOf (read Ex.cfgL cex [] cexData 0) = .ok 16
#guard endOf (read Ex.cfgL cex [] (cexData.take 16) 0) = .error .eof
#guard endOf (read Ex.cfgL cex [] (cexData.take 17) 0) = .error .eof
#guard endOf (read Ex.cfgL cex [] (cexData.take 18) 0) = .ok 16

end Cstruct.Core

namespace Cstruct.C09
open Cstruct Cstruct.Core

/-- **Nothing after the encoded extent matters, bit-fields included** (`c09_after_extent` without `noBits`). -/
theorem c09_after_extent_bits (cfg : Cfg) (al : Bool) (g : Scalar → Nat) (ty : Ty) (hplain : ty.plain = true)
    (hbn : al = true → ty.bitsAlignBy cfg g = true) (hu : ty.uniformAlign al = true) (hp : ty.pow2Aligned cfg) (ctx : Ctx)
    (d : Bytes) (pos : Nat) (hal : ty.alignsDivide cfg pos = true) (v : Val) (p : Nat)
    (hr : read cfg ty ctx d pos = .ok (v, p)) (post : Bytes) :
    read cfg ty ctx (d.take p ++ post) pos = .ok (v, p) :=
  read_window_bits cfg al g ty hplain hbn hu hp ctx d pos hal v p hr post

/-- **Position independence for types with bit-fields**: reading at position `|pre|` of `pre ++ w ++ post` is reading
    `w ++ post` at 0, shifted by `|pre|` — the same value or the same error. (This is `c09_shift`, whose proof already
    covers bit-fields: the unit is loaded from the shifted position, `BitBuf.take` does not see positions; no
    side condition on bit-fields needed.) -/
theorem c09_shift_bits (cfg : Cfg) (al : Bool) (ty : Ty) (hplain : ty.plain = true) (hu : ty.uniformAlign al = true)
    (hp : ty.pow2Aligned cfg) (ctx : Ctx) (pre w post : Bytes)
    (hal : al = true → ty.alignsDivide cfg pre.length = true) :
    read cfg ty ctx (pre ++ w ++ post) pre.length = shiftRes pre.length (read cfg ty ctx (w ++ post) 0) := by
  have h := c09_shift cfg al ty hplain hu hp ctx pre (w ++ post) 0 hal
  rw [Nat.add_zero, ← List.append_assoc] at h
  exact h

/-- **Embedded window, bit-fields included**: if `d` parses (from position 0) to `v` ending at `p`, then the first `p`
    bytes of `d`, embedded after any `pre` whose length is a multiple of the alignments of the type and before any `post`,
    parse at position `|pre|` to the same `v` and leave the stream at `|pre| + p`. -/
theorem c09_embedded_window_bits (cfg : Cfg) (al : Bool) (g : Scalar → Nat) (ty : Ty) (hplain : ty.plain = true)
    (hbn : al = true → ty.bitsAlignBy cfg g = true) (hu : ty.uniformAlign al = true) (hp : ty.pow2Aligned cfg) (ctx : Ctx)
    (pre d post : Bytes) (hal : ty.alignsDivide cfg pre.length = true) (v : Val) (p : Nat)
    (hr : read cfg ty ctx d 0 = .ok (v, p)) :
    read cfg ty ctx (pre ++ d.take p ++ post) pre.length = .ok (v, pre.length + p) := by
  have h1 : read cfg ty ctx (pre ++ d) pre.length = .ok (v, pre.length + p) := by
    have h := c09_shift cfg al ty hplain hu hp ctx pre d 0 (fun _ => hal)
    rw [Nat.add_zero, hr] at h
    exact h
  have h2 := read_window_bits cfg al g ty hplain hbn hu hp ctx (pre ++ d) pre.length hal v _ h1 post
  rw [List.take_append, List.take_of_length_le (by omega), Nat.add_sub_cancel_left] at h2
  exact h2

end Cstruct.C09
