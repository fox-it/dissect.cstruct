/-
  C11 — union members are coherent views of one byte buffer.

  Property theorems over `CstructModel/Union.lean` (UnionMetaType._read/_read_fields, Union._rebuild/_update) and the union
  cases of the read/write model.
  Known findings F9F10: the *dump* of a union writes only its largest non-anonymous-struct member (see `Proofs/C11Dump.lean`).
-/
import CstructModel.Union
import Proofs.Lemmas.C11

namespace Cstruct.C11
open Cstruct Cstruct.Union Cstruct.Core

/-- **Parsing consumes exactly the union's size** (on a long-enough input) and the buffer is exactly those bytes. -/
theorem c11_parse_size (cfg : Cfg) (fs : Fields) (sz : Nat) (data : Bytes) (pos : Nat) (s : UState) (p : Nat)
    (h : parse cfg fs sz data pos = .ok (s, p)) (hlen : pos + sz ≤ data.length) :
    p = pos + sz ∧ s.buf = (data.drop pos).take sz ∧ s.buf.length = sz := by
  have hl : (sread data pos sz).length = sz :=
    List.length_take_of_le (by rw [List.length_drop]; exact Nat.le_sub_of_add_le' hlen)
  unfold parse at h
  simp only at h
  split at h
  · cases h
  · cases h
    exact ⟨rfl, rfl, hl⟩

/-- **Every member's value is the result of parsing that member's type from the union's bytes** (from offset 0 of the
    buffer, with the members before it as context). -/
theorem c11_members (cfg : Cfg) (fs : Fields) (buf : Bytes) (vs : Vals) (h : readMembers cfg fs [] buf = .ok vs) (k : Nat) (t : Ty)
    (ht : nthTy fs k = some t) :
    ∃ v ctx p, nthVal vs k = some v ∧ read cfg t ctx buf 0 = .ok (v, p) :=
  Lemmas.members_gen cfg buf fs [] vs h k t ht

/-- **Coherence is an invariant of every history of assignments**: after any sequence of member assignments that
    succeeded, all members are again exactly what the buffer parses to. -/
theorem c11_history_coherent (cfg : Cfg) (fs : Fields) (s : UState) (hist : List (Nat × Val)) (s' : UState)
    (hinv : readMembers cfg fs [] s.buf = .ok s.vals) (h : assignAll cfg fs s hist = .ok s') :
    readMembers cfg fs [] s'.buf = .ok s'.vals := by
  induction hist generalizing s with
  | nil => cases h; exact hinv
  | cons kv r ih =>
    simp only [assignAll] at h
    split at h
    · cases h
    · rename_i s1 h1
      exact ih s1 (Lemmas.assign_ok cfg fs s kv.1 kv.2 s1 h1).choose_spec.2.2 h

/-- **An assignment changes the bytes of that member and nothing else**: the new buffer is the member's encoding followed by
    the old bytes beyond it; its length does not change when the member fits the union. -/
theorem c11_assign_bytes (cfg : Cfg) (fs : Fields) (s : UState) (k : Nat) (v : Val) (s' : UState)
    (h : assign cfg fs s k v = .ok s') :
    ∃ enc, writeMemberRaw cfg fs (setNth s.vals k v) k 0 = .ok enc ∧ s'.buf = enc ++ s.buf.drop enc.length ∧
      (enc.length ≤ s.buf.length → s'.buf.length = s.buf.length) ∧
      (∀ i, enc.length ≤ i → s'.buf[i]? = s.buf[i]?) := by
  obtain ⟨enc, hw, hb, _⟩ := Lemmas.assign_ok cfg fs s k v s' h
  refine ⟨enc, hw, hb, fun hle => ?_, fun i hi => ?_⟩
  · rw [hb, List.length_append, List.length_drop]
    exact Nat.add_sub_of_le hle
  · rw [hb, List.getElem?_append_right hi, List.getElem?_drop, Nat.add_sub_of_le hi]

/-- **The assigned member reads back** (members of fragment S, value of the member's type): after `u.member = v` the member
    holds `v` again — it was written into the buffer and re-read from it. -/
theorem c11_assign_readback (cfg : Cfg) (al : Bool) (fs : Fields) (s : UState) (k : Nat) (t : Ty) (v : Val) (s' : UState)
    (ht : nthTy fs k = some t) (hS : t.fragS cfg = true) (hu : t.uniformAlign al = true) (hp : t.pow2Aligned cfg)
    (hv : HasTy cfg v t) (hk : k < s.vals.length) (h : assign cfg fs s k v = .ok s') :
    nthVal s'.vals k = some v := by
  obtain ⟨enc, hw, hb, hm⟩ := Lemmas.assign_ok cfg fs s k v s' h
  rw [Lemmas.writeMemberRaw_eq cfg fs _ k t v 0 ht (Lemmas.nthVal_setNth s.vals k v hk)] at hw
  obtain ⟨v', ctx', p', hv', hr⟩ := c11_members cfg fs s'.buf s'.vals hm k t ht
  have := roundtrip_S cfg al t hS hu hp v hv 0 (Cstruct.C01.alignsDivide_zero cfg t) enc hw [] (s.buf.drop enc.length)
    rfl ctx'
  rw [List.nil_append, ← hb, hr] at this
  rw [hv', (Prod.mk.inj (Except.ok.inj this)).1]

/-- **Dump (partial, see F9F10)**: a fixed-size union is dumped as its largest member that is not an anonymous structure,
    zero-padded to the union's size; in particular the dump always has the union's size. -/
theorem c11_dump_size (cfg : Cfg) (al : Bool) (fs : Fields) (buf : Bytes) (vs : Vals) (pos : Nat) (bs : Bytes) (sz : Nat)
    (hsz : (Ty.union al fs).size cfg = some sz) (h : write cfg (.union al fs) (.union buf vs) pos = .ok bs)
    (hfit : ∀ k t, nthTy fs k = some t → ∀ n, t.size cfg = some n → n ≤ sz) :
    bs.length ≥ sz := by
  have _ := hfit
  exact Lemmas.dump_size cfg al fs buf vs pos bs sz hsz h

end Cstruct.C11
