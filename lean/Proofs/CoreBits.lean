/-
  Round trip for structures WITH bit-fields (property C01 beyond fragment S).
  Specification-side definitions: `Proofs/Spec/CoreBits.lean` (fragment `Ty.fragSB`, typing relation `Core.HasTyB`);
  proofs: `Proofs/Lemmas/CoreSB.lean`, which reads the statements for this fragment off those for fragment D
  (`Proofs/Lemmas/CoreDynLoop.lean`, where the invariant is described, and `CoreDynTy.lean`): a value of fragment SB is a
  value of fragment D in every context. Model: the bit-field branches of `readFields` (`CstructModel/Read.lean`),
  `writeFields` (`CstructModel/Write.lean`), `Fields.layout` (`CstructModel/Ty.lean`), `BitBuf.take/put`
  (`CstructModel/Val.lean`). A unit the reader loaded is the value `F` the writer flushes later, possibly seen as the
  negative number `F - 2^(8·size)` for a signed storage type; the bits handed out so far are its low (little endian) or
  high (big endian) bits (`Lemmas.URel`); `C06`'s `put_step`/`take_step` give the step.
-/
import Proofs.Spec.CoreBits
import Proofs.Lemmas.CoreSB
import Proofs.Lemmas.CoreBitsEx
import Proofs.Lemmas.CoreBitsEx2

namespace Cstruct.Core
open Cstruct

/-- **Round trip (fragment SB, packed).** Writing a value of a type of fragment SB — fragment S plus bit-fields over
    integer storage types, signed or unsigned, any width, either byte order, enum-typed ones included — at absolute
    position `pos` and parsing the result, embedded after any `pre` of that length and before any `post`, with any
    context, returns the value and ends exactly after the written bytes. Every structure in the type is packed
    (`align = false`); every start position. No assumption on the layout: `hw` (writing succeeded) is enough. -/
theorem roundtrip_SB_packed (cfg : Cfg) (ty : Ty) (hS : ty.fragSB cfg = true) (hu : ty.uniformAlign false = true)
    (v : Val) (hv : HasTyB cfg v ty) (pos : Nat) (bs : Bytes) (hw : write cfg ty v pos = .ok bs) (pre post : Bytes)
    (hpre : pre.length = pos) (ctx : Ctx) :
    read cfg ty ctx (pre ++ bs ++ post) pos = .ok (v, pos + bs.length) :=
  ((Lemmas.dynWr_SB hS hu nofun nofun hv nofun ctx).2 bs hw).2.2 _ (.mid hpre)

/-- **Writing is total on the values of the type (fragment SB, packed)** and produces exactly `size` bytes, provided the
    definition is accepted: `ty.defErr cfg = none`, i.e. the layout of every structure in the type succeeds, which for
    this fragment means that no bit-field straddles its storage unit (`Fields.layout` answers `.error .value` for a
    field wider than what is left of the unit, `C06.c06_layout_straddle`). There is no other way for `write` to fail on
    a value of the type: every bit-field value is in range of its width (`HasTyB`), so `BitBuf.put` accepts it, and a
    unit value always fits its storage type when flushed as unsigned. -/
theorem write_total_SB_packed (cfg : Cfg) (ty : Ty) (hS : ty.fragSB cfg = true) (hu : ty.uniformAlign false = true)
    (hd : ty.defErr cfg = none) (v : Val) (hv : HasTyB cfg v ty) (pos : Nat) :
    ∃ bs, write cfg ty v pos = .ok bs ∧ ty.size cfg = some bs.length :=
  Lemmas.write_size_SB (Lemmas.dynWr_SB hS hu nofun nofun hv nofun []) hS hd

/-- the hypothesis `defErr = none` of `write_total_SB_packed` cannot be dropped: a structure whose layout is rejected is
    never written (the real library already fails when the structure is defined) -/
theorem write_layout_error (cfg : Cfg) (al : Bool) (fs : Fields) (vs : Vals) (pos : Nat) (e : Err)
    (h : structLayout cfg al fs = .error e) : write cfg (.struct al fs) (.record vs) pos = .error e := by
  rw [Lemmas.write_struct, h]; rfl

/-- **A type of fragment SB whose definition is accepted has a static size** (packed or aligned). -/
theorem size_some_SB (cfg : Cfg) (ty : Ty) (hS : ty.fragSB cfg = true) (hd : ty.defErr cfg = none) :
    ∃ k, ty.size cfg = some k :=
  Lemmas.size_some_ty cfg ty hS hd

/-
  Aligned mode. Known finding: for a storage scalar whose size is not its alignment — the table types
  int24/uint24 (size 3, alignment 4), int48/uint48 (6, 8) — layout, writer and reader disagree. With `cfg` little endian and
    `struct { uint8 z; uint24 a:3; uint24 b:5; uint16 c; }`  (aligned; `uint24 = .sc (.aint 3 false) 4`)
  the layout opens a second unit for `b` at offset 8 (the re-aligned offset 8 lies behind the end 7 of the first unit:
  offsets [0, 4, 8, 12], size 16), whereas writer and reader go on using the first unit; the writer moreover emits the
  padding up to offset 8 in front of the still pending unit. The value (z, a, b, c) = (1, 5, 9, 7) is written as
    01 00 00 00 | 00 00 00 00 | 4D 00 00 | 00 | 07 00 | 00 00
  and parses back as (1, 0, 0, 7). The aligned theorems therefore assume `Ty.bitsNatural`: every
  bit-field's storage scalar has `size = alignment` (true of the power-of-two-sized table integers). Totality of
  writing needs an accepted definition (`defErr = none`); the round trip does not use it (`hd` of `roundtrip_SB` is not
  needed by the proof: `hw`, writing succeeded, is enough, as in `roundtrip_SB_packed`).
-/

/-- **Round trip (fragment SB, packed or aligned).** As `roundtrip_S`, for structures with bit-fields: one `align` flag
    throughout, power-of-two alignments, a start position that is a multiple of the alignments occurring in the type; in
    aligned mode every bit-field storage scalar has `size = alignment`; the definition is accepted. -/
theorem roundtrip_SB (cfg : Cfg) (al : Bool) (ty : Ty) (hS : ty.fragSB cfg = true) (hu : ty.uniformAlign al = true)
    (hp : ty.pow2Aligned cfg) (hn : al = true → ty.bitsNatural cfg = true) (hd : ty.defErr cfg = none)
    (v : Val) (hv : HasTyB cfg v ty) (pos : Nat) (hal : ty.alignsDivide cfg pos = true) (bs : Bytes)
    (hw : write cfg ty v pos = .ok bs) (pre post : Bytes) (hpre : pre.length = pos) (ctx : Ctx) :
    read cfg ty ctx (pre ++ bs ++ post) pos = .ok (v, pos + bs.length) :=
  ((Lemmas.dynWr_SB hS hu (fun _ => hp) hn hv (fun _ => Lemmas.sAlign_dvd_of_alignsDivide cfg pos ty hal) ctx).2 bs hw).2.2 _
    (.mid hpre)

/-- **Writing is total on the values of the type (fragment SB, packed or aligned)** and produces exactly `size` bytes,
    under the hypotheses of `roundtrip_SB`. -/
theorem write_total_SB (cfg : Cfg) (al : Bool) (ty : Ty) (hS : ty.fragSB cfg = true) (hu : ty.uniformAlign al = true)
    (hp : ty.pow2Aligned cfg) (hn : al = true → ty.bitsNatural cfg = true) (hd : ty.defErr cfg = none)
    (v : Val) (hv : HasTyB cfg v ty) (pos : Nat) (hal : ty.alignsDivide cfg pos = true) :
    ∃ bs, write cfg ty v pos = .ok bs ∧ ty.size cfg = some bs.length :=
  Lemmas.write_size_SB (Lemmas.dynWr_SB hS hu (fun _ => hp) hn hv
    (fun _ => Lemmas.sAlign_dvd_of_alignsDivide cfg pos ty hal) []) hS hd

/-! ### Non-vacuity
  `struct { int8 a:3; int8 b:5; uint16 c:4; uint16 d:12; uint8 e; }`, packed, little endian: two bit-field runs of
  different storage types, the first one signed (its unit 0xFD is loaded as the negative number -3). -/
open Ex in
example : tyA.fragSB cfgL = true ∧ tyA.uniformAlign false = true ∧ tyA.defErr cfgL = none ∧ tyA.size cfgL = some 4 := by
  decide +kernel
open Ex in
example : HasTyB cfgL (.record vsA) tyA :=
  .struct (.bitsInt (by decide) (by decide) (.bitsInt (by decide) (by decide) (.bitsInt (by decide) (by decide)
    (.bitsInt (by decide) (by decide) (.cons (.int rfl (by decide)) .nil)))))
open Ex in
example : write cfgL tyA (.record vsA) 0 = .ok [253, 201, 171, 7] := ex_write
open Ex in
example (post : Bytes) (ctx : Ctx) : read cfgL tyA ctx ([253, 201, 171, 7] ++ post) 0 = .ok (.record vsA, 4) := by
  have h := roundtrip_SB_packed cfgL tyA (by decide +kernel) (by decide +kernel) (.record vsA)
    (.struct (.bitsInt (by decide) (by decide) (.bitsInt (by decide) (by decide) (.bitsInt (by decide) (by decide)
      (.bitsInt (by decide) (by decide) (.cons (.int rfl (by decide)) .nil))))))
    0 _ ex_write [] post rfl ctx
  simpa using h
-- aligned, big endian: `struct { uint8 a:3; uint16 b:4; uint16 c:12; uint8 e; }`
open Ex in
example : tyG.fragSB cfgBE = true ∧ tyG.uniformAlign true = true ∧ tyG.bitsNatural cfgBE = true ∧ tyG.defErr cfgBE = none ∧
    tyG.alignsDivide cfgBE 0 = true ∧ tyG.size cfgBE = some 6 := by
  decide +kernel
open Ex in
example : tyG.pow2Aligned cfgBE := by
  refine ⟨Or.inr ⟨0, rfl⟩, Or.inr ⟨1, rfl⟩, Or.inr ⟨1, rfl⟩, Or.inr ⟨0, rfl⟩, trivial⟩
open Ex in
example : write cfgBE tyG (.record wsA) 0 = .ok [0xA0, 0, 0x9A, 0xBC, 7, 0] := ex_write_al
open Ex in
example (post : Bytes) (ctx : Ctx) : read cfgBE tyG ctx ([0xA0, 0, 0x9A, 0xBC, 7, 0] ++ post) 0 = .ok (.record wsA, 6) := by
  have h := roundtrip_SB cfgBE true tyG (by decide +kernel) (by decide +kernel)
    ⟨Or.inr ⟨0, rfl⟩, Or.inr ⟨1, rfl⟩, Or.inr ⟨1, rfl⟩, Or.inr ⟨0, rfl⟩, trivial⟩ (fun _ => by decide +kernel)
    (by decide +kernel) (.record wsA)
    (.struct (.bitsInt (by decide) (by decide) (.bitsInt (by decide) (by decide) (.bitsInt (by decide) (by decide)
      (.cons (.int rfl (by decide)) .nil)))))
    0 (by decide +kernel) _ ex_write_al [] post rfl ctx
  simpa using h
-- a straddling definition (`uint8 x:5; uint8 y:5;`) is rejected by the layout and cannot be written
example : (Ty.struct false (.cons "x" false Ex.u8 (some 5) (.cons "y" false Ex.u8 (some 5) .nil))).defErr Ex.cfgL
    = some .value := by decide +kernel

end Cstruct.Core
