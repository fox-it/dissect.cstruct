/-
  C06 — bit-fields partition their storage unit exactly, in endian-defined order.

  Model: `BitBuf.take` / `BitBuf.put` in `CstructModel/Val.lean` (bitbuffer.py's read and write with their masks and
  shifts on Python ints, as written) and the bit-field branch of `Fields.layout` in `CstructModel/Ty.lean`
  (`_calculate_size_and_offsets`). How units are loaded, switched and flushed around these steps is part of the
  read/write model (`readFields`/`writeFields`), tied to the code by the correspondence run of this check.
-/
import Proofs.Spec.C06
import Proofs.Lemmas.C06
import Proofs.Lemmas.LayoutEq

namespace Cstruct.C06
open Cstruct Cstruct.C06.Lemmas

/-- **One read step.** From a unit `u` of width `w` with `k` bits used, reading `b ≤ w - k` bits returns exactly the bits
    of the field's slot — least significant end first in little endian, most significant end first in big endian —,
    a value in [0, 2^b), and leaves the buffer describing the same unit with `k + b` bits used. Holds for every integer
    `u`, negative ones (signed storage types) included. -/
theorem c06_take (e : Endian) (w k b : Nat) (u : Int) (bb : BitBuf) (hinv : ReadInv e w u k bb) (hb : k + b ≤ w) :
    ∃ bb', bb.take e b = some (slotVal u (slotLo e w k b) b, bb') ∧ ReadInv e w u (k + b) bb' ∧
      0 ≤ slotVal u (slotLo e w k b) b ∧ slotVal u (slotLo e w k b) b < 2 ^ b := by
  exact Lemmas.take_step e w k b u bb hinv hb

/-- **A straddling read is refused**, it never returns bits of another unit. -/
theorem c06_take_straddle (e : Endian) (bb : BitBuf) (b : Nat) (h : bb.remaining < b) : bb.take e b = none := by
  simp [BitBuf.take, h]

/-- **Partition.** The slots of consecutive fields of one unit are pairwise disjoint and lie inside the unit. -/
theorem c06_partition (e : Endian) (w : Nat) (bs : List Nat) (hsum : bs.sum ≤ w) (i j : Nat) (hij : i < j) (hj : j < bs.length) :
    let ks := starts bs 0
    let lo (n : Nat) := slotLo e w (ks.getD n 0) (bs.getD n 0)
    (lo i + bs.getD i 0 ≤ lo j ∨ lo j + bs.getD j 0 ≤ lo i) ∧ lo i + bs.getD i 0 ≤ w ∧ lo j + bs.getD j 0 ≤ w := by
  exact Lemmas.partition e w bs hsum i j hij hj

/-- **A run of reads.** Reading fields of widths `bs` (total ≤ w) from a freshly loaded unit returns, field by field, the
    value of that field's slot. -/
theorem c06_take_all (e : Endian) (w : Nat) (u : Int) (bs : List Nat) (hsum : bs.sum ≤ w) (t : Option Scalar) :
    ∃ bb', takeAll e { ty := t, buffer := u, remaining := w } bs =
      some ((bs.zip (starts bs 0)).map (fun (b, k) => slotVal u (slotLo e w k b) b), bb') ∧
      bb'.remaining = w - bs.sum := by
  obtain ⟨bb', h1, h2⟩ := takeAll_spec e w u bs 0 _ (readInv_init e w u t) (by omega)
  exact ⟨bb', h1, by simpa using h2.2.1⟩

/-- **Writing is the inverse of reading.** Putting values that fit their widths (0 ≤ v < 2^b, total width ≤ 8·size) into
    a fresh unit yields a unit value `U` in [0, 2^(8·size)) from which reading the same widths returns exactly those
    values; bits not assigned to any field are zero. -/
theorem c06_put_take (e : Endian) (size : Nat) (fs : List (Int × Nat)) (t : Option Scalar)
    (hfit : ∀ p ∈ fs, 0 ≤ p.1 ∧ p.1 < 2 ^ p.2) (hsum : (fs.map (·.2)).sum ≤ 8 * size) :
    ∃ bb, putAll e size { ty := t, buffer := 0, remaining := 8 * size } fs = some bb ∧
      0 ≤ bb.buffer ∧ bb.buffer < 2 ^ (8 * size) ∧ bb.remaining = 8 * size - (fs.map (·.2)).sum ∧
      (∃ bb', takeAll e { ty := t, buffer := bb.buffer, remaining := 8 * size } (fs.map (·.2)) = some (fs.map (·.1), bb')) ∧
      (match e with
       | .little => bb.buffer < 2 ^ (fs.map (·.2)).sum
       | .big => bb.buffer % (2 ^ (8 * size - (fs.map (·.2)).sum) : Nat) = 0) := by
  obtain ⟨bbF, nF, hall, hinvF, hnF, _, hslots⟩ :=
    putAll_spec e size fs 0 0 _ (writeInv_init e (8 * size) t) (by simp) hfit (by omega)
  simp only [Nat.zero_add] at hinvF hnF
  obtain ⟨hrem, hbuf⟩ := hinvF
  obtain ⟨bb', htake, _⟩ := c06_take_all e (8 * size) bbF.buffer (fs.map (·.2)) hsum t
  rw [hslots] at htake
  have hle : 2^(fs.map (·.2)).sum ≤ 2^(8 * size) := Nat.pow_le_pow_right (by omega) hsum
  cases e with
  | little =>
    simp only at hbuf
    refine ⟨bbF, hall, ?_, ?_, hrem, ⟨bb', htake⟩, ?_⟩
    · rw [hbuf]; exact Int.natCast_nonneg _
    · rw [hbuf]; exact_mod_cast Nat.lt_of_lt_of_le hnF hle
    · show bbF.buffer < _
      rw [hbuf]; exact_mod_cast hnF
  | big =>
    simp only at hbuf
    refine ⟨bbF, hall, ?_, ?_, hrem, ⟨bb', htake⟩, ?_⟩
    · rw [hbuf]; exact Int.natCast_nonneg _
    · rw [hbuf]
      have h1 : nF * 2^(8 * size - (fs.map (·.2)).sum) < 2^(8 * size) := by
        have h2 := (Nat.mul_lt_mul_right (Nat.two_pow_pos (8 * size - (fs.map (·.2)).sum))).2 hnF
        rw [← Nat.pow_add] at h2
        have h3 : (fs.map (·.2)).sum + (8 * size - (fs.map (·.2)).sum) = 8 * size := by omega
        rwa [h3] at h2
      exact_mod_cast h1
    · show bbF.buffer % _ = 0
      rw [hbuf]
      exact_mod_cast Nat.mul_mod_left _ _

/-- **Definition time.** A bit-field that does not fit into what is left of the current unit (same storage type, unit
    not exhausted, no offset jump) is rejected with the straddle error; it is never split across units. -/
theorem c06_layout_straddle (cfg : Cfg) (name : String) (an : Bool) (ty : Ty) (b : Nat) (rest : Fields)
    (st : LState) (ft : Scalar) (fsz o bfo : Nat)
    (hbase : ty.bitBase = some ft) (hsz : ft.size = some fsz) (hty : st.bitsType = some ft)
    (hrem : 0 < st.bitsRemaining ∧ st.bitsRemaining < ((b + 1 : Nat) : Int))
    (hoff : st.offset = some o) (hbfo : st.bitsFieldOffset = some bfo) (hnojump : ¬ (o > bfo + fsz)) :
    Fields.layout cfg false (.cons name an ty (some (b + 1)) rest) st = .error .value := by
  have h0 : ¬ (st.bitsRemaining = 0 ∨ some ft ≠ st.bitsType) := fun h => h.elim (by omega) fun h => h hty.symm
  have ht : Layout.third st ft (Layout.offOf false (ty.alignment cfg) st.offset) = .ok false := by
    unfold Layout.third
    rw [if_neg h0]
    simp only [hty, Layout.offOf_false, hoff, hbfo, hsz, hnojump, decide_false]
  rw [Layout.layout_cons_eq, Layout.stepL_cont hbase hsz ht, if_pos (by omega)]
  rfl

/-- **Definition time.** A bit-field of the same storage type that fits continues the current unit: it gets no offset of
    its own, the structure does not grow, and the unit's free bits shrink by its width; a bit-field when the unit is
    exhausted or of another storage type starts a new unit at the current (aligned) offset and grows the structure by
    the unit size. -/
theorem c06_layout_unit (cfg : Cfg) (name : String) (an : Bool) (ty : Ty) (b : Nat) (rest : Fields)
    (st : LState) (ft : Scalar) (fsz o : Nat)
    (hbase : ty.bitBase = some ft) (hsz : ft.size = some fsz) (hoff : st.offset = some o)
    (hfit : (b + 1 : Nat) ≤ 8 * fsz) (hnew : st.bitsRemaining = 0 ∨ st.bitsType ≠ some ft) :
    let st' : LState := ⟨some (o + fsz), max st.alignment (ty.alignment cfg), some ft, some o,
      ((8 * fsz : Nat) : Int) - ((b + 1 : Nat) : Int)⟩
    Fields.layout cfg false (.cons name an ty (some (b + 1)) rest) st =
      (Fields.layout cfg false rest st').map fun (sz, a, offs) => (sz, a, some o :: offs) := by
  intro st'
  have h0 : (st.bitsRemaining = 0 ∨ some ft ≠ st.bitsType) := by
    rcases hnew with h | h
    · exact Or.inl h
    · exact Or.inr (fun h' => h h'.symm)
  have hnn : ¬ (((8 * fsz : Nat) : Int) - ((b + 1 : Nat) : Int) < 0) := by omega
  have hc : ((fsz * 8 : Nat) : Int) - ((b + 1 : Nat) : Int) = ((8 * fsz : Nat) : Int) - ((b + 1 : Nat) : Int) := by
    omega
  rw [Layout.layout_cons_eq, Layout.stepL_new hbase hsz (if_pos h0), hc, if_neg hnn, Layout.andRest_step,
    Layout.offOf_false, hoff, Option.map]
  show _ = Except.map _ (Fields.layout cfg false rest st')
  cases Fields.layout cfg false rest st' <;> rfl

example : (BitBuf.take .little { ty := none, buffer := 0xAB, remaining := 8 } 4) = some (0xB, { ty := none, buffer := 0xA, remaining := 4 }) := by decide +kernel
example : (BitBuf.take .big { ty := none, buffer := 0xAB, remaining := 8 } 4).map (·.1) = some 0xA := by decide +kernel
example : ReadInv .big 8 0xAB 0 { ty := none, buffer := 0xAB, remaining := 8 } := by simp [ReadInv]

end Cstruct.C06
