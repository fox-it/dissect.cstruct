/-
  C18 — the update protocol (`add_field` / `start_update()` / `commit()`) as a state machine: every history ends consistent.

  Model: `CstructModel/Update.lean` (nested blocks as the real code treats them: the inner exit clears the flag).
  The theorems are about histories in which no `commit()` itself raised (`broken = false`): a commit that raises (straddled
  bit-field, duplicate field name) leaves the appended field in `__fields__`, and when it happens in the `finally:` of
  `start_update` the flag stays set - `c18_update_failed_commit` states exactly what such a call leaves behind.
  By correspondence only (harness/v4_c18upd.py): that the real classes follow the model operation by operation, and that what
  commit regenerates (`__init__`, `__eq__`, `__hash__`, the compiled reader) belongs to the committed list.
-/
import Proofs.Spec.C18Update
import Proofs.Lemmas.C18Update

namespace Cstruct.C18Update
open Cstruct Cstruct.Commit Cstruct.Update

/-- The invariant is inductive: it survives every operation after which no commit has raised. -/
theorem c18_update_inv (cfg : Cfg) (al : Bool) (s : UState) (ops : List Op) (h : Inv cfg al s)
    (hb : (run cfg al s ops).broken = false) : Inv cfg al (run cfg al s ops) :=
  Lemmas.run_inv ops h hb

/-- **Every history ends consistent.** From a state satisfying the invariant (in particular from the empty structure), after any
    list of operations - any nesting of blocks, blocks left through exceptions, add_field calls that raise - in which no commit
    raised: if the flag is down, the committed view is the view of the current `__fields__`. The flag is down after every
    `exitOk` / `exitExc`, and then stays down across `commit` and `addField` (which commits at once) until the next `enter`. -/
theorem c18_update_consistent (cfg : Cfg) (al : Bool) (s : UState) (ops : List Op) (h : Inv cfg al s)
    (hb : (run cfg al s ops).broken = false) : Consistent cfg al (run cfg al s ops) :=
  Lemmas.inv_consistent (Lemmas.run_inv ops h hb)

theorem c18_update_consistent_init (cfg : Cfg) (al : Bool) (ops : List Op)
    (hb : (run cfg al UState.init ops).broken = false) : Consistent cfg al (run cfg al UState.init ops) :=
  c18_update_consistent cfg al UState.init ops (Lemmas.inv_init cfg al) hb

/-- **The operations that commit establish the view, whatever the state before** (so also inside an open block, for an explicit
    `commit()`): after `exitOk` / `exitExc` / `commit` / an `addField` executed with the flag down, if the commit returned,
    the committed list is `__fields__`, the layout is `commit()` over that list from the offsets the fields carried, and the
    fields now carry the offsets of that layout; an exit has cleared the flag. -/
theorem c18_update_commit_point (cfg : Cfg) (al : Bool) (s : UState) (op : Op) (hc : commits s op = true)
    (he : (step cfg al s op).commitErr = none) :
    view cfg al (atCommit s op).1 (atCommit s op).2 = .ok (step cfg al s op).layout ∧
      (step cfg al s op).cfields = (atCommit s op).1 ∧ (step cfg al s op).fields = (atCommit s op).1 ∧
      (step cfg al s op).persisted = (step cfg al s op).layout.2.2 ∧
      ((op = .exitOk ∨ op = .exitExc) → (step cfg al s op).updating = false) := by
  rw [← Lemmas.pre_atCommit s op]
  rcases Lemmas.step_cases cfg al s op with ⟨hc', _⟩ | ⟨_, sz, a, offs, hv, e⟩ | ⟨_, _, _, _, e⟩
  · rw [hc] at hc'; cases hc'
  · rw [e]
    exact ⟨hv, rfl, rfl, rfl, fun h => by rcases h with rfl | rfl <;> rfl⟩
  · rw [e] at he; cases he

/-- **What a raising commit leaves behind:** the committed view is untouched, the field stays appended, and the flag keeps the
    value it had - also when the commit was the one in the `finally:` of `start_update` (the block is over, `__updating__`
    stays `True`, and later `add_field` calls no longer commit). -/
theorem c18_update_failed_commit (cfg : Cfg) (al : Bool) (s : UState) (op : Op) (e : Err)
    (he : (step cfg al s op).commitErr = some e) :
    commits s op = true ∧ view cfg al (atCommit s op).1 (atCommit s op).2 = .error e ∧
      (step cfg al s op).cfields = s.cfields ∧ (step cfg al s op).layout = s.layout ∧
      (step cfg al s op).fields = (atCommit s op).1 ∧ (step cfg al s op).updating = s.updating ∧
      (step cfg al s op).broken = true := by
  rw [← Lemmas.pre_atCommit s op]
  rcases Lemmas.step_cases cfg al s op with ⟨hc, e'⟩ | ⟨_, _, _, _, _, e'⟩ | ⟨hc, _, _, hv, e'⟩ <;> rw [e'] at he
  · rw [Lemmas.pre_commitErr hc] at he; cases he
  · cases he
  · cases he
    rw [e']
    exact ⟨hc, hv, Lemmas.pre_cfields s op, Lemmas.pre_layout s op, rfl, Lemmas.pre_updating hc, rfl⟩

/-- **Nothing is ever un-added, nothing is committed that is not in the list:** in every reachable state - inside blocks, after
    faults, after commits that raised - the committed field list is a prefix of `__fields__`, and `__fields__` extends what it
    was before. -/
theorem c18_update_prefix (cfg : Cfg) (al : Bool) (s : UState) (ops : List Op) (h : IsPrefix s.cfields s.fields) :
    IsPrefix (run cfg al s ops).cfields (run cfg al s ops).fields ∧ IsPrefix s.fields (run cfg al s ops).fields :=
  ⟨Lemmas.run_prefix ops h, Lemmas.run_fields cfg al ops s⟩

theorem c18_update_prefix_init (cfg : Cfg) (al : Bool) (ops : List Op) :
    IsPrefix (run cfg al UState.init ops).cfields (run cfg al UState.init ops).fields :=
  (c18_update_prefix cfg al UState.init ops ⟨.nil, rfl⟩).1

/-- **Faults and batch boundaries are unobservable (packed mode, any fields):** after any history in which no commit raised, the
    committed view is the one-shot layout of the committed list; when the history ends with the flag down, that list is the
    final `__fields__`, whose Field objects carry the one-shot offsets. -/
theorem c18_update_oneshot_packed (cfg : Cfg) (ops : List Op) (hb : (run cfg false UState.init ops).broken = false) :
    Fields.layout cfg false (run cfg false UState.init ops).cfields LState.init = .ok (run cfg false UState.init ops).layout ∧
    ((run cfg false UState.init ops).updating = false →
      (run cfg false UState.init ops).cfields = (run cfg false UState.init ops).fields ∧
      Fields.layout cfg false (run cfg false UState.init ops).fields LState.init = .ok (run cfg false UState.init ops).layout ∧
      (run cfg false UState.init ops).persisted = (run cfg false UState.init ops).layout.2.2) := by
  exact Lemmas.one_result (Lemmas.run_one ops (Lemmas.one_init cfg false) (Cstruct.C18.Lemmas.restep_packed cfg _) hb)

/-- The same in aligned mode for members of fixed size without bit-fields and power-of-two alignments (the side conditions of
    `c18_confluence_aligned`, on the final `__fields__`). -/
theorem c18_update_oneshot_aligned (cfg : Cfg) (ops : List Op) (ms : List (Nat × Nat))
    (hm : Cstruct.C04.members cfg (run cfg true UState.init ops).fields = some ms) (hp : ∀ m ∈ ms, Cstruct.C04.isPow2 m.2)
    (hb : (run cfg true UState.init ops).broken = false) :
    Fields.layout cfg true (run cfg true UState.init ops).cfields LState.init = .ok (run cfg true UState.init ops).layout ∧
    ((run cfg true UState.init ops).updating = false →
      (run cfg true UState.init ops).cfields = (run cfg true UState.init ops).fields ∧
      Fields.layout cfg true (run cfg true UState.init ops).fields LState.init = .ok (run cfg true UState.init ops).layout ∧
      (run cfg true UState.init ops).persisted = (run cfg true UState.init ops).layout.2.2) := by
  exact Lemmas.one_result
    (Lemmas.run_one ops (Lemmas.one_init cfg true) (Cstruct.C18.Lemmas.restep_aligned cfg _ ms hm hp) hb)

/-- The offsets the model writes for a raising commit (`writesP`) are, where the layout returns, the offsets of the layout: the
    two walks over the field list are the same walk. -/
theorem c18_update_writes_agree (cfg : Cfg) (al : Bool) (fs : Fields) (pre : List (Option Nat)) (sz : Option Nat) (a : Nat)
    (offs : List (Option Nat)) (h : commit cfg al fs pre = .ok (sz, a, offs)) :
    writesP cfg al fs pre LState.init = offs :=
  Lemmas.writesP_ok cfg al fs pre LState.init sz a offs h

/-! ### The hypothesis matters: with `commit()` outside the `finally:` a block left through an exception breaks consistency -/

def cfg0 : Cfg := { endian := .little, ptr := .pint 8 false, ptrAlign := 8, consts := [] }
def u8 : Ty := .sc (.pint 1 false) 1
def u16 : Ty := .sc (.pint 2 false) 2
def u32 : Ty := .sc (.pint 4 false) 4

/-- `with T.start_update(): T.add_field("a", uint8); raise ...` -/
def faulted : List Op := [.enter, .addField "a" u8 none, .exitExc]

theorem consistent_names {cfg : Cfg} {al : Bool} {s : UState} (h : Consistent cfg al s) : ConsistentNames s :=
  fun hu => by rw [(h hu).1]

/-- the regressed protocol ends this history with the flag down and a class that does not know field `a` … -/
theorem c18_update_regression_violates : ¬ Consistent cfg0 true (runNoCommitOnExc cfg0 true UState.init faulted) :=
  fun h => absurd (consistent_names h) (by decide)

/-- … no commit raised in it, so `c18_update_consistent_init` would apply … -/
example : (runNoCommitOnExc cfg0 true UState.init faulted).broken = false := by decide
/-- … and the real protocol ends the same history consistent, with `a` committed. -/
example : Consistent cfg0 true (run cfg0 true UState.init faulted) :=
  c18_update_consistent_init cfg0 true faulted (by decide +kernel)
example : names (run cfg0 true UState.init faulted).cfields = ["a"] ∧ (run cfg0 true UState.init faulted).layout = (some 1, 1, [some 0]) := by
  decide +kernel
example : names (runNoCommitOnExc cfg0 true UState.init faulted).cfields = [] ∧
    names (runNoCommitOnExc cfg0 true UState.init faulted).fields = ["a"] ∧
    (runNoCommitOnExc cfg0 true UState.init faulted).updating = false := by decide +kernel

/-! ### Non-vacuity: concrete histories with faults and nesting -/

/-- a batch left through an exception after one field and one failed add_field; a field outside; nested blocks, the inner one
    closing first, a field added in the still open outer block, which is then left through an exception -/
def hist1 : List Op :=
  [.enter, .addField "a" u8 none, .addFieldFails, .exitExc, .addField "b" u32 none,
   .enter, .enter, .addField "c" u16 none, .exitOk, .addField "d" u8 none, .exitExc, .commit]

example : (run cfg0 true UState.init hist1).broken = false ∧ (run cfg0 true UState.init hist1).updating = false := by decide +kernel
example : names (run cfg0 true UState.init hist1).cfields = ["a", "b", "c", "d"] ∧
    (run cfg0 true UState.init hist1).layout = (some 12, 4, [some 0, some 4, some 8, some 10]) := by decide +kernel
example : Fields.layout cfg0 true (run cfg0 true UState.init hist1).fields LState.init = .ok (run cfg0 true UState.init hist1).layout := by
  decide +kernel
example : C04.members cfg0 (run cfg0 true UState.init hist1).fields = some [(1, 1), (4, 4), (2, 2), (1, 1)] := by decide +kernel

/-- the states after each operation: committed names, size, flag -/
example : (trace cfg0 true UState.init hist1).map (fun s => (names s.cfields, s.layout.1, s.updating)) =
    [([], some 0, true), ([], some 0, true), ([], some 0, true), (["a"], some 1, false), (["a", "b"], some 8, false),
     (["a", "b"], some 8, true), (["a", "b"], some 8, true), (["a", "b"], some 8, true),
     (["a", "b", "c"], some 12, false),            -- the inner exit commits and clears the flag
     (["a", "b", "c", "d"], some 12, false),       -- so this add_field, inside the outer block, commits at once
     (["a", "b", "c", "d"], some 12, false), (["a", "b", "c", "d"], some 12, false)] := by decide +kernel

/-- a commit that raises in the `finally:` (straddled bit-fields): the flag stays up, the class is the one from before the
    block, the first bit-field got its offset written, and the next add_field does not commit -/
def hist2 : List Op :=
  [.addField "a" u8 none, .enter, .addField "x" u8 (some 5), .addField "y" u8 (some 5), .exitOk, .addField "z" u8 none]

example : (trace cfg0 false UState.init hist2).map (fun s => (names s.cfields, s.layout.1, s.updating)) =
    [(["a"], some 1, false), (["a"], some 1, true), (["a"], some 1, true), (["a"], some 1, true), (["a"], some 1, true),
     (["a"], some 1, true)] := by decide +kernel
example : (trace cfg0 false UState.init hist2).map (fun s => (s.commitErr, s.persisted)) =
    [(none, [some 0]), (none, [some 0]), (none, [some 0, none]), (none, [some 0, none, none]),
     (some .value, [some 0, some 1, none]), (none, [some 0, some 1, none, none])] := by decide +kernel
example : (run cfg0 false UState.init hist2).broken = true ∧ names (run cfg0 false UState.init hist2).fields = ["a", "x", "y", "z"] := by
  decide +kernel

/-- a duplicate field name: `add_field` raises out of commit after the append -/
example : (trace cfg0 false UState.init [.addField "a" u8 none, .addField "a" u16 none]).map
      (fun s => (names s.cfields, names s.fields, s.layout)) =
    [(["a"], ["a"], (some 1, 1, [some 0])), (["a"], ["a", "a"], (some 1, 1, [some 0]))] := by decide +kernel
example : (trace cfg0 false UState.init [.addField "a" u8 none, .addField "a" u16 none]).map
      (fun s => (s.updating, s.commitErr, s.persisted)) =
    [(false, none, [some 0]), (false, some .value, [some 0, none])] := by decide +kernel

end Cstruct.C18Update
