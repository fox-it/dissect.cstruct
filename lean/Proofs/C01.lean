/-
  C01 — value round-trip; writes never silently alter a number.

  This file: the statements for fragment S (`Ty.fragS`, `Proofs/Spec/Core.lean`) in the vocabulary of the property
  (`dumps`, `parse`), as corollaries of `Proofs/Core.lean`: fixed-width integers of every width, floats (as bit patterns),
  char, void, enums/flags and pointers over integer types, fixed-length arrays (any dimension) and nested structures of
  such, packed or aligned; their names end in `_partial` because the fragment is not the whole language.
  The same property for the larger fragments is in two other files: `Proofs/CoreBits.lean` (fragment SB: S plus
  bit-fields) and `Proofs/CoreDyn.lean` (fragment D: SB plus LEB128 and wchar scalars, expression-sized and
  null-terminated arrays). Outside every fragment: EOF arrays and unions (known findings F9, F10).
  Model: `CstructModel/Read.lean`, `CstructModel/Write.lean`, `CstructModel/Ty.lean`.
-/
import Proofs.Core

namespace Cstruct.C01
open Cstruct Cstruct.Core

mutual
theorem alignsDivide_zero (cfg : Cfg) : ∀ (ty : Ty), ty.alignsDivide cfg 0 = true
  | .sc _ _ => by simp [Ty.alignsDivide]
  | .enum _ _ _ => by simp [Ty.alignsDivide]
  | .ptr _ => by simp [Ty.alignsDivide]
  | .arr e _ => by simp only [Ty.alignsDivide]; exact alignsDivide_zero cfg e
  | .struct _ fs => by simp only [Ty.alignsDivide]; exact alignsDivides_zero cfg fs
  | .union _ fs => by simp only [Ty.alignsDivide]; exact alignsDivides_zero cfg fs
theorem alignsDivides_zero (cfg : Cfg) : ∀ (fs : Fields), Fields.alignsDivide cfg 0 fs = true
  | .nil => by simp [Fields.alignsDivide]
  | .cons _ _ t _ r => by simp only [Fields.alignsDivide, alignsDivide_zero cfg t, alignsDivides_zero cfg r, Bool.and_self]
end

/-- **C01 (fragment S).** For every type of the fragment and every value `v` of it, parsing `dumps(v)` — followed by any
    other bytes, under any context — returns `v` and consumes exactly `len(dumps(v))` bytes. -/
theorem c01_roundtrip_partial (cfg : Cfg) (al : Bool) (ty : Ty) (hS : ty.fragS cfg = true) (hu : ty.uniformAlign al = true)
    (hp : ty.pow2Aligned cfg) (v : Val) (hv : HasTy cfg v ty) (bs : Bytes) (hw : dumps cfg ty v = .ok bs) (post : Bytes) (ctx : Ctx) :
    read cfg ty ctx (bs ++ post) 0 = .ok (v, bs.length) := by
  have h := roundtrip_S cfg al ty hS hu hp v hv 0 (alignsDivide_zero cfg ty) bs hw [] post rfl ctx
  simpa using h

/-- **A value that fits is never refused**: `dumps` is total on the values of the type and yields `len(T)` bytes. -/
theorem c01_write_total_partial (cfg : Cfg) (al : Bool) (ty : Ty) (hS : ty.fragS cfg = true) (hu : ty.uniformAlign al = true)
    (hp : ty.pow2Aligned cfg) (v : Val) (hv : HasTy cfg v ty) :
    ∃ bs, dumps cfg ty v = .ok bs ∧ ty.size cfg = some bs.length :=
  write_total_S cfg al ty hS hu hp v hv 0 (alignsDivide_zero cfg ty)

/-- **Values obtained by parsing round-trip too**: whatever a long-enough input parses to is a value of the type, can be
    dumped, and the dump parses back to it. -/
theorem c01_parse_then_roundtrip_partial (cfg : Cfg) (al : Bool) (ty : Ty) (hS : ty.fragS cfg = true) (hu : ty.uniformAlign al = true)
    (hp : ty.pow2Aligned cfg) (ctx : Ctx) (data : Bytes) (n : Nat) (hsz : ty.size cfg = some n) (hlen : n ≤ data.length) :
    ∃ v bs, read cfg ty ctx data 0 = .ok (v, n) ∧ dumps cfg ty v = .ok bs ∧ bs.length = n ∧
      ∀ post ctx', read cfg ty ctx' (bs ++ post) 0 = .ok (v, n) := by
  obtain ⟨v, hr, hv⟩ := read_size_S cfg al ty hS hu hp ctx data 0 n hsz (by omega) (alignsDivide_zero cfg ty)
  obtain ⟨bs, hw, hlen'⟩ := c01_write_total_partial cfg al ty hS hu hp v hv
  have hn : bs.length = n := by rw [hsz] at hlen'; exact (Option.some.inj hlen').symm
  refine ⟨v, bs, by simpa using hr, hw, hn, ?_⟩
  intro post ctx'
  have := c01_roundtrip_partial cfg al ty hS hu hp v hv bs hw post ctx'
  rw [hn] at this
  exact this

/-- **Writing never silently alters a number**: an integer that does not fit a fixed-width integer, enum or pointer field
    is rejected (struct.error / OverflowError), never truncated or wrapped. Every width, signedness and byte order. -/
theorem c01_reject (cfg : Cfg) (s : Scalar) (a : Nat) (f : Bool) (t : Ty) (v : Int) (pos : Nat) :
    (Scalar.isInt s = true → intFits s v = false →
      write cfg (.sc s a) (.int v) pos = .error .overflow ∧ write cfg (.enum s a f) (.enum v) pos = .error .overflow) ∧
    (Scalar.isInt cfg.ptr = true → intFits cfg.ptr v = false → write cfg (.ptr t) (.ptr v) pos = .error .overflow) :=
  write_reject cfg s a f t v pos

/-! ### Non-vacuity: a concrete aligned nested structure with a char array and a pointer meets every hypothesis -/
example : ty0.fragS cfg0 = true ∧ ty0.uniformAlign true = true := by decide +kernel
example : HasTy cfg0 v0 ty0 ∧ ty0.size cfg0 = some 12 := ⟨by
  refine .struct (.cons (.int rfl (by decide)) (.cons (.struct (.cons (.int rfl (by decide)) (.cons (.chars rfl) .nil))) (.cons (.ptr (by decide)) .nil))),
  by decide +kernel⟩

end Cstruct.C01
