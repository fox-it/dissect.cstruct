/-
  C05 — scalar codecs implement the standard encodings under the current endianness.

  Model: `CstructModel/Codec.lean` (what int.from_bytes/to_bytes and struct's integer formats compute),
  `CstructModel/Leb.lean` (the loops of types/leb128.py as written), `CstructModel/Resolve.lean`
  (cstruct.resolve) over the tables `Gen.typeTable`, `Gen.endiannessMap`, `Gen.wcharEncodingMap`, which are
  regenerated from /repo's cstruct.py, utils.py and wchar.py on every run.
-/
import CstructModel.Gen.Endian
import CstructModel.Expr
import Proofs.Lemmas.C05
import Proofs.Lemmas.C05Wchar

namespace Cstruct.C05
open Cstruct Cstruct.C05.Lemmas

/-- the two's-complement reading of a little-endian byte string: the unsigned value, minus 2^(8n) when the top bit of the
    most significant (last) byte is set -/
def twosComplementLE (bs : Bytes) : Int :=
  match bs.getLast? with
  | some msb => if msb.toNat ≥ 128 then (fromLE bs : Int) - (2 ^ (8 * bs.length) : Nat) else (fromLE bs : Int)
  | none => 0

/-- Decoding is positional base-256 (unsigned) and two's complement (signed); big endian is little endian on the
    reversed bytes. All widths, not only those in the type table. -/
theorem c05_int_decode (bs : Bytes) :
    decodeInt .little false bs = (fromLE bs : Int) ∧
    decodeInt .little true bs = twosComplementLE bs ∧
    (∀ s, decodeInt .big s bs = decodeInt .little s bs.reverse) ∧
    (∀ b r, fromLE (b :: r) = b.toNat + 256 * fromLE r) := by
  refine ⟨by simp [decodeInt, decodeNat], ?_, fun s => ?_, fun _ _ => rfl⟩
  · rcases List.eq_nil_or_concat bs with rfl | ⟨L, m, rfl⟩
    · rfl
    · simp only [decodeInt, decodeNat, twosComplementLE, List.concat_eq_append, List.getLast?_append,
        List.getLast?_singleton, Option.some_or, true_and, Lemmas.msb_iff]
  · unfold decodeInt decodeNat
    simp only [List.length_reverse]

/-- Encoding then decoding returns the value, for every width, signedness and byte order, and the encoding has exactly
    the width of the type. -/
theorem c05_int_roundtrip (e : Endian) (n : Nat) (s : Bool) (v : Int) (h : fits n s v = true) :
    ∃ bs, encodeInt e n s v = some bs ∧ bs.length = n ∧ decodeInt e s bs = v := by
  obtain ⟨hu, hv⟩ := Lemmas.tcVal_residue _ s v ((Lemmas.fits_iff n s v).1 h)
  refine ⟨_, Lemmas.encodeInt_eq e n s v h, Lemmas.encBytes_length _ _ _, ?_⟩
  rw [Lemmas.decodeInt_eq, Lemmas.encBytes_length, Lemmas.decodeNat_encBytes e n _ hu, hv]

/-- Decoding then encoding returns the bytes: the codec is a bijection between `n`-byte strings and the values that fit. -/
theorem c05_int_roundtrip_bytes (e : Endian) (s : Bool) (bs : Bytes) :
    fits bs.length s (decodeInt e s bs) = true ∧ encodeInt e bs.length s (decodeInt e s bs) = some bs := by
  obtain ⟨hr, hu⟩ := Lemmas.residue_tcVal _ _ s (Lemmas.decodeNat_lt e bs)
  have hfit := (Lemmas.fits_iff _ s _).2 hr
  rw [Lemmas.decodeInt_eq]
  exact ⟨hfit, by rw [Lemmas.encodeInt_eq _ _ _ _ hfit, hu, Lemmas.encBytes_decodeNat]⟩

/-- A value that does not fit is rejected, never truncated or wrapped. -/
theorem c05_int_reject (e : Endian) (n : Nat) (s : Bool) (v : Int) (h : fits n s v = false) :
    encodeInt e n s v = none := by
  unfold encodeInt
  rw [h]
  rfl

/-- `fits` is the usual range: [0, 2^(8n)) unsigned, [-2^(8n-1), 2^(8n-1)) signed. -/
theorem c05_fits_range (n : Nat) (v : Int) :
    (fits n false v = true ↔ 0 ≤ v ∧ v < 2 ^ (8 * n)) ∧
    (fits (n + 1) true v = true ↔ -(2 ^ (8 * n + 7) : Int) ≤ v ∧ v < 2 ^ (8 * n + 7)) := by
  unfold fits
  simp only [Bool.false_eq_true, if_false, if_true, decide_eq_true_eq, Int.natCast_pow, show ((2 : Nat) : Int) = 2 from rfl]
  have : (2 : Int) ^ (8 * (n + 1)) = 2 * 2 ^ (8 * n + 7) := by
    rw [show 8 * (n + 1) = (8 * n + 7) + 1 by omega, Int.pow_succ]; omega
  rw [this]
  generalize (2 : Int) ^ (8 * n + 7) = P
  refine ⟨trivial, ?_⟩
  constructor <;> intro h <;> omega

/-- LEB128, signed: reading what the writer emitted returns the value and consumes exactly the emitted bytes, whatever
    follows — for every integer. -/
theorem c05_leb_roundtrip_signed (v : Int) (rest : Bytes) :
    lebRead true (lebWriteLoop true v ++ rest) = .ok (v, rest) := by
  exact Lemmas.leb_roundtrip_read true v rest (fun h => nomatch h)

/-- LEB128, unsigned: the same for every non-negative integer; negative values are refused. -/
theorem c05_leb_roundtrip_unsigned (v : Int) (rest : Bytes) :
    (0 ≤ v → lebRead false (lebWriteLoop false v ++ rest) = .ok (v, rest)) ∧
    (v < 0 → lebWrite false v = .error .value) := by
  exact ⟨fun h => Lemmas.leb_roundtrip_read false v rest (fun _ => h), fun h => if_pos ⟨h, by decide⟩⟩

/-- LEB128 structure of the emitted bytes: every byte but the last has the continuation bit, the last does not; the reader
    stops exactly there. In particular the encoding is never empty. -/
theorem c05_leb_shape (s : Bool) (v : Int) (hv : s = false → 0 ≤ v) :
    ∃ init last, lebWriteLoop s v = init ++ [last] ∧ last.toNat < 128 ∧ ∀ b ∈ init, b.toNat ≥ 128 := by
  have _ := hv  -- not needed: the shape holds for every input of the loop
  exact Lemmas.leb_shape s v

/-- LEB128 canonicity: the writer's output is the shortest byte string that the reader decodes to the value
    (any other encoding of the same value is at least as long). -/
theorem c05_leb_minimal (s : Bool) (v : Int) (hv : s = false → 0 ≤ v) (bs : Bytes)
    (h : lebRead s bs = .ok (v, [])) : (lebWriteLoop s v).length ≤ bs.length := by
  have _ := hv  -- implied by `h`
  exact Lemmas.leb_minimal s v bs h

/-- A truncated LEB128 (every byte has the continuation bit) is an end-of-file error, never a value. -/
theorem c05_leb_truncated (s : Bool) (bs : Bytes) (h : ∀ b ∈ bs, b.toNat ≥ 128) : lebRead s bs = .error .eof := by
  unfold lebRead
  rw [readLoop_truncated bs h]

/-- the other byte order of a UTF-16 byte string: the two bytes of every 16-bit unit swapped -/
abbrev swapPairs : Bytes → Bytes := Lemmas.swapPairs

/-- wchar: encoding a well-formed string of UTF-16 code units and decoding the result returns the string, in either byte
    order, and the encoding has exactly two bytes per unit. -/
theorem c05_wchar_roundtrip (e : Endian) (us : List Nat) (hu : ∀ u ∈ us, u < 65536) (hw : utf16Ok us = true) :
    ∃ bs, encodeWchar e us = .ok bs ∧ bs.length = 2 * us.length ∧ decodeWchar e bs = .ok (.wstr us) := by
  exact Lemmas.wchar_roundtrip e us hu hw

/-- wchar: decoding then encoding returns the bytes ("the exact inverse"); what the decoder returns are 16-bit units,
    two bytes each. -/
theorem c05_wchar_roundtrip_bytes (e : Endian) (bs : Bytes) (us : List Nat) (h : decodeWchar e bs = .ok (.wstr us)) :
    encodeWchar e us = .ok bs ∧ bs.length = 2 * us.length ∧ ∀ u ∈ us, u < 65536 := by
  obtain ⟨hlen, rfl, hok⟩ := decodeWchar_ok_inv e bs us h
  have henc := encUnits_unitsOf e bs hlen
  refine ⟨?_, ?_, unitsOf_lt e bs⟩
  · rw [encodeWchar_ok e _ hok, henc]
  · have := encUnits_length e (unitsOf e bs)
    rw [henc] at this
    exact this

/-- A lone surrogate is an encoding error, never a repaired or truncated string. -/
theorem c05_wchar_reject (e : Endian) (us : List Nat) (hw : utf16Ok us = false) : encodeWchar e us = .error .unicode := by
  unfold encodeWchar
  rw [hw]
  rfl

/-- An odd number of bytes is a decoding error, never a truncated string. -/
theorem c05_wchar_odd (e : Endian) (bs : Bytes) (h : bs.length % 2 = 1) : decodeWchar e bs = .error .unicode := by
  unfold decodeWchar
  rw [if_pos (by omega)]

/-- "In that byte order": the big-endian encoding is the little-endian one with the two bytes of every unit swapped. -/
theorem c05_wchar_byte_order (us : List Nat) (bsl bsb : Bytes) (hl : encodeWchar .little us = .ok bsl)
    (hb : encodeWchar .big us = .ok bsb) : bsb = swapPairs bsl := by
  rw [encodeWchar_ok_inv _ _ _ hl, encodeWchar_ok_inv _ _ _ hb]
  exact swapPairs_encUnits us

/-- The built-in type table as the code has it now: every type's `size` is the width of its class, every alignment is a
    power of two (void: 0), every alias resolves — in at most two steps, far below the limit of ten — to a type class, and
    the names every C programmer expects denote the standard widths and signedness. -/
theorem c05_type_table :
    (∀ p ∈ Gen.typeTable, match p.2 with
      | .type _ k sz al => sz = k.size ∧ (al = none ∧ sz = none ∨ al = some 0 ∧ k = .void ∨ ∃ a, al = some a ∧ isPow2 a = true)
      | .alias t => (resolveAux Gen.typeTable 2 t).isOk = true) ∧
    (∀ name k, (name, k) ∈ [("int8", Scalar.pint 1 true), ("uint8", .pint 1 false), ("int16", .pint 2 true),
        ("uint16", .pint 2 false), ("int32", .pint 4 true), ("uint32", .pint 4 false), ("int64", .pint 8 true),
        ("uint64", .pint 8 false), ("int24", .aint 3 true), ("uint24", .aint 3 false), ("int48", .aint 6 true),
        ("uint48", .aint 6 false), ("int128", .aint 16 true), ("uint128", .aint 16 false), ("float16", .pflt 2),
        ("float", .pflt 4), ("double", .pflt 8), ("char", .char), ("wchar", .wchar), ("uleb128", .leb false),
        ("ileb128", .leb true), ("void", .void), ("short", .pint 2 true), ("unsigned short", .pint 2 false),
        ("int", .pint 4 true), ("unsigned int", .pint 4 false), ("long long", .pint 8 true),
        ("unsigned long long", .pint 8 false), ("BYTE", .pint 1 false), ("WORD", .pint 2 false),
        ("DWORD", .pint 4 false), ("QWORD", .pint 8 false), ("uint32_t", .pint 4 false), ("int64_t", .pint 8 true),
        ("wchar_t", .wchar), ("signed char", .pint 1 true), ("unsigned char", .char)] →
      ∃ n sz al, resolve Gen.typeTable name = .ok (n, k, sz, al)) := by
  exact ⟨fun p hp => Lemmas.entryOk_spec p.2 (Lemmas.entryOk_all p hp), Lemmas.resolves_of_all _ (by decide +kernel)⟩

/-- The endianness tables: `<` is little endian, `>` and `!` are big endian, for integers and for UTF-16 alike. -/
theorem c05_endian_tables :
    Expr.lookup "<" Gen.endiannessMap = some (some .little) ∧ Expr.lookup ">" Gen.endiannessMap = some (some .big) ∧
    Expr.lookup "!" Gen.endiannessMap = some (some .big) ∧
    (∀ c ∈ ["<", ">", "!"], Expr.lookup c Gen.wcharEncodingMap = Expr.lookup c Gen.endiannessMap) := by
  decide +kernel

example : fits 3 true (-8388608) = true ∧ fits 3 true 8388608 = false := by decide
example : encodeInt .big 2 false 0x1234 = some [0x12, 0x34] := by decide
example : decodeInt .little true [0xff, 0xff, 0x7f] = 8388607 := by decide

example : encodeWchar .little [0x41, 0xD83D, 0xDE00] = .ok [0x41, 0x00, 0x3D, 0xD8, 0x00, 0xDE] ∧
    encodeWchar .big [0x41, 0xD83D, 0xDE00] = .ok [0x00, 0x41, 0xD8, 0x3D, 0xDE, 0x00] ∧
    swapPairs [0x41, 0x00, 0x3D, 0xD8, 0x00, 0xDE] = [0x00, 0x41, 0xD8, 0x3D, 0xDE, 0x00] ∧
    utf16Ok [0x41, 0xD83D, 0xDE00] = true ∧ (∀ u ∈ [0x41, 0xD83D, 0xDE00], u < 65536) := by decide +kernel
example : decodeWchar .little [0x41, 0x00, 0x3D, 0xD8, 0x00, 0xDE] = .ok (.wstr [0x41, 0xD83D, 0xDE00]) ∧
    decodeWchar .big [0x00, 0x41, 0xD8, 0x3D, 0xDE, 0x00] = .ok (.wstr [0x41, 0xD83D, 0xDE00]) := by
  exact ⟨rfl, rfl⟩  -- `Val` has no `DecidableEq`; both sides evaluate to the same term
example : utf16Ok [0x41, 0xD83D] = false ∧ utf16Ok [0xDE00, 0xD83D] = false ∧
    encodeWchar .big [0xDE00, 0xD83D] = .error .unicode := by decide +kernel
example : decodeWchar .little [0x3D, 0xD8] = .error .unicode ∧ decodeWchar .little [0x41, 0x00, 0x3D] = .error .unicode := by
  exact ⟨rfl, rfl⟩  -- `Val` has no `DecidableEq`; both sides evaluate to the same term

end Cstruct.C05
