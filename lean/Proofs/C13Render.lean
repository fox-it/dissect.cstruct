/-
  C13 — the round trip that makes the parser model complete on well-formed input: every well-formed declaration list `ds` is the
  declaration list of its canonical text, and of every other layout of that text.

  * `c13_parse_render_partial`: `WFDecls ds` → `parseDecls (renderDecls ds) = (ds, none)`.  `wfDecls` (Proofs/Spec/C13Render.lean,
    decidable) covers: `#define`, `#[flags]`, enum / flag with base type and members, typedef of a named / `struct tag` / inline
    struct or union type with ONE declarator, top-level struct / union with or without tag, members of named, `struct tag` and inline
    aggregate types with declarators incl. bit-fields and several dimensions, anonymous nested aggregates, a name list behind `}`.
  * `c13_parse_any_layout`: with `c13_parse_layout_independent`, every text whose comment-stripped form has the lexemes of
    `renderDecls ds` up to `lexSim`, with any admissible separators (and comments anywhere a blank may stand), parses to `ds`.
    The spacing inside a declarator, a name list and a `#define` line is part of the lexeme; inside an enum head it is free.

  NOT covered (the `_partial` in the name): `$lookup` declarations; members and typedefs without a type; typedefs with a name list
  or without a name; declared names behind `}` that are declarators rather than plain names (`} *p, a[2];`); texts containing
  quotes or `/` (the comment scanner would have to be carried through the rendering: hypothesis `plainText (renderDecls ds)`).
-/
import Proofs.C13Parse
import Proofs.Lemmas.C13RenderAdm
import Proofs.Lemmas.C13RenderObs

namespace Cstruct.DefParser.C13
open Cstruct Cstruct.Parser Cstruct.DefParser

theorem strip_renderDecls (ds : List Decl) (hp : plainText (renderDecls ds) = true) :
    Parser.strip (renderDecls ds) = render (lexDecls ds) := by
  have hc : ∀ c ∈ renderDecls ds, c ≠ '"' ∧ c ≠ '\'' ∧ c ≠ '/' := by
    simp only [plainText, List.all_eq_true, Bool.and_eq_true, bne_iff_ne, ne_eq] at hp
    exact fun c hc => ⟨(hp c hc).1.1, (hp c hc).1.2, (hp c hc).2⟩
  exact strip_closed none _ _ (closed_plain none none _ hc)

theorem c13_parse_render_partial (ds : List Decl) (hwf : WFDecls ds = true) : parseDecls (renderDecls ds) = (ds, none) := by
  obtain ⟨h, hp⟩ : wfDecls ds = true ∧ plainText (renderDecls ds) = true := by simpa [WFDecls] using hwf
  have hadm := adm_lexDecls ds h
  have hscan : scan (render (lexDecls ds)) = toks (lexDecls ds) := by
    have := scan_lead [] (lexDecls ds) rfl hadm
    simpa using this
  rw [parseDecls_eq, strip_renderDecls ds hp, hscan]
  have hobs := obsDecls ds h
  simp only [obsOf] at hobs
  simp only [parseToks, hobs]
  exact declsH_oDs ds h _ (by rw [← hobs]; simp)

theorem c13_parse_any_layout (ds : List Decl) (hwf : WFDecls ds = true)
    (t w : List Char) (l : List (Lexeme × List Char)) (ht : Parser.strip t = w ++ render l) (hw : blank w = true)
    (hl : adm false l = true) (hs : simLexemes l (lexDecls ds) = true) : parseDecls t = (ds, none) := by
  obtain ⟨h, hp⟩ : wfDecls ds = true ∧ plainText (renderDecls ds) = true := by simpa [WFDecls] using hwf
  rw [← c13_parse_render_partial ds hwf]
  exact c13_parse_layout_independent t (renderDecls ds) w [] l (lexDecls ds) ht (by simpa using strip_renderDecls ds hp) hw rfl hl
    (adm_lexDecls ds h) hs

namespace ExampleR
def S (s : String) : List Char := s.toList
def d1 (n : String) (p : Nat) (dims : List String) (b : Option Nat) : Declarator := ⟨p, S n, dims.map S, b⟩
def inner : Aggr := .mk true (some (S "U")) [.named (.name (S "uint16")) (d1 "k" 0 ["2", "n + 1"] none),
  .anon (.inline (.mk false none [.named (.name (S "uint8")) (d1 "z" 0 [] (some 12))] []))] []
def sample : List Decl := [
  .const (S "N") (S "(1 + 2)"),
  .config [S "nocompile", S "x"],
  .enum false (S "E") (S "unsigned short") [(S "A", some (S "1")), (S "B", none), (S "C", some (S "A + 2"))],
  .enum true [] (S "uint32") [],
  .typedef (.name (S "unsigned long long")) [d1 "PU" 2 [] none],
  .typedef (.inline inner) [d1 "T" 1 ["4"] none],
  .typedef (.structRef (S "U")) [d1 "V" 0 [""] none],
  .aggr (.mk false (some (S "S")) [.named (.name (S "uint8")) (d1 "a" 0 [] (some 3)), .named (.inline inner) (d1 "in" 0 ["2"] none),
     .named (.structRef (S "U")) (d1 "r" 1 [] none), .named (.name (S "char")) (d1 "s" 0 ["2", ""] none)] [S "s1", S "s2", S "s3"]),
  .aggr (.mk true none [] [S "only"]),
  .aggr (.mk false (some (S "Z")) [] [])]

example : WFDecls sample = true := by decide +kernel
example : String.ofList (renderDecls sample) =
  "#define N (1 + 2)\n#[nocompile,x]\nenum E : unsigned short { A = 1, B, C = A + 2 };\nflag : uint32 { };\ntypedef unsigned long long **PU;\ntypedef union U { uint16 k[2][n + 1]; struct { uint8 z:12; } ; } *T[4];\ntypedef struct U V[];\nstruct S { uint8 a:3; union U { uint16 k[2][n + 1]; struct { uint8 z:12; } ; } in[2]; struct U *r; char s[2][]; } s1, s2, s3;\nunion { } only;\nstruct Z { } ;\n" := by
  apply String.ext
  rw [String.toList_ofList, String.toList_ofList]
  decide +kernel
example : parseDecls (renderDecls sample) = (sample, none) :=
  c13_parse_render_partial sample (by decide +kernel)
-- another layout of a part of it, with comments as separators: by `c13_parse_any_layout`
def two : List Decl := [.const (S "N") (S "4"), .aggr (.mk false (some (S "S")) [.named (.name (S "unsigned int")) (d1 "a" 1 ["N"] none)] [S "s1", S "s2"])]
def twoL : List (Lexeme × List Char) := [(.define (S " ") (S "N") (S " ") (S "4"), S "\n\n"), (.struct false, S " "), (.ident (S "S"), S " "), (.lbrace, []),
  (.ident (S "unsigned"), S " "), (.ident (S "int"), S " "), (.name ['*'] (S "a") none (some (S "N")), S " "), (.semi, []), (.rbrace, []),
  (.defs (S " ") (S "s1") [([], S " ", S "s2")], S "\n"), (.semi, [])]
example : parseDecls (S "#define N 4\n\nstruct/* the */S {unsigned/**/int *a[N] ;} s1, s2\n;") = (two, none) :=
  c13_parse_any_layout two (by decide +kernel) _ [] twoL (by decide +kernel) rfl (by decide +kernel) (by decide +kernel)
end ExampleR

end Cstruct.DefParser.C13

#print axioms Cstruct.DefParser.C13.c13_parse_render_partial
#print axioms Cstruct.DefParser.C13.c13_parse_any_layout
