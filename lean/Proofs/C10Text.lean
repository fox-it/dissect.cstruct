/-
  C10, text level — from the expression *text* to the value.

  `Proofs/C10.lean` proves that every token list of the C grammar evaluates to the value of its parse tree.
  This file closes the gap in front of it: every text made of well-formed token spellings (`WFTok`), separated by
  arbitrary blanks — required only between two tokens that would otherwise fuse (`SepOk`) — is tokenized into
  exactly those tokens, each normalised as `normTok` says (suffix dropped, C octal respelled `0o…`). Composed
  with `c10_eval_correct` this states the property about expression texts.
-/
import Proofs.C10
import Proofs.Spec.C10Text
import Proofs.Lemmas.C10TokMeaning

namespace Cstruct.Expr.C10
open Cstruct Cstruct.Expr

/-- **C10, tokenizer.** A text consisting of well-formed token spellings with any admissible blank separation
    (before, between and after the tokens) is tokenized into exactly these tokens, normalised. -/
theorem c10_tokenize_render (seps ts : List String) (hwf : ∀ t ∈ ts, WFTok t) (hsep : SepOk seps ts) :
    tokenize (render seps ts) = .ok (ts.map normTok) := by
  unfold tokenize
  rw [TextLemmas.tokenizeAux_render ts seps _ [] hwf hsep (String.length_toList ▸ Nat.le_succ _)]
  rfl

/-- What the emitted tokens are for the evaluator: operators and parentheses are unchanged; an identifier is
    unchanged and is a name (`IsName`: it can be bound in the context or the constants, or be a type name for
    `sizeof`); a literal becomes a number token whose `int(token, 0)` is its C value, whatever the suffix. -/
theorem c10_normTok :
    (∀ c, isOperatorChar c = true → normTok (String.singleton c) = String.singleton c) ∧
    normTok "<<" = "<<" ∧ normTok ">>" = ">>" ∧
    (∀ c cs, isIdStart c = true →
      normTok (String.ofList (c :: cs)) = String.ofList (c :: cs) ∧ IsName (String.ofList (c :: cs))) ∧
    (∀ body sfx, WFLit body → IsSuffix sfx →
      normTok (String.ofList (body ++ sfx)) = String.ofList (octRewrite body) ∧
      isNumber (normTok (String.ofList (body ++ sfx))) = true ∧
      parseInt (normTok (String.ofList (body ++ sfx))) = some (Int.ofNat (litValue body))) := by
  refine ⟨fun c hc => TextLemmas.normTok_op hc, TextLemmas.normTok_shl, TextLemmas.normTok_shr,
    fun c cs hc => ⟨TextLemmas.normTok_ident hc, TextLemmas.ident_isName hc⟩, fun body sfx hb hs => ?_⟩
  rw [TextLemmas.normTok_lit hb hs]
  exact ⟨rfl, TextLemmas.lit_value hb⟩

/-- A literal token of the text is an operand of the grammar denoting its C value, in every environment. -/
theorem c10_text_literal_atom (env : Env) {body sfx : List Char} (hb : WFLit body) (hs : IsSuffix sfx) :
    Atom env (normTok (String.ofList (body ++ sfx))) (Int.ofNat (litValue body)) := by
  obtain ⟨h1, h2⟩ := (c10_normTok.2.2.2.2 body sfx hb hs).2
  exact .lit h1 h2

/-- The evaluator's internal unary-minus marker is not a token spelling and is never emitted for one: the text
    `-u` is the two tokens `-` and `u`. A unary minus reaches the evaluator as the token `-` and is marked only
    by `evaluate`'s rewriting (`D`'s `neg` rule, `c10_eval_correct`). -/
theorem c10_marker_not_token :
    ¬ WFTok Gen.minusMarker ∧ (∀ t, WFTok t → normTok t ≠ Gen.minusMarker) ∧
    tokenize Gen.minusMarker = .ok ["-", "u"] := by
  have htok : tokenize Gen.minusMarker = .ok ["-", "u"] := by decide +kernel
  refine ⟨?_, fun t h => TextLemmas.normTok_ne_marker h, htok⟩
  intro h
  have hr : render [] [Gen.minusMarker] = Gen.minusMarker := by decide +kernel
  have hs : SepOk [] [Gen.minusMarker] := TextLemmas.sepOkB_sound _ _ (by decide +kernel)
  have := c10_tokenize_render [] [Gen.minusMarker] (fun t ht => by
    simp only [List.mem_cons, List.not_mem_nil, or_false] at ht; rw [ht]; exact h) hs
  rw [hr, htok] at this
  injection this with h'
  have := congrArg List.length h'
  simp at this

/-- **C10, from text to value.** Let `ts` be well-formed token spellings whose normalised form is a sentence of
    the C grammar with value `v` (`D env 0`: C precedence and left associativity, names bound by `env`). Then for
    every admissible blank separation the constructor accepts the text, `evaluate` returns `v`, leaves the marked
    token list in the object, and every further `evaluate` — with the same or another environment — returns what a
    fresh object would; in particular evaluating again with `env` returns `v` again. -/
theorem c10_text_correct (env : Env) (henv : EnvOk env) {seps ts marked : List String} {v : Int}
    (hwf : ∀ t ∈ ts, WFTok t) (hsep : SepOk seps ts) (h : D env 0 (ts.map normTok) marked v) :
    ∃ o, Obj.new (render seps ts) = .ok o ∧ o.tokens = ts.map normTok ∧
      (o.evaluate env).2 = .ok v ∧ (o.evaluate env).1.tokens = marked ∧
      ((o.evaluate env).1.evaluate env).2 = .ok v ∧
      ∀ env', ((o.evaluate env).1.evaluate env').2 = (o.evaluate env').2 ∧
              ((o.evaluate env).1.evaluate env').1 = (o.evaluate env).1 := by
  have hev := c10_eval_correct env henv h
  refine ⟨⟨ts.map normTok⟩, ?_, rfl, hev.1, hev.2, ?_, fun env' => c10_repeat _ env env'⟩
  · simp only [Obj.new, c10_tokenize_render seps ts hwf hsep]; rfl
  · rw [(c10_repeat ⟨ts.map normTok⟩ env env).1]; exact hev.1

/-- The blanks do not matter: two admissible layouts of the same tokens give the same object. -/
theorem c10_text_layout_irrelevant {seps1 seps2 ts : List String} (hwf : ∀ t ∈ ts, WFTok t)
    (h1 : SepOk seps1 ts) (h2 : SepOk seps2 ts) :
    Obj.new (render seps1 ts) = Obj.new (render seps2 ts) := by
  simp only [Obj.new, c10_tokenize_render _ ts hwf h1, c10_tokenize_render _ ts hwf h2]

/-- Decidable sufficient conditions for the hypotheses of the theorems above. -/
theorem c10_text_checkers (seps ts : List String) :
    (ts.all wfTokB = true → ∀ t ∈ ts, WFTok t) ∧ (sepOkB seps ts = true → SepOk seps ts) := by
  refine ⟨fun h t ht => TextLemmas.wfTokB_sound (List.all_eq_true.mp h t ht), TextLemmas.sepOkB_sound ts seps⟩

-- non-vacuity: two expression texts through the real constructor and `evaluate`
example : (Obj.new "2*(n+ 0x10)<<1").map (fun o => (o.evaluate env0).2) = .ok (.ok 76) := by decide +kernel
example : (Obj.new "-~07u + sizeof(uint32)").map (fun o => (o.evaluate env0).2) = .ok (.ok 12) := by
  decide +kernel
example : tokenize "-~07u + sizeof(uint32)" = .ok ["-", "~", "0o7", "+", "sizeof", "(", "uint32", ")"] := by
  decide +kernel

-- they are renderings of well-formed token lists with admissible separations
def toks1 : List String := ["2", "*", "(", "n", "+", "0x10", ")", "<<", "1"]
def seps1 : List String := ["", "", "", "", "", " ", "", "", "", ""]
def toks2 : List String := ["-", "~", "07u", "+", "sizeof", "(", "uint32", ")"]
def seps2 : List String := ["", "", "", " ", " ", "", "", "", ""]

example : render seps1 toks1 = "2*(n+ 0x10)<<1" ∧ render seps2 toks2 = "-~07u + sizeof(uint32)" := by
  decide +kernel
example : (∀ t ∈ toks1, WFTok t) ∧ SepOk seps1 toks1 :=
  ⟨(c10_text_checkers seps1 toks1).1 (by decide +kernel), (c10_text_checkers seps1 toks1).2 (by decide +kernel)⟩
example : (∀ t ∈ toks2, WFTok t) ∧ SepOk seps2 toks2 :=
  ⟨(c10_text_checkers seps2 toks2).1 (by decide +kernel), (c10_text_checkers seps2 toks2).2 (by decide +kernel)⟩
example : toks2.map normTok = ["-", "~", "0o7", "+", "sizeof", "(", "uint32", ")"] := by decide +kernel
-- every blank-free layout is admissible for `toks2`, but not for two adjacent words
example : SepOk [] toks2 := (c10_text_checkers [] toks2).2 (by decide +kernel)
example : sepOkB [] ["1", "u"] = false ∧ tokenize "1u" = .ok ["1"] := by decide +kernel

/-- all hypotheses of `c10_text_correct` hold for the text `"\t-n - 1uL "` in `env0` -/
example : ∃ o, Obj.new "\t-n - 1uL " = .ok o ∧ (o.evaluate env0).2 = .ok (-4) ∧
    ((o.evaluate env0).1.evaluate env0).2 = .ok (-4) := by
  have hD : D env0 0 (["-", "n", "-", "1uL"].map normTok) [Gen.minusMarker, "n", "-", "1"] (-4) := by
    have : ["-", "n", "-", "1uL"].map normTok = ["-", "n", "-", "1"] := by decide +kernel
    rw [this]
    exact env0_derivation
  obtain ⟨o, ho, _, hv, _, hv2, _⟩ :=
    c10_text_correct env0 env0_ok (seps := ["\t", "", " ", " ", " "])
      ((c10_text_checkers [] _).1 (by decide +kernel)) ((c10_text_checkers _ _).2 (by decide +kernel)) hD
  have hr : render ["\t", "", " ", " ", " "] ["-", "n", "-", "1uL"] = "\t-n - 1uL " := by decide +kernel
  rw [hr] at ho
  exact ⟨o, ho, hv, hv2⟩

end Cstruct.Expr.C10
