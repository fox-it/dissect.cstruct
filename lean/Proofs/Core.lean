/-
  Core theorems about the read/write model (`CstructModel/Read.lean`, `CstructModel/Write.lean`), which the property
  files build on. Specification-side definitions are in `Proofs/Spec/Core.lean` (fragments `Ty.plain`, `Ty.fragS`, the
  typing relation `Core.HasTy`), helper lemmas in `Proofs/Lemmas/Core*.lean`. The write/read facts for fragment S
  (`Lemmas.dynWr_S`, `Lemmas.wr_ty`) are an instance of the theorem for fragment D (`Lemmas.dyn_ty`,
  `Proofs/Lemmas/CoreDynTy.lean`).
-/
import Proofs.Spec.Core
import Proofs.Lemmas.CoreS
import Proofs.Lemmas.CoreRS
import Proofs.Lemmas.CoreWin

namespace Cstruct.Core
open Cstruct

/-- **Extension theorem** (the C08 statement "a value returned from a shortened input is the value returned from the complete
    input"). If parsing succeeds on `d1`, it succeeds with the very same value and end position on every input `d2` that
    extends `d1`. For every plain type (no to-end-of-stream array, no union), packed, aligned or mixed, with or without
    bit-fields, every context, every start position; no assumption on the value. -/
theorem read_extend (cfg : Cfg) (ty : Ty) (hplain : ty.plain = true) (ctx : Ctx) (d1 : Bytes) (pos : Nat) (v : Val) (p : Nat)
    (hr : read cfg ty ctx d1 pos = .ok (v, p)) (d2 : Bytes) (hpre : d1 <+: d2) :
    read cfg ty ctx d2 pos = .ok (v, p) :=
  Lemmas.read_extend cfg ty hplain ctx d1 pos v p hr d2 hpre

/-
  The window property does NOT hold for every plain type.
  Counterexample, with `cfg0` as at the end of this file:
    inner := .struct true  [x : .sc (.pint 4 false) 4, y : .sc (.pint 4 false) 4]         -- aligned, size 8, alignment 4
    outer := .struct false [a : .sc .char 1, s : .arr inner (.fixed 2), b : .sc .char 1]   -- packed: offsets 0, 1, 17
    d1    := the 20 bytes 0, 1, …, 19
  `outer.plain = true`, `read cfg0 outer [] d1 0 = .ok (_, 18)`, but `read cfg0 outer [] (d1.take 18) 0 = .error .eof`.
  Element 0 of `s` starts at the misaligned position 1 and pads its tail on the absolute position (9 → 12), so element 1
  occupies bytes 12..19; the packed outer layout nevertheless puts `b` at offset 17 and the reader seeks BACK to 17. The
  end position 18 is smaller than the last byte consumed (19). A backward seek needs an aligned structure at a start
  that is not a multiple of its alignment inside a statically laid out structure: mixed `align` flags as here, or a
  misaligned top-level start. `read_prefix` therefore assumes one flag throughout, power-of-two alignments and an aligned
  start (as `roundtrip_S` does), and no bit-fields; `read_extend` above needs none of this.
-/

/-- **Prefix (window) theorem.** If parsing succeeds on input `d1` and ends at position `p`, then it succeeds with the very
    same value and end position on every input `d2` that starts with the first `p` bytes of `d1` (all of `d1` when `d1` is
    shorter than `p`, which happens when trailing alignment padding is skipped past the end). For every plain type without
    bit-fields whose structures were all defined with the same `align` flag, with power-of-two alignments, every context,
    every start position that is a multiple of the alignments occurring in the type (any position in packed mode would do;
    position 0 always is); static or dynamic (expression-sized and null-terminated arrays, LEB128); no assumption on the
    value. -/
theorem read_prefix (cfg : Cfg) (al : Bool) (ty : Ty) (hplain : ty.plain = true) (hnb : ty.noBits = true)
    (hu : ty.uniformAlign al = true) (hp : ty.pow2Aligned cfg) (ctx : Ctx) (d1 : Bytes) (pos : Nat)
    (hal : ty.alignsDivide cfg pos = true) (v : Val) (p : Nat)
    (hr : read cfg ty ctx d1 pos = .ok (v, p)) (d2 : Bytes) (hpre : d1.take p <+: d2) :
    read cfg ty ctx d2 pos = .ok (v, p) :=
  Lemmas.read_prefix_alt cfg al ty hplain hnb hu hp ctx d1 pos hal v p hr d2 hpre

/-- **Window corollary.** Under the same hypotheses the result depends on nothing after the end position: the first `p`
    bytes followed by anything else parse to the same value with the same end position. -/
theorem read_window (cfg : Cfg) (al : Bool) (ty : Ty) (hplain : ty.plain = true) (hnb : ty.noBits = true)
    (hu : ty.uniformAlign al = true) (hp : ty.pow2Aligned cfg) (ctx : Ctx) (d1 : Bytes) (pos : Nat)
    (hal : ty.alignsDivide cfg pos = true) (v : Val) (p : Nat)
    (hr : read cfg ty ctx d1 pos = .ok (v, p)) (post : Bytes) :
    read cfg ty ctx (d1.take p ++ post) pos = .ok (v, p) :=
  read_prefix cfg al ty hplain hnb hu hp ctx d1 pos hal v p hr _ (List.prefix_append _ _)

/-- **Round trip (fragment S).** Writing a value of the type at absolute position `pos` and parsing the result — embedded
    after any `pre` of that length and before any `post`, with any context — returns the value and ends exactly after the
    written bytes. Packed and aligned structures alike (one flag throughout, as the parser applies it); the start position
    must be a multiple of the alignments occurring in the type (position 0, as in `dumps`, always is): at a misaligned
    start a nested aligned structure pads differently from its declared size and the property does not claim anything. -/
theorem roundtrip_S (cfg : Cfg) (al : Bool) (ty : Ty) (hS : ty.fragS cfg = true) (hu : ty.uniformAlign al = true)
    (hp : ty.pow2Aligned cfg) (v : Val) (hv : HasTy cfg v ty) (pos : Nat) (hal : ty.alignsDivide cfg pos = true) (bs : Bytes)
    (hw : write cfg ty v pos = .ok bs) (pre post : Bytes) (hpre : pre.length = pos) (ctx : Ctx) :
    read cfg ty ctx (pre ++ bs ++ post) pos = .ok (v, pos + bs.length) :=
  ((Lemmas.dynWr_S hS hu (fun _ => hp) hv (fun _ => Lemmas.sAlign_dvd_of_alignsDivide cfg pos ty hal) ctx).1.2 bs hw).2.2 _
    (.mid hpre)

/-- **Writing is total on values of the type (fragment S)** and produces exactly `size` bytes when the start is aligned
    (any start in packed mode): a value that fits is never refused. -/
theorem write_total_S (cfg : Cfg) (al : Bool) (ty : Ty) (hS : ty.fragS cfg = true) (hu : ty.uniformAlign al = true)
    (hp : ty.pow2Aligned cfg) (v : Val) (hv : HasTy cfg v ty)
    (pos : Nat) (hal : ty.alignsDivide cfg pos = true) :
    ∃ bs, write cfg ty v pos = .ok bs ∧ ty.size cfg = some bs.length := by
  obtain ⟨bs, k, w, s, l, _⟩ := Lemmas.wr_ty cfg al ty hS hu hp v hv pos
    (fun _ => Lemmas.sAlign_dvd_of_alignsDivide cfg pos ty hal)
  exact ⟨bs, w, by rw [l]; exact s⟩

/-- **An integer that does not fit is rejected (never truncated or wrapped)**, for integer, enum and pointer fields. -/
theorem write_reject (cfg : Cfg) (s : Scalar) (a : Nat) (f : Bool) (t : Ty) (v : Int) (pos : Nat) :
    (Scalar.isInt s = true → intFits s v = false →
      write cfg (.sc s a) (.int v) pos = .error .overflow ∧ write cfg (.enum s a f) (.enum v) pos = .error .overflow) ∧
    (Scalar.isInt cfg.ptr = true → intFits cfg.ptr v = false → write cfg (.ptr t) (.ptr v) pos = .error .overflow) := by
  have key : ∀ s : Scalar, Scalar.isInt s = true → intFits s v = false →
      writeScalar cfg s (.int v) = .error .overflow := by
    intro s hs hf
    cases s <;> simp [Scalar.isInt] at hs <;> simp only [intFits] at hf <;>
      simp [writeScalar, encodeInt, hf]
  refine ⟨fun hs hf => ⟨?_, ?_⟩, fun hs hf => ?_⟩
  · rw [write]; exact key s hs hf
  · rw [write]; exact key s hs hf
  · rw [write]; exact key _ hs hf

/-- **Parsing consumes exactly the declared size (fragment S)** when the input is long enough and the start is aligned
    (any start in packed mode), and the parsed value is a value of the type. -/
theorem read_size_S (cfg : Cfg) (al : Bool) (ty : Ty) (hS : ty.fragS cfg = true) (hu : ty.uniformAlign al = true)
    (hp : ty.pow2Aligned cfg) (ctx : Ctx) (data : Bytes) (pos n : Nat)
    (hsz : ty.size cfg = some n) (hlen : pos + n ≤ data.length) (hal : ty.alignsDivide cfg pos = true) :
    ∃ v, read cfg ty ctx data pos = .ok (v, pos + n) ∧ HasTy cfg v ty := by
  exact Lemmas.rs_ty cfg al ty hS hu hp ctx data pos n hsz hlen
    (fun _ => Lemmas.sAlign_dvd_of_alignsDivide cfg pos ty hal)

-- a type of fragment S and a value of it: the hypotheses above can be met (used again by `Proofs/C01.lean`)
def cfg0 : Cfg := { endian := .big, ptr := .pint 4 false, ptrAlign := 4, consts := [] }
def ty0 : Ty := .struct true (.cons "a" false (.sc (.pint 1 false) 1) none (.cons "s" false
  (.struct true (.cons "x" false (.sc (.pint 2 true) 2) none (.cons "y" false (.arr (.sc .char 1) (.fixed 3)) none .nil))) none
  (.cons "p" false (.ptr (.sc .void 0)) none .nil)))
def v0 : Val := .record (.cons (.int 7) (.cons (.record (.cons (.int (-2)) (.cons (.bytes [1, 2, 3]) .nil))) (.cons (.ptr 9) .nil)))
example : ty0.fragS cfg0 = true ∧ ty0.plain = true ∧ ty0.uniformAlign true = true ∧ ty0.alignsDivide cfg0 0 = true := by decide +kernel
example : ty0.noBits = true := by decide +kernel
example : HasTy cfg0 v0 ty0 := by
  exact .struct (.cons (.int rfl (by decide)) (.cons (.struct (.cons (.int rfl (by decide)) (.cons (.chars rfl) .nil)))
    (.cons (.ptr (by decide)) .nil)))

end Cstruct.Core
