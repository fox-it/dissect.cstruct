/-
  C19 — utilities: the hex dump is lossless, colour is cosmetic, pack/unpack/swap are inverses.

  Model: `CstructModel/Hexdump.lean` (utils._hexdump's per-byte palette state machine with its output as tagged
  text/colour-code segments; utils.pack/unpack/swap over the codecs of `Codec.lean`).
-/
import Proofs.Spec.C19
import Proofs.Lemmas.C19

namespace Cstruct.Hexdump.C19
open Cstruct Cstruct.Hexdump

/-- **Colour is cosmetic.** For every byte string, every palette (including `None`, the empty palette, zero-length and
    negative-length entries, empty colour strings, palettes shorter or longer than the data) and every offset, the dump
    with the colour-code segments removed is the plain dump: same rows, same running offsets, same hex column, same
    character column. -/
theorem c19_colour_cosmetic (data : Bytes) (palette : Option (List (Int × String))) (offset : Nat) :
    (hexdump data palette offset).map (fun l => (l.offset, stripCodes l.values, stripCodes l.chars))
      = plainDump data offset := by
  have h := Lemmas.lines_strip { palette := palette, remaining := 0, active := none } offset (data.length + 1) 0 data
  rw [Nat.mul_zero, Nat.add_zero, ← List.range_eq_range'] at h
  exact h

/-- **Lossless, sixteen per row, in order.** The rows of the plain dump partition the input: concatenated they are the
    input, every row but the last has exactly 16 bytes and the last has between 1 and 16; row `i` carries offset
    `offset + 16 * i`. -/
theorem c19_rows (data : Bytes) (offset : Nat) :
    let rs := rows (data.length + 1) data
    rs.flatten = data ∧ (∀ r ∈ rs, 0 < r.length ∧ r.length ≤ 16) ∧ (∀ r ∈ rs.dropLast, r.length = 16) ∧
    (plainDump data offset).map (·.1) = (List.range rs.length).map (fun i => offset + 16 * i) := by
  refine ⟨Lemmas.rows_flatten _ _ (Nat.lt_succ_self _), Lemmas.rows_mem _ _, Lemmas.rows_dropLast _ _, ?_⟩
  simp only [plainDump, List.map_map]
  show List.map ((fun i => offset + 16 * i) ∘ Prod.fst) _ = _
  rw [← List.map_map, List.map_fst_zip (by rw [List.length_range]; exact Nat.le_refl _)]

/-- **Every byte exactly once.** The hex column of a row reads back to exactly the bytes of the row. -/
theorem c19_hex_column_inverse (row : Bytes) (h : row.length ≤ 16) :
    parseValues 16 0 (plainValues (padRow row) 0).toList = row :=
  Lemmas.parse_plain row _ 16 0 h

/-- pack then unpack returns the value: for every width that is a whole number of bytes, both byte orders, every value
    that fits (negative values are packed signed and must be unpacked signed). -/
theorem c19_pack_unpack (v : Int) (n : Nat) (e : Endian) (hn : 0 < n) (h : fits n (decide (v < 0)) v = true) :
    ∃ bs, pack v (some (8 * n)) e = some bs ∧ bs.length = n ∧ unpack bs (some (8 * n)) e (decide (v < 0)) = some v := by
  obtain ⟨bs, h1, h2, h3⟩ := C05.c05_int_roundtrip e n _ v h
  exact ⟨bs, by rw [Lemmas.pack_some _ _ _ hn, h1], h2, by rw [Lemmas.unpack_some_eq _ _ _ _ h2, h3]⟩

/-- unpack then pack returns the bytes, for either signedness. -/
theorem c19_unpack_pack (bs : Bytes) (e : Endian) (s : Bool) (hne : bs ≠ []) :
    ∃ v, unpack bs (some (8 * bs.length)) e s = some v ∧ pack v (some (8 * bs.length)) e = some bs := by
  obtain ⟨hf, he⟩ := C05.c05_int_roundtrip_bytes e s bs
  refine ⟨_, Lemmas.unpack_some_eq _ _ _ _ rfl, ?_⟩
  rw [Lemmas.pack_some _ _ _ (List.length_pos_iff.mpr hne), ← he]
  exact Lemmas.encodeInt_sign e _ _ _ _ (Lemmas.fits_sign _ _ _ hf) hf

/-- pack/unpack agree with the two's-complement codecs of the integer types in the requested byte order; a value that
    does not fit is refused. -/
theorem c19_pack_is_codec (v : Int) (n : Nat) (e : Endian) (hn : 0 < n) :
    pack v (some (8 * n)) e = encodeInt e n (decide (v < 0)) v ∧
    (∀ bs s, bs.length = n → unpack bs (some (8 * n)) e s = some (decodeInt e s bs)) ∧
    (∀ bs s, bs.length ≠ n → unpack bs (some (8 * n)) e s = none) :=
  ⟨Lemmas.pack_some v n e hn, fun bs s h => Lemmas.unpack_some_eq bs n e s h,
    fun bs s h => Lemmas.unpack_some_ne bs n e s hn h⟩

/-- Without a size, a non-negative value is packed into as many bytes as it needs and unpacks to itself. -/
theorem c19_pack_auto (v : Int) (e : Endian) (hv : 0 ≤ v) :
    ∃ bs, pack v none e = some bs ∧ unpack bs none e false = some v := by
  have hfit : fits ((bitLength v.natAbs + 7) / 8) false v = true := by
    -- `v = v.natAbs < 2 ^ bits`, and whole bytes hold at least `bits` bits
    have := Lemmas.lt_pow_bytes _ _ (Lemmas.lt_two_pow_bitLength v.natAbs)
    simp only [fits, Bool.false_eq_true, if_false, decide_eq_true_eq]
    omega
  obtain ⟨bs, h1, _, h3⟩ := C05.c05_int_roundtrip e _ false v hfit
  refine ⟨bs, ?_, congrArg some h3⟩
  simp only [pack, if_neg (Int.not_lt.mpr hv), decide_eq_false (Int.not_lt.mpr hv)]
  exact h1

/-- The same for negative values (packed signed, with room for the sign bit: `pack(-129)` takes two bytes). -/
theorem c19_pack_auto_neg (v : Int) (e : Endian) (hv : v < 0) :
    ∃ bs, pack v none e = some bs ∧ unpack bs none e true = some v := by
  have hfit : fits ((bitLength (v.natAbs - 1) + 1 + 7) / 8) true v = true := by
    -- with `m = -v - 1 = v.natAbs - 1 < 2 ^ b` the signed range `-P ≤ 2 * v < P` is `2 * m + 1 < P`, and
    -- `2 * m + 1 < 2 ^ (b + 1)`: one bit more than `m` needs, the sign bit
    have h1 := Lemmas.lt_two_pow_bitLength (v.natAbs - 1)
    have := Lemmas.lt_pow_bytes (2 * (v.natAbs - 1) + 1) (bitLength (v.natAbs - 1) + 1) (by rw [Nat.pow_succ]; omega)
    simp only [fits, if_true, decide_eq_true_eq]
    omega
  obtain ⟨bs, h1, _, h3⟩ := C05.c05_int_roundtrip e _ true v hfit
  refine ⟨bs, ?_, congrArg some h3⟩
  simp only [pack, if_pos hv, decide_eq_true hv]
  exact h1

/-- Swapping byte order twice is the identity on every value of the width. -/
theorem c19_swap_involution (v : Int) (n : Nat) (hn : 0 < n) (h0 : 0 ≤ v) (h1 : v < 2 ^ (8 * n)) :
    ∃ w, swap v (8 * n) = some w ∧ 0 ≤ w ∧ w < 2 ^ (8 * n) ∧ swap w (8 * n) = some v := by
  -- `swap v` reads the big-endian encoding `bs` of `v` as little endian; that is the big-endian reading of `bs` reversed
  obtain ⟨bs, hb, hl, hd⟩ := C05.c05_int_roundtrip .big n false v (((C05.c05_fits_range n v).1).2 ⟨h0, h1⟩)
  obtain ⟨hf, he⟩ := C05.c05_int_roundtrip_bytes .little false bs
  rw [hl] at hf he
  have hw := ((C05.c05_fits_range n _).1).1 hf
  refine ⟨decodeInt .little false bs, Lemmas.swap_eq v n hn (Int.not_lt.mpr h0) hb hl, hw.1, hw.2, ?_⟩
  rw [Lemmas.swap_eq _ n hn (Int.not_lt.mpr hw.1) (Lemmas.encodeInt_big he) (by rw [List.length_reverse, hl]),
    ← ((C05.c05_int_decode bs).2.2.1 false), hd]

example : (hexdump [0x41, 0x00, 0xff] (some [(1, "R"), (0, "G"), (5, "B")]) 16).map
    (fun l => (l.offset, (stripCodes l.values).length, stripCodes l.chars, l.chars.length)) = [(16, 49, "A..", 9)] := by decide +kernel
example : swap 0x1234 16 = some 0x3412 := by decide +kernel
example : pack (-2) (some 16) .big = some [0xff, 0xfe] := by decide +kernel

end Cstruct.Hexdump.C19
