/-
  C06 — the class `BitBuffer` (bitbuffer.py) as an object: how storage units are loaded, switched, flushed and dropped
  around the bit steps of `Proofs/C06.lean`.

  Model: `CstructModel/BitBuffer.lean` (`BB`, `BB.read`, `BB.write`, `BB.flush`, `BB.reset`, `BB.init`); its extraction step
  IS `BitBuf.take`, its accumulation step is proved equal to `BitBuf.put` (`c06_bb_write_is_put`), its codecs are
  `decodeInt` / `encodeInt`.  The model is tied to the code by the operation-sequence correspondence of
  harness/v5_c06bb.py (driver command `bbops`).
-/
import Proofs.Spec.C06BitBuffer
import Proofs.Lemmas.C06BBInverse

namespace Cstruct.C06
open Cstruct Cstruct.BBuf Cstruct.C06.BB Cstruct.C06.Lemmas

/-- the slots of a run of widths `ws` in a unit `u` of `w` bits, `k` bits used before: what `c06_partition` talks about -/
def slots (e : Endian) (w : Nat) (u : Int) (ws : List Nat) (k : Nat) : List Int :=
  (ws.zip (starts ws k)).map fun (b, k) => slotVal u (slotLo e w k b) b

private theorem slots_range (e : Endian) (w : Nat) (u : Int) : ∀ (ws : List Nat) (k : Nat),
    InRange (slots e w u ws k) ws
  | [], _ => by simp [slots, starts, InRange]
  | b :: r, k => by
    simp only [slots, starts, List.zip_cons_cons, List.map_cons]
    exact ⟨slotVal_bounds u _ b, slots_range e w u r (k + b)⟩

private theorem readRun_cont (t : BTy) (w : Nat) (u : Int) : ∀ (ws : List Nat) (k : Nat) (bb : BB),
    bb.ty = some t → bb.remaining = ((w - k : Nat) : Int) → (∀ x ∈ ws, 0 < x) → k + ws.sum ≤ w →
    ReadInv bb.endian w u k { ty := none, buffer := bb.buffer, remaining := w - k } →
    ∃ buf, readRun bb t ws = .ok ({ bb with buffer := buf, remaining := ((w - (k + ws.sum) : Nat) : Int) }, slots bb.endian w u ws k)
  | [], k, bb, _, hrem, _, _, _ => by
    refine ⟨bb.buffer, ?_⟩
    simp only [readRun, slots, starts, List.zip_nil_left, List.map_nil, List.sum_nil, Nat.add_zero, ← hrem]
  | b :: r, k, bb, hty, hrem, hpos, hsum, hinv => by
    simp only [List.sum_cons] at hsum
    have hb0 : 0 < b := hpos b (by simp)
    obtain ⟨buf, hex, hinv'⟩ := extract_ok bb w k b u (by omega) hinv
    have hrd := read_cont bb t b (w - k) hty hrem (by omega)
    obtain ⟨buf2, hrest⟩ := readRun_cont t w u r (k + b)
      ({ bb with buffer := buf, remaining := ((w - (k + b) : Nat) : Int) } : BB) hty rfl
      (fun x hx => hpos x (List.mem_cons_of_mem _ hx)) (by omega) hinv'
    refine ⟨buf2, ?_⟩
    simp only [readRun, hrd, hex, hrest, slots, starts, List.zip_cons_cons, List.map_cons, List.sum_cons, Nat.add_assoc]

/-- **A run of reads.**  On an object whose unit is used up or that holds none (fresh, after `reset()`, after a unit was
    read to its last bit), a run of reads of widths `w1..wk ≥ 1` over one storage type of `n` bytes whose widths sum to at
    most `8n` consumes exactly the `n` bytes at the stream position, once; returns field by field the slots of that unit
    that `c06_partition` describes — counted from the least significant end in little endian, from the most significant
    end in big endian —; leaves `8n - Σw` bits; and every value lies in [0, 2^w), also when the unit was decoded as a
    negative number (signed storage type with the top bit set). -/
theorem c06_bb_read_run (bb : BB) (t : BTy) (n : Nat) (ws : List Nat)
    (hfresh : bb.remaining = 0) (hsz : t.size = some n) (hne : ws ≠ []) (hpos : ∀ w ∈ ws, 0 < w) (hsum : ws.sum ≤ 8 * n)
    (hlen : bb.stream.pos + n ≤ bb.stream.data.length) :
    let u := unitVal bb.endian t (sread bb.stream.data bb.stream.pos n)
    ∃ bb', readRun bb t ws = .ok (bb', slots bb.endian (8 * n) u ws 0) ∧
      bb'.stream = { bb.stream with pos := bb.stream.pos + n } ∧ bb'.ty = some t ∧ bb'.endian = bb.endian ∧
      bb'.remaining = ((8 * n - ws.sum : Nat) : Int) ∧
      InRange (slots bb.endian (8 * n) u ws 0) ws := by
  intro u
  cases ws with
  | nil => exact absurd rfl hne
  | cons w r =>
    have hw0 : 0 < w := hpos w (by simp)
    simp only [List.sum_cons] at hsum
    -- the first read loads the unit, and then behaves like a read on the loaded object
    have hld := read_load bb t n w (Or.inl hfresh) hsz hlen
    have hlrem : (loaded bb t n).remaining = ((8 * n - 0 : Nat) : Int) := by simp only [loaded]; omega
    have hcont := read_cont (loaded bb t n) t w (8 * n - 0) rfl hlrem (by omega)
    have h8 : n * 8 = 8 * n - 0 := by omega
    have hfirst : readRun bb t (w :: r) = readRun (loaded bb t n) t (w :: r) := by
      simp only [readRun, hld, hcont, h8]
    obtain ⟨buf, hrun⟩ := readRun_cont t (8 * n) u (w :: r) 0 (loaded bb t n) rfl hlrem hpos
      (by simp only [List.sum_cons]; omega) (readInv_init _ _ _ none)
    refine ⟨_, hfirst.trans hrun, rfl, rfl, rfl, by simp, slots_range _ _ _ _ _⟩

/-- **Loading and switching units; the straddle check.**
    (1) A read for another storage type than the current one, or when no bits are left, loads a new unit of `n` bytes from
        the current stream position: value and state afterwards are those of a read on a freshly loaded unit — nothing of the old
        unit (its buffer, its unused bits) enters.
    (2) A read of the current storage type that asks for more bits than are left (and some are left) is refused with
        ValueError and leaves the object, stream included, exactly as it was: bits are never taken from two units. -/
theorem c06_bb_unit_switch (bb : BB) (t : BTy) (bits : Nat) :
    (∀ n, (bb.remaining = 0 ∨ bb.ty ≠ some t) → t.size = some n → bits ≤ 8 * n → bb.stream.pos + n ≤ bb.stream.data.length →
      let u := unitVal bb.endian t (sread bb.stream.data bb.stream.pos n)
      ∃ buf, bb.read t bits =
          .ok ({ ty := some t, buffer := buf, remaining := ((8 * n - bits : Nat) : Int), endian := bb.endian,
                 stream := { bb.stream with pos := bb.stream.pos + n } },
               slotVal u (slotLo bb.endian (8 * n) 0 bits) bits) ∧
        ReadInv bb.endian (8 * n) u bits { ty := none, buffer := buf, remaining := 8 * n - bits }) ∧
    (∀ r : Nat, bb.ty = some t → bb.remaining = (r : Int) → 0 < r → r < bits → bb.read t bits = .error (.value, bb)) := by
  constructor
  · intro n hnew hsz hb hlen u
    have hld := read_load bb t n bits hnew hsz hlen
    have h8 : n * 8 = 8 * n - 0 := by omega
    obtain ⟨buf, hex, hinv⟩ := extract_ok (loaded bb t n) (8 * n) 0 bits u (by omega) (readInv_init _ _ _ none)
    rw [h8] at hld
    simp only [Nat.zero_add] at hex hinv
    refine ⟨buf, ?_, hinv⟩
    rw [hld, hex]
    simp [loaded]
  · intro r hty hrem hr hlt
    rw [read_cont bb t bits r hty hrem (by omega)]
    exact extract_straddle bb r bits hlt

/-- when the stream ends inside the unit that has to be loaded the read raises EOFError (nothing is returned) -/
theorem c06_bb_unit_eof (bb : BB) (t : BTy) (n bits : Nat) (hnew : bb.remaining = 0 ∨ bb.ty ≠ some t) (hsz : t.size = some n)
    (hn : 0 < n) (hlen : bb.stream.data.length < bb.stream.pos + n) : ∃ bb', bb.read t bits = .error (.eof, bb') :=
  ⟨_, read_eof bb t n bits hnew hsz hn hlen⟩

/-- a variable-length storage type is refused with ValueError, by `read` (nothing changes) and by `write` -/
theorem c06_bb_varlen (bb : BB) (t : BTy) (bits : Nat) (v : Int) (hnew : bb.remaining = 0 ∨ bb.ty ≠ some t) (hsz : t.size = none) :
    bb.read t bits = .error (.value, bb) ∧ (Idle bb → bb.write t v bits = .error (.value, bb)) := by
  refine ⟨read_varlen bb t bits hnew hsz, ?_⟩
  intro hidle
  simp only [BB.write, if_pos hnew]
  simp only [hidle.1, hsz]

/-- **`write` accumulates with `BitBuf.put`** (the step `c06_put_take` is about) whenever the current unit goes on and the
    request is one `put` accepts; a unit whose last bit was written is flushed on the spot. -/
theorem c06_bb_write_is_put (bb : BB) (t : BTy) (n r bits : Nat) (v : Int) (b : BitBuf)
    (hty : bb.ty = some t) (hsz : t.size = some n) (hrem : bb.remaining = (r : Int)) (hr : r ≠ 0) (hrn : r ≤ n * 8)
    (hput : BitBuf.put bb.endian { ty := none, buffer := bb.buffer, remaining := r } n v bits = some b) :
    bb.write t v bits =
      if b.remaining = 0 then ({ bb with buffer := b.buffer, remaining := (b.remaining : Int) } : BB).flush
      else .ok ({ bb with buffer := b.buffer, remaining := (b.remaining : Int) }, ()) :=
  write_eq_put bb t n r bits v b hty hsz hrem hr hrn hput

/-- **Writing, then flushing, is the exact inverse of reading — across units.**  Take any sequence of writes
    (type, width, value) in which every value fits its width (0 ≤ v < 2^w) and that respects the unit discipline `Fits`
    (no width exceeds what its unit has left, where a unit is given up and a new one opened whenever the storage type
    changes or the unit is exhausted).  On an idle object over a stream positioned inside its content:
    every write succeeds, the final `flush()` succeeds and leaves the object idle; the stream content before the start
    position and behind the end position is untouched; and a fresh object of the same byte order reading the same
    (type, width) requests from the start position of the new content gets exactly the values written and ends at the
    position where the writer ended.  Both byte orders; unit switches in the middle of a unit (write flushes the unit
    with its unused bits zero), exhausted units (write flushes as soon as the last bit is written), signed and `bytes`
    storage types included. -/
theorem c06_bb_write_flush_inverse (wb : BB) (ws : List (BTy × Nat × Int))
    (hidle : Idle wb) (hin : wb.stream.pos ≤ wb.stream.data.length)
    (hfit : ∀ p ∈ ws, 0 ≤ p.2.2 ∧ p.2.2 < 2 ^ p.2.1) (hunits : Fits none 0 (requests ws)) :
    ∃ wb1 wbF, writeAll wb ws = .ok wb1 ∧ wb1.flush = .ok (wbF, ()) ∧ Idle wbF ∧ wbF.endian = wb.endian ∧
      wb.stream.pos ≤ wbF.stream.pos ∧ wbF.stream.pos ≤ wbF.stream.data.length ∧
      wbF.stream.data.take wb.stream.pos = wb.stream.data.take wb.stream.pos ∧
      wbF.stream.data.drop wbF.stream.pos = wb.stream.data.drop wbF.stream.pos ∧
      ∀ rb : BB, rb.remaining = 0 → rb.endian = wb.endian → rb.stream = { data := wbF.stream.data, pos := wb.stream.pos } →
        ∃ rbF, readAll rb (requests ws) = .ok (rbF, values ws) ∧ rbF.stream.pos = wbF.stream.pos := by
  obtain ⟨wbF, hwf, hpost, hback⟩ := (pall ws).2 wb hidle hin hunits hfit
  simp only [writeFlush] at hwf
  cases hwa : writeAll wb ws with
  | error e => rw [hwa] at hwf; nomatch hwf
  | ok wb1 =>
    rw [hwa] at hwf
    simp only at hwf
    cases hfl : wb1.flush with
    | error e => rw [hfl] at hwf; nomatch hwf
    | ok p =>
      obtain ⟨wb2, u⟩ := p
      rw [hfl] at hwf
      simp only [Except.ok.injEq] at hwf
      subst hwf
      refine ⟨wb1, wb2, rfl, hfl, hpost.idle, hpost.endian, hpost.mono, hpost.inb, hpost.pre, hpost.suf, ?_⟩
      intro rb hr0 hre hrs
      have hrl : Reloads rb ws := by
        cases ws with
        | nil => trivial
        | cons x r => obtain ⟨t, w, v⟩ := x; exact Or.inl hr0
      obtain ⟨rbF, h1, h2⟩ := hback rb hre hrs hrl
      exact ⟨rbF, h1, by rw [h2]⟩

/-- **A write that does not fit the rest of its unit** (same storage type, `r > 0` bits left, `bits > r`, the value in
    range).  Big endian: refused with ValueError ("negative shift count"), nothing changes.  Little endian: NOT refused —
    the value is or-ed in above the bits used so far, reaching beyond the unit, and `_remaining` becomes negative; from
    then on every read and every big-endian write on this unit is refused and no write of this type opens a new unit.
    (Such a request cannot come from a structure: `c06_layout_straddle` rejects the definition.) -/
theorem c06_bb_write_straddle (bb : BB) (t : BTy) (n r bits : Nat) (v : Int)
    (hty : bb.ty = some t) (hsz : t.size = some n) (hrem : bb.remaining = (r : Int)) (hr : 0 < r) (hrn : r ≤ n * 8)
    (hlt : r < bits) (hv : 0 ≤ v ∧ v < 2 ^ bits) :
    bb.write t v bits =
      match bb.endian with
      | .big => .error (.value, bb)
      | .little => .ok ({ bb with buffer := lor bb.buffer (shl v (n * 8 - r)), remaining := (r : Int) - (bits : Int) }, ()) := by
  have hv' : ¬ (v < 0 ∨ v ≥ shl 1 bits) := by
    have : shl 1 bits = ((2 ^ bits : Nat) : Int) := by simp [shl]
    rw [this]
    have h2 : ((2 ^ bits : Nat) : Int) = (2 : Int) ^ bits := by norm_cast
    omega
  rw [write_cont bb t n bits v hty hsz (by omega), accumulate, if_neg hv']
  cases he : bb.endian with
  | big =>
    have hs : bb.remaining - (bits : Int) < 0 := by omega
    simp only [if_pos hs]
  | little =>
    simp only [hrem]
    have hs : ¬ (((n * 8 : Nat) : Int) - (r : Int) < 0) := by omega
    have ht : (((n * 8 : Nat) : Int) - (r : Int)).toNat = n * 8 - r := by omega
    have h0 : ¬ ((r : Int) - (bits : Int) = 0) := by omega
    simp only [if_neg hs, ht, if_neg h0]

/-- **`reset()`** forgets the unit — type, buffer, free bits — and touches neither the stream nor the byte order; the next
    read, whatever its type, loads a fresh unit from the stream position (`c06_bb_unit_switch` (1) applies: no bits left). -/
theorem c06_bb_reset (bb : BB) :
    ∃ bb', bb.reset = .ok (bb', ()) ∧ Idle bb' ∧ bb'.stream = bb.stream ∧ bb'.endian = bb.endian ∧
      ∀ (t : BTy) (n bits : Nat), t.size = some n → bits ≤ 8 * n → bb.stream.pos + n ≤ bb.stream.data.length →
        ∃ bb'', bb'.read t bits = .ok (bb'', slotVal (unitVal bb.endian t (sread bb.stream.data bb.stream.pos n))
            (slotLo bb.endian (8 * n) 0 bits) bits) ∧
          bb''.stream = { bb.stream with pos := bb.stream.pos + n } ∧ bb''.ty = some t ∧
          bb''.remaining = ((8 * n - bits : Nat) : Int) := by
  refine ⟨bb.cleared, rfl, ⟨rfl, rfl, rfl⟩, rfl, rfl, ?_⟩
  intro t n bits hsz hb hlen
  obtain ⟨buf, hrd, _⟩ := (c06_bb_unit_switch bb.cleared t bits).1 n (Or.inl rfl) hsz hb hlen
  exact ⟨_, hrd, rfl, rfl, rfl⟩

/-- **The byte order codes.**  An object created with '@' or '=' behaves, call for call, like one created with the code
    that spells the host's byte order ('<' on a little-endian host, '>' on a big-endian one), and one created with '!'
    like one created with '>': same results, same states, same stream, for every sequence of calls. -/
theorem c06_bb_native (host : Endian) (s : Stream) (ops : List Op) :
    (BB.init host .at s).trace ops = (BB.init host (hostCode host) s).trace ops ∧
    (BB.init host .eq s).trace ops = (BB.init host (hostCode host) s).trace ops ∧
    (BB.init host .bang s).trace ops = (BB.init host .gt s).trace ops ∧
    (BB.init host .at s).endian = host ∧ (BB.init host .eq s).endian = host ∧ (BB.init host .bang s).endian = .big := by
  have h1 : BB.init host .at s = BB.init host (hostCode host) s := by cases host <;> rfl
  have h2 : BB.init host .eq s = BB.init host (hostCode host) s := by cases host <;> rfl
  have h3 : BB.init host .bang s = BB.init host .gt s := rfl
  exact ⟨by rw [h1], by rw [h2], by rw [h3], rfl, rfl, rfl⟩

def u8 : BTy := { id := 0, size := some 1, signed := false, bytes := false }
def i8 : BTy := { id := 1, size := some 1, signed := true, bytes := false }
def u16 : BTy := { id := 2, size := some 2, signed := false, bytes := false }
def chr : BTy := { id := 14, size := some 1, signed := false, bytes := true }
def fresh (e : Endian) (d : Bytes) (p : Nat) : BB := BB.init e (hostCode e) { data := d, pos := p }

-- signed storage, top bit set: the unit is loaded as -75 (0xB5), the fields are still the slots 5, 6, 2 / 5, 5, 1
example : (readRun (fresh .little [0xB5] 0) i8 [3, 3, 2]).toOption.map (·.2) = some [5, 6, 2] := by decide +kernel
example : (readRun (fresh .big [0xB5] 0) i8 [3, 3, 2]).toOption.map (·.2) = some [5, 5, 1] := by decide +kernel
example : ((fresh .little [0xB5] 0).read i8 3).toOption.map (·.1.buffer) = some (-10) := by decide +kernel
example : slots .little 8 (-75) [3, 3, 2] 0 = [5, 6, 2] ∧ slots .big 8 (-75) [3, 3, 2] 0 = [5, 5, 1] := by decide +kernel
-- a type switch in the middle of a unit: the other 5 bits of 0xB5 are dropped, the uint16 unit starts at byte 1
example : (readAll (fresh .little [0xB5, 0x34, 0x12] 0) [(u8, 3), (u16, 4), (u16, 12)]).toOption.map (fun r => (r.2, r.1.stream.pos)) =
    some ([5, 4, 0x123], 3) := by decide +kernel
-- a straddle is refused and changes nothing: the next read still gets its slot
example : ((fresh .little [0xB5, 0xFF] 0).trace [.read u8 3, .read u8 6, .read u8 5]).map (·.2) = [.val 5, .err .value, .val 22] := by
  decide +kernel
example : ((fresh .little [0xB5, 0xFF] 0).trace [.read u8 3, .read u8 6]).map (·.1.stream.pos) = [1, 1] := by decide +kernel
-- write + flush across a unit switch and an exhausted unit, then read back
example : ((fresh .big [] 0).trace [.write u8 5 3, .write u16 0xABC 12, .write u16 1 4, .write chr 3 2, .flush]).getLast?.map (·.1.stream.data) =
    some [0xA0, 0xAB, 0xC1, 0xC0] := by decide +kernel
example : (readAll (fresh .big [0xA0, 0xAB, 0xC1, 0xC0] 0) [(u8, 3), (u16, 12), (u16, 4), (chr, 2)]).toOption.map (·.2) =
    some [5, 0xABC, 1, 3] := by decide +kernel
-- the little-endian straddling write goes through and drives `remaining` below zero; the big-endian one is refused
example : ((fresh .little [] 0).trace [.write u8 1 5, .write u8 9 4]).map (fun s => (s.2, s.1.remaining)) = [(.done, 3), (.done, -1)] := by
  decide +kernel
example : ((fresh .big [] 0).trace [.write u8 1 5, .write u8 9 4]).map (fun s => (s.2, s.1.remaining)) = [(.done, 3), (.err .value, 3)] := by
  decide +kernel
-- reset drops the partially consumed unit without touching the stream
example : ((fresh .little [0xB5, 0x01] 0).trace [.read u8 3, .reset, .read u8 3]).map (fun s => (s.2, s.1.stream.pos)) =
    [(.val 5, 1), (.done, 1), (.val 1, 2)] := by decide +kernel
example : Fits none 0 [(u8, 3), (u16, 12), (u16, 4), (chr, 2)] := by
  refine ⟨1, rfl, by decide, by decide, 2, rfl, by decide, by decide, 2, rfl, by decide, by decide, 1, rfl, by decide, by decide, trivial⟩

end Cstruct.C06
