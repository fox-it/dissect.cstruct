/-
  The class `BitBuffer` of dissect/cstruct/bitbuffer.py as an object of its own: its mutable state (`_type`, `_buffer`,
  `_remaining`, `endian`, the stream) and its methods `__init__`, `read`, `write`, `flush`, `reset`, statement by
  statement, including what the object looks like after a method raised.

  Shared with the structure-level model (`readFields` / `writeFields`), so that the two cannot drift:
    * the stream primitives `sread` / `readExact` (Read.lean),
    * the unit codecs `decodeInt` / `decodeNat` / `encodeInt` (Codec.lean),
    * the extraction step `BitBuf.take` (Val.lean) - `BB.read` calls it -, and the accumulation step `BitBuf.put`:
      `BB.write` spells the shift out (it has to go on where `put` stops: a straddling little-endian write), and
      `Proofs/Lemmas/C06BBWrite.lean` (`write_eq_put`, = `c06_bb_write_is_put`) proves the two equal wherever `put` is defined.

  Assumption on the callers (structure.py, compiler.py: `BitBuffer(stream, cls.cs.endian)`): the storage types handed to
  `read` / `write` belong to the cstruct object whose `endian` the buffer was created with, so `field_type._read` decodes
  the unit in the byte order the buffer normalised (`struct` and `ENDIANNESS_MAP` treat '@' / '=' as the host's order and
  '!' as big, like `__init__` does).  Storage types are those whose `_read` gives an `int` (Packed integers, `Int`) or
  `bytes` (char); the stream is a `BytesIO`.
-/
import CstructModel.Read

namespace Cstruct.BBuf
open Cstruct

/-- the spellings of a byte order a `cstruct` object can carry -/
inductive EndianCode | lt | gt | bang | at | eq
  deriving DecidableEq, Repr

/-- `__init__`: `("<" if sys.byteorder == "little" else ">") if endian in ("@", "=") else endian`, seen through the only
    test the class ever makes on the result (`self.endian == "<"`; everything else counts as big) -/
def normEndian (host : Endian) : EndianCode → Endian
  | .lt => .little
  | .gt => .big
  | .bang => .big
  | .at => host
  | .eq => host

/-- a storage type as `BitBuffer` sees it: `id` stands for the identity of the class object (`self._type != field_type`),
    `size` for its `size` attribute (`none` = variable length), `signed` for how `_read` decodes, `bytes` for a `_read`
    that returns `bytes` (char) -/
structure BTy where
  id : Nat
  size : Option Nat
  signed : Bool
  bytes : Bool
  deriving DecidableEq, Repr

/-- a `BytesIO`: content and position -/
structure Stream where
  data : Bytes
  pos : Nat
  deriving DecidableEq, Repr

/-- the position after a `read(n)` that came back short: what was left has been handed out (a position behind the end
    stays where it is) -/
def Stream.afterShort (s : Stream) (n : Nat) : Stream := { s with pos := s.pos + (sread s.data s.pos n).length }

/-- `stream.write(bs)`: overwrites at the position and extends the content (zero filled when the position lies behind
    the end); writing `b""` changes nothing -/
def Stream.write (s : Stream) (bs : Bytes) : Stream :=
  if bs.isEmpty then s else
  { data := s.data.take s.pos ++ List.replicate (s.pos - s.data.length) 0 ++ bs ++ s.data.drop (s.pos + bs.length),
    pos := s.pos + bs.length }

/-- the object. `remaining` is an `Int`: a straddling little-endian write drives `_remaining` below zero -/
structure BB where
  ty : Option BTy
  buffer : Int
  remaining : Int
  endian : Endian
  stream : Stream
  deriving DecidableEq, Repr

/-- `BitBuffer(stream, endian)` on a host with byte order `host` -/
def BB.init (host : Endian) (code : EndianCode) (s : Stream) : BB :=
  { ty := none, buffer := 0, remaining := 0, endian := normEndian host code, stream := s }

/-- `_type = None; _buffer = 0; _remaining = 0` -/
def BB.cleared (bb : BB) : BB := { bb with ty := none, buffer := 0, remaining := 0 }

/-- result of a method: the new object and the return value, or the exception class and the object as it is left -/
abbrev R (α : Type) := Except (Err × BB) (BB × α)

/-- the unit as an integer: what `field_type._read` returns, after the `isinstance(self._buffer, bytes)` conversion -/
def unitVal (e : Endian) (t : BTy) (bs : Bytes) : Int :=
  if t.bytes then (decodeNat e bs : Int) else decodeInt e t.signed bs

/-- `reset()` -/
def BB.reset (bb : BB) : R Unit := .ok (bb.cleared, ())

/-- `flush()`: `self._buffer.to_bytes(self._type.size, order)` written to the stream, then the state is cleared; a buffer
    that is negative or too wide raises OverflowError before anything changed -/
def BB.flush (bb : BB) : R Unit :=
  match bb.ty with
  | none => .ok (bb.cleared, ())
  | some t =>
    match t.size with
    | none => .error (.typeErr, bb)            -- `to_bytes(None, ..)`; `_type` is never a variable-length type
    | some n =>
      match encodeInt bb.endian n false bb.buffer with
      | none => .error (.overflow, bb)
      | some bs => .ok ({ bb.cleared with stream := bb.stream.write bs }, ())

/-- `read(field_type, bits)` -/
def BB.read (bb : BB) (t : BTy) (bits : Nat) : R Int :=
  -- `if self._remaining == 0 or self._type != field_type:` load a unit
  let loaded : Except (Err × BB) BB :=
    if bb.remaining = 0 ∨ bb.ty ≠ some t then
      match t.size with
      | none => .error (.value, bb)
      | some n =>
        -- `_type` and `_remaining` are assigned before `_read` gets the chance to raise
        match readExact bb.stream.data bb.stream.pos n with
        | .error e => .error (e, { bb with ty := some t, remaining := n * 8, stream := bb.stream.afterShort n })
        | .ok (bs, p) =>
          .ok { bb with ty := some t, remaining := n * 8, buffer := unitVal bb.endian t bs, stream := { bb.stream with pos := p } }
    else .ok bb
  match loaded with
  | .error e => .error e
  | .ok bb1 =>
    -- `if bits > self._remaining: raise ValueError`
    if (bits : Int) > bb1.remaining then .error (.value, bb1) else
    match BitBuf.take bb1.endian { ty := none, buffer := bb1.buffer, remaining := bb1.remaining.toNat } bits with
    | none => .error (.value, bb1)
    | some (v, b) => .ok ({ bb1 with buffer := b.buffer, remaining := (b.remaining : Int) }, v)

/-- `write(field_type, data, bits)` -/
def BB.write (bb : BB) (t : BTy) (data : Int) (bits : Nat) : R Unit :=
  -- `if self._remaining == 0 or self._type != field_type:` select a unit
  let selected : Except (Err × BB) BB :=
    if bb.remaining = 0 ∨ bb.ty ≠ some t then
      -- `if self._type: self.flush()`; the truth value of a type class is its `__len__`, i.e. its size
      let flushed : Except (Err × BB) BB :=
        match bb.ty with
        | none => .ok bb
        | some t0 =>
          match t0.size with
          | none => .error (.typeErr, bb)
          | some 0 => .ok bb
          | some _ => bb.flush.map (·.1)
      match flushed with
      | .error e => .error e
      | .ok bb1 =>
        match t.size with
        | none => .error (.value, bb1)
        | some n => .ok { bb1 with ty := some t, remaining := n * 8 }
    else .ok bb
  match selected with
  | .error e => .error e
  | .ok bb2 =>
    -- `if self._type is None or self._type.size is None: raise ValueError("Invalid state")`
    match bb2.ty with
    | none => .error (.value, bb2)
    | some t2 =>
      match t2.size with
      | none => .error (.value, bb2)
      | some n =>
        -- `if not 0 <= data < (1 << bits): raise ValueError`
        if data < 0 ∨ data ≥ shl 1 bits then .error (.value, bb2) else
        -- `data << (size * 8 - remaining)` in little endian, `data << (remaining - bits)` in big endian
        let sh : Int := match bb2.endian with
          | .little => ((n * 8 : Nat) : Int) - bb2.remaining
          | .big => bb2.remaining - (bits : Int)
        if sh < 0 then .error (.value, bb2) else     -- "negative shift count"
        let bb3 : BB := { bb2 with buffer := lor bb2.buffer (shl data sh.toNat), remaining := bb2.remaining - (bits : Int) }
        -- `if self._remaining == 0: self.flush()`
        if bb3.remaining = 0 then bb3.flush else .ok (bb3, ())

/-! ### Operation sequences -/

inductive Op
  | read (t : BTy) (bits : Nat)
  | write (t : BTy) (data : Int) (bits : Nat)
  | flush
  | reset
  deriving DecidableEq, Repr

inductive Res
  | val (v : Int)
  | done
  | err (e : Err)
  deriving DecidableEq, Repr

/-- one method call: the object afterwards and what the caller sees -/
def BB.step (bb : BB) : Op → BB × Res
  | .read t bits => match bb.read t bits with
    | .ok (bb', v) => (bb', .val v)
    | .error (e, bb') => (bb', .err e)
  | .write t data bits => match bb.write t data bits with
    | .ok (bb', _) => (bb', .done)
    | .error (e, bb') => (bb', .err e)
  | .flush => match bb.flush with
    | .ok (bb', _) => (bb', .done)
    | .error (e, bb') => (bb', .err e)
  | .reset => match bb.reset with
    | .ok (bb', _) => (bb', .done)
    | .error (e, bb') => (bb', .err e)

/-- the object and the result after every call of a sequence -/
def BB.trace : BB → List Op → List (BB × Res)
  | _, [] => []
  | bb, op :: r => let s := bb.step op; s :: BB.trace s.1 r

end Cstruct.BBuf
